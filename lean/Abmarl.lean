import Abmarl.Model.Wire
import Abmarl.Model.Managers
import Abmarl.Model.StubSim
import Abmarl.Spec.Managers
import Abmarl.Model.MgrDriver
import Abmarl.Model.Oracle
import Abmarl.Model.Grid
import Abmarl.Model.Movers
import Abmarl.Model.GridWire
import Abmarl.Model.GridDriver
import Abmarl.Model.Trainer
import Abmarl.Spec.Trainer
import Abmarl.Model.TrainerDriver
import Abmarl.Spec.Grid
import Abmarl.Lemmas.ListAux
import Abmarl.Lemmas.Managers
import Abmarl.Lemmas.ManagersInv
import Abmarl.Lemmas.Grid
import Abmarl.Lemmas.GridWrites
import Abmarl.Lemmas.Movers
import Abmarl.Lemmas.GridInv
import Abmarl.Lemmas.Trainer
import Abmarl.Props.C01
import Abmarl.Props.C07
import Abmarl.Props.C12
import Abmarl.Props.C16
import Abmarl.Model.Builders
import Abmarl.Spec.Builders
import Abmarl.Model.BuildersDriver
import Abmarl.Lemmas.Builders
import Abmarl.Lemmas.BuildersText
import Abmarl.Lemmas.BuildersGrid
import Abmarl.Props.C18
import Abmarl.Model.Mask
import Abmarl.Spec.Mask
import Abmarl.Model.MaskDriver
import Abmarl.Lemmas.Mask
import Abmarl.Props.C10
import Abmarl.Model.Adapters
import Abmarl.Spec.Adapters
import Abmarl.Model.AdaptersDriver
import Abmarl.Lemmas.Adapters
import Abmarl.Lemmas.AdaptersX
import Abmarl.Props.C15
import Abmarl.Model.TwinDriver
import Abmarl.Props.C08
import Abmarl.Model.Config
import Abmarl.Spec.Config
import Abmarl.Model.ConfigDriver
import Abmarl.Lemmas.ConfigOverlap
import Abmarl.Lemmas.ConfigBox
import Abmarl.Lemmas.ConfigAttr
import Abmarl.Lemmas.ConfigAttrSpec
import Abmarl.Props.C19
import Abmarl.Model.Observers
import Abmarl.Spec.Observers
import Abmarl.Model.ObserversDriver
import Abmarl.Lemmas.Observers
import Abmarl.Lemmas.ObserversViews
import Abmarl.Props.C09
import Abmarl.Model.Done
import Abmarl.Model.Smart
import Abmarl.Spec.Done
import Abmarl.Model.DoneDriver
import Abmarl.Lemmas.Done
import Abmarl.Lemmas.Dict
import Abmarl.Lemmas.DoneSmart
import Abmarl.Lemmas.DoneTrace
import Abmarl.Props.C17
import Abmarl.Model.Maze
import Abmarl.Model.Placement
import Abmarl.Model.PlacementDriver
import Abmarl.Spec.Placement
import Abmarl.Lemmas.PlacementInv
import Abmarl.Lemmas.PlacementLoop
import Abmarl.Lemmas.Maze
import Abmarl.Lemmas.PlacementSpec
import Abmarl.Props.C13
import Abmarl.Model.Spaces
import Abmarl.Spec.Spaces
import Abmarl.Model.SpacesDriver
import Abmarl.Lemmas.Ravel
import Abmarl.Lemmas.Flatten
import Abmarl.Props.C04
import Abmarl.Props.C05
import Abmarl.Model.Attacks
import Abmarl.Spec.Attacks
import Abmarl.Model.AttacksDriver
import Abmarl.Lemmas.AttacksBook
import Abmarl.Lemmas.AttacksSel
import Abmarl.Lemmas.AttacksMain
import Abmarl.Props.C11
import Abmarl.Model.SuperAgent
import Abmarl.Spec.SuperAgent
import Abmarl.Model.SuperDriver
import Abmarl.Lemmas.SuperAgent
import Abmarl.Lemmas.SuperAgentInv
import Abmarl.Lemmas.SuperAgentLawful
import Abmarl.Props.C14
import Abmarl.Model.Comm
import Abmarl.Spec.Comm
import Abmarl.Model.CommDriver
import Abmarl.Lemmas.Comm
import Abmarl.Props.C20
import Abmarl.Model.Vitals
import Abmarl.Model.Resets
import Abmarl.Model.GridSim
import Abmarl.Spec.GridSim
import Abmarl.Model.GridSimDriver
import Abmarl.Lemmas.Vitals
import Abmarl.Props.C03Base
import Abmarl.Props.C03
import Abmarl.Props.C08Base
import Abmarl.Model.Wrappers
import Abmarl.Spec.Wrappers
import Abmarl.Model.WrappersDriver
import Abmarl.Lemmas.Wrappers
import Abmarl.Lemmas.WrappersExcl
import Abmarl.Props.C06
import Abmarl.Lemmas.ResetForgetsBase
import Abmarl.Lemmas.ResetForgetsComps
import Abmarl.Props.C08Grid
import Abmarl.Spec.Membership
import Abmarl.Model.MemberDriver
import Abmarl.Lemmas.C02
import Abmarl.Lemmas.C02Wrap
import Abmarl.Props.C02
import Abmarl.Model.Examples
import Abmarl.Spec.Examples
import Abmarl.Model.ExamplesDriver
import Abmarl.Lemmas.Hist
import Abmarl.Lemmas.ExamplesLawful
import Abmarl.Lemmas.ExamplesStep
import Abmarl.Lemmas.ExamplesHist
import Abmarl.Lemmas.ExamplesObs
import Abmarl.Lemmas.ExamplesKept
import Abmarl.Lemmas.ExamplesNoRaise
import Abmarl.Lemmas.ExamplesJudge
import Abmarl.Props.Examples
import Abmarl.Model.Corridor
import Abmarl.Spec.Corridor
import Abmarl.Model.CorridorDriver
import Abmarl.Lemmas.Corridor
import Abmarl.Props.Corridor
import Abmarl.Model.MultiGrid
import Abmarl.Spec.MultiGrid
import Abmarl.Model.MultiGridDriver
import Abmarl.Lemmas.MultiGrid
import Abmarl.Lemmas.Oracle
import Abmarl.Props.MultiGrid
import Abmarl.Model.Reach
import Abmarl.Spec.Reach
import Abmarl.Model.ReachDriver
import Abmarl.Model.Broadcast
import Abmarl.Spec.Broadcast
import Abmarl.Model.BroadcastDriver
import Abmarl.Lemmas.Broadcast
import Abmarl.Lemmas.BroadcastDeliv
import Abmarl.Lemmas.Reach
import Abmarl.Lemmas.ReachHist
import Abmarl.Props.Reach
import Abmarl.Model.Pacman
import Abmarl.Spec.Pacman
import Abmarl.Model.PacmanDriver
import Abmarl.Lemmas.Pacman
import Abmarl.Lemmas.PacmanFloat
import Abmarl.Lemmas.PacmanStep
import Abmarl.Props.Pacman
import Abmarl.Props.Broadcast
import Abmarl.Props.PacmanHist
import Abmarl.Props.BroadcastHist
import Abmarl.Props.PacmanGrid
