import Abmarl.Props.C06
#print axioms Abmarl.sar_commutes
#print axioms Abmarl.sar_commutes_every_history
#print axioms Abmarl.sar_inner_steps
#print axioms Abmarl.sar_obs
#print axioms Abmarl.sarSim_commutes
#print axioms Abmarl.C06_wrapped_lawful
#print axioms Abmarl.C06_wrapped_WF
#print axioms Abmarl.C06_wrapped_resetForgets
#print axioms Abmarl.C06_managers_over_wrapped
#print axioms Abmarl.C06_fresh_twin_over_wrapped
#print axioms Abmarl.ravel_dec_ok
#print axioms Abmarl.ravel_commutes
#print axioms Abmarl.ravel_obs_mem
#print axioms Abmarl.flat_member_length
#print axioms Abmarl.flatten_commutes
#print axioms Abmarl.flattenAction_commutes
#print axioms Abmarl.flatten_obs_mem
#print axioms Abmarl.unflatten_total
#print axioms Abmarl.exclDims_formula
#print axioms Abmarl.exclusive_decode
#print axioms Abmarl.exclusive_encode
#print axioms Abmarl.exclusive_decode_injective
#print axioms Abmarl.exclusive_bijection
#print axioms Abmarl.actorWrapper_commutes
#print axioms Abmarl.actorWrapper_unsupported
#print axioms Abmarl.ravelActor_commutes
#print axioms Abmarl.exclusiveActor_commutes
#print axioms Abmarl.ravelActor_cross
#print axioms Abmarl.ravelActor_drift
#print axioms Abmarl.ravelActor_move
#print axioms Abmarl.unwrapped_innermost
#print axioms Abmarl.C06_specUnwrapped_model
#print axioms Abmarl.specUnwrapped_reading
#print axioms Abmarl.commuteEntry_reading
#print axioms Abmarl.specCommute_reading
#print axioms Abmarl.C06_specCommute_model
#print axioms Abmarl.predictW_spec
#print axioms Abmarl.spaceStub_lawful
#print axioms Abmarl.spaceStub_forgets
#print axioms Abmarl.C06_stub_ravel
#print axioms Abmarl.C06_stub_flatten
#print axioms Abmarl.specExclusive_reading
#print axioms Abmarl.C06_specExclusive_model
#print axioms Abmarl.C06_specExclEnc_model
#print axioms Abmarl.C06_specExclDims_model
#print axioms Abmarl.C06_specActor_model
