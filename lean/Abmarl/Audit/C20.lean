import Abmarl.Props.C20
#print axioms Abmarl.C20_trace
#print axioms Abmarl.buffer_iff
#print axioms Abmarl.buffer_after_step
#print axioms Abmarl.fuse_iff
#print axioms Abmarl.fuse_kept_when_idle
#print axioms Abmarl.fuse_false_before_first_action
#print axioms Abmarl.cleared_each_step_and_reset
#print axioms Abmarl.inner_gets_original_actions
#print axioms Abmarl.comm_spaces_mem
#print axioms Abmarl.augAct_wf
#print axioms Abmarl.matrices_after_history
#print axioms Abmarl.commOp_sound
#print axioms Abmarl.c20Loop_sound
#print axioms Abmarl.comm_lawful
#print axioms Abmarl.comm_WF
#print axioms Abmarl.C01_applies_to_comm
#print axioms Abmarl.expBuffer_iff
#print axioms Abmarl.expFuse_iff
#print axioms Abmarl.expRow_lookup
#print axioms Abmarl.expRow_keys
#print axioms Abmarl.c20Loop_at
#print axioms Abmarl.c20_matrices
#print axioms Abmarl.c20_reset_clears
#print axioms Abmarl.c20_step_inner_args
#print axioms Abmarl.c20_obs
#print axioms Abmarl.stubComm_lawful
#print axioms Abmarl.C20_stub
#print axioms Abmarl.C01_comm_stub
