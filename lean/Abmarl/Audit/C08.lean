import Abmarl.Props.C08
import Abmarl.Props.Examples
import Abmarl.Props.Corridor
import Abmarl.Props.MultiGrid
import Abmarl.Props.Reach
import Abmarl.Props.Pacman
import Abmarl.Props.Broadcast
#print axioms Abmarl.fresh_twin_managers
#print axioms Abmarl.mgr_reset_forgets
#print axioms Abmarl.runOp_reset_eq
#print axioms Abmarl.fresh_twin_openspiel
#print axioms Abmarl.os_reset_eq
#print axioms Abmarl.gymabs_reset_forgets
#print axioms Abmarl.gymabs_reset_clears
#print axioms Abmarl.stubFlat_forgets
#print axioms Abmarl.C08_grid_reset_fresh
#print axioms Abmarl.applyComps_decl
#print axioms Abmarl.C03_reset_establishes
#print axioms Abmarl.grid_reset_forgets
#print axioms Abmarl.grid_reset_forgets_covers
#print axioms Abmarl.grid_fresh_twin
#print axioms Abmarl.grid_fresh_twin_covers
#print axioms Abmarl.grid_fresh_twin_run
#print axioms Abmarl.examples_reset_forgets
#print axioms Abmarl.examples_fresh_twin
#print axioms Abmarl.Ex.comps_reset_forgets
#print axioms Abmarl.runOps_reset_eq_of
#print axioms Abmarl.examples_fresh_twin_reachable
#print axioms Abmarl.examples_used_sameBut_fresh
#print axioms Abmarl.examples_reach_keeps
#print axioms Abmarl.Ex.applyComps_keeps
#print axioms Abmarl.Ex.CompCall.keeps
#print axioms Abmarl.corridor_reset_forgets
#print axioms Abmarl.corridor_reset_fresh
#print axioms Abmarl.corridor_fresh_twin
#print axioms Abmarl.Cor.reset_inv
#print axioms Abmarl.multigrid_reset_forgets
#print axioms Abmarl.multigrid_fresh_twin
#print axioms Abmarl.multigrid_used_sameBut_fresh
#print axioms Abmarl.multigrid_reach_keeps
#print axioms Abmarl.multigrid_fresh_twin_reachable
#print axioms Abmarl.reach_reset_establishes
#print axioms Abmarl.reach_reset_forgets
#print axioms Abmarl.reach_fresh_twin
#print axioms Abmarl.pacman_reset_establishes
#print axioms Abmarl.pacman_reset_forgets
#print axioms Abmarl.pacman_fresh_twin
#print axioms Abmarl.broadcast_reset_forgets
#print axioms Abmarl.broadcast_fresh_twin
