import Abmarl.Props.C03
import Abmarl.Props.Examples
import Abmarl.Props.Corridor
import Abmarl.Props.MultiGrid
import Abmarl.Props.Reach
import Abmarl.Props.Pacman
import Abmarl.Props.Broadcast
import Abmarl.Props.PacmanHist
#print axioms Abmarl.C03_reachable
#print axioms Abmarl.C03_every_step
#print axioms Abmarl.C03_hist
#print axioms Abmarl.C03_place
#print axioms Abmarl.histPre_iff
#print axioms Abmarl.fullResetb_iff
#print axioms Abmarl.cfgOKb_iff
#print axioms Abmarl.noAmmoCb_iff
#print axioms Abmarl.runGOp_noRaise
#print axioms Abmarl.specHist_from
#print axioms Abmarl.specC03Hist_worlds
#print axioms Abmarl.placement_clauses
#print axioms Abmarl.WInvWeak_of_WInv
#print axioms Abmarl.C03_moves_preserve
#print axioms Abmarl.C03_reset_establishes
#print axioms Abmarl.applyComps_spec
#print axioms Abmarl.applyComp_spec
#print axioms Abmarl.WInv_of_clauses
#print axioms Abmarl.runGOp_step
#print axioms Abmarl.runGOps_inv
#print axioms Abmarl.move_sframe
#print axioms Abmarl.C03_attacks
#print axioms Abmarl.attack_preserves_WInv_any
#print axioms Abmarl.successive_attacks
#print axioms Abmarl.World.move_preserves_WInv
#print axioms Abmarl.examples_step_is_history
#print axioms Abmarl.examples_reachable_WInv
#print axioms Abmarl.examples_simIface_reachable
#print axioms Abmarl.Ex.stepPS_hist
#print axioms Abmarl.Ex.reset_establishes
#print axioms Abmarl.Ex.runOp_live
#print axioms Abmarl.Ex.runOps_live
#print axioms Abmarl.examples_hist
#print axioms Abmarl.Ex.specFrom_model
#print axioms Abmarl.corridor_reachable_inv
#print axioms Abmarl.corridor_inv_reading
#print axioms Abmarl.corridor_hist
#print axioms Abmarl.multigrid_reachable_WInv
#print axioms Abmarl.multigrid_simIface_reachable
#print axioms Abmarl.multigrid_hist
#print axioms Abmarl.MAG.reset_good
#print axioms Abmarl.reach_reset_establishes
#print axioms Abmarl.RT.takeOff_weak
#print axioms Abmarl.RT.moveAct_weak
#print axioms Abmarl.reach_reachable_WInvWeak
#print axioms Abmarl.reach_simIface_reachable
#print axioms Abmarl.RT.processAttack_weak
#print axioms Abmarl.RT.compsKeepWeak
#print axioms Abmarl.World.hitStep_inv
#print axioms Abmarl.World.InvV.takeOut
#print axioms Abmarl.World.InvV.setSt
#print axioms Abmarl.reach_inactive_positions_in_grid
#print axioms Abmarl.RT.step_goodH
#print axioms Abmarl.RT.runOps_goodH
#print axioms Abmarl.reach_simIface_goodH
#print axioms Abmarl.pacman_reset_establishes
#print axioms Abmarl.pacman_reachable_inv
#print axioms Abmarl.pacman_reset_after_anything
#print axioms Abmarl.pacman_simIface_reachable
#print axioms Abmarl.PM.step_vsame
#print axioms Abmarl.pacman_refused_teleport_witness
#print axioms Abmarl.C03_moves_any
#print axioms Abmarl.broadcast_reachable_inv
#print axioms Abmarl.broadcast_messages_in_unit
#print axioms Abmarl.pacman_reachable_WInvFloat
#print axioms Abmarl.pacman_simIface_WInvFloat
#print axioms Abmarl.PM.step_float
#print axioms Abmarl.PM.prim_cinv
#print axioms Abmarl.PM.prim_driftAct
#print axioms Abmarl.PM.prim_teleTo
#print axioms Abmarl.pacman_reachable_positions_in_grid
#print axioms Abmarl.pacman_step_keeps_WInv
#print axioms Abmarl.PM.step_of_stepPre
#print axioms Abmarl.PM.driftAct_mid
#print axioms Abmarl.PM.tele_mid
#print axioms Abmarl.PM.WInv_iff_sound
#print axioms Abmarl.pacman_hist
