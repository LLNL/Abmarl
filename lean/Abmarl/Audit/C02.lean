import Abmarl.Props.C02
import Abmarl.Props.Examples
import Abmarl.Props.Corridor
import Abmarl.Props.MultiGrid
import Abmarl.Props.Reach
import Abmarl.Props.Pacman
import Abmarl.Props.Broadcast
import Abmarl.Props.PacmanHist
import Abmarl.Props.PacmanGrid
import Abmarl.Props.BroadcastHist
#print axioms Abmarl.C02_grid_observations
#print axioms Abmarl.C02_grid_actions
#print axioms Abmarl.C02_null_observations
#print axioms Abmarl.C02_null_actions
#print axioms Abmarl.C02_null_actions_processed
#print axioms Abmarl.C02_ravel_layer
#print axioms Abmarl.C02_flatten_layer
#print axioms Abmarl.C02_comm_layer
#print axioms Abmarl.C02_comm_model
#print axioms Abmarl.C02_super_layer
#print axioms Abmarl.C02_super_model
#print axioms Abmarl.C02_stack
#print axioms Abmarl.C02_layers_sound
#print axioms Abmarl.C02_stack_ravel_comm
#print axioms Abmarl.C02_stack_comm_flatten
#print axioms Abmarl.declared_grid_reading
#print axioms Abmarl.declared_vec_scalar_reading
#print axioms Abmarl.reachable_inv
#print axioms Abmarl.reachable_snoc
#print axioms Abmarl.runGOps_append
#print axioms Abmarl.Observers.getObs_declared
#print axioms Abmarl.Observers.nullObs_declared
#print axioms Abmarl.nullMove_inSpace
#print axioms Abmarl.nullAttack_inSpace
#print axioms Abmarl.toSpace_mem
#print axioms Abmarl.ravel_sound
#print axioms Abmarl.flatten_sound
#print axioms Abmarl.comm_sound
#print axioms Abmarl.superPt_mem
#print axioms Abmarl.supObsLoop_mem
#print axioms Abmarl.stack_sound
#print axioms Abmarl.examples_observations_in_space
#print axioms Abmarl.examples_reachable_WInv
#print axioms Abmarl.examples_step_is_history
#print axioms Abmarl.examples_hist
#print axioms Abmarl.examples_step_noRaise
#print axioms Abmarl.Ex.step_ok
#print axioms Abmarl.Ex.exPre_hyps
#print axioms Abmarl.corridor_observations_in_space
#print axioms Abmarl.corridor_step_noRaise
#print axioms Abmarl.corridor_done_agent_right_raises
#print axioms Abmarl.corridor_reachable_inv
#print axioms Abmarl.corridor_simIface_reachable
#print axioms Abmarl.corridor_inv_reading
#print axioms Abmarl.corridor_hist
#print axioms Abmarl.Cor.step1_inv
#print axioms Abmarl.Cor.stepLoop_ok
#print axioms Abmarl.multigrid_observation_in_space
#print axioms Abmarl.multigrid_step_noRaise
#print axioms Abmarl.multigrid_hist
#print axioms Abmarl.reach_R1_witness_processed
#print axioms Abmarl.reach_R2_witness_processed
#print axioms Abmarl.reach_observations_in_space
#print axioms Abmarl.RT.getObs_in_space_weak
#print axioms Abmarl.RT.heal_WInv
#print axioms Abmarl.reach_reachable_WInvWeak
#print axioms Abmarl.reach_step_noRaise_WInv
#print axioms Abmarl.reach_first_step_noRaise
#print axioms Abmarl.RT.move1_ok
#print axioms Abmarl.RT.attack1_eq
#print axioms Abmarl.reach_stepMustNotRaise_returns
#print axioms Abmarl.reach_step_error_outside
#print axioms Abmarl.reach_step_noRaise
#print axioms Abmarl.RT.processAttack_ok_weak
#print axioms Abmarl.RT.processAttack_heal
#print axioms Abmarl.RT.stepPS_ok_weak
#print axioms Abmarl.reach_observations_in_space_all
#print axioms Abmarl.reach_inactive_positions_in_grid
#print axioms Abmarl.reach_hist
#print axioms Abmarl.RT.specFrom_model
#print axioms Abmarl.RT.judge1_model
#print axioms Abmarl.reach_simIface_step_returns
#print axioms Abmarl.reach_getters_total
#print axioms Abmarl.pacman_reachable_inv
#print axioms Abmarl.pacman_teleport_outside_grid_raises
#print axioms Abmarl.pacman_refused_teleport_witness
#print axioms Abmarl.pacman_allDone_ignores_eaten_food
#print axioms Abmarl.pacmansimple_few_baddies_raises
#print axioms Abmarl.PM.step_vsame
#print axioms Abmarl.broadcast_observations_in_space
#print axioms Abmarl.broadcast_obs_reads_and_resets
#print axioms Abmarl.broadcast_cfgHyp_needed
#print axioms Abmarl.broadcast_step_noRaise
#print axioms Abmarl.broadcast_delivery_partial
#print axioms Abmarl.broadcast_delivery_complete
#print axioms Abmarl.broadcast_delivery
#print axioms Abmarl.broadcast_delivery_step
#print axioms Abmarl.broadcast_hist_step_partial
#print axioms Abmarl.broadcast_hist
#print axioms Abmarl.broadcast_hist_tape
#print axioms Abmarl.BC.judge1_model
#print axioms Abmarl.BC.specFrom_model
#print axioms Abmarl.pacman_observations_in_space
#print axioms Abmarl.pacman_reachable_positions_in_grid
#print axioms Abmarl.PM.getObs_float
#print axioms Abmarl.pacman_step_noRaise
#print axioms Abmarl.pacman_step_keeps_WInv
#print axioms Abmarl.PM.stepR_done
#print axioms Abmarl.pacman_hist
#print axioms Abmarl.PM.judge1_model
#print axioms Abmarl.PM.specFrom_model
#print axioms Abmarl.PM.step_keys
#print axioms Abmarl.PM.step_count
#print axioms Abmarl.pacman_example_grid_cfgWF_teleSafe
#print axioms Abmarl.pacman_example_grid_first_step
#print axioms Abmarl.exGrid_WInv
