import Abmarl.Props.C12
#print axioms Abmarl.C12_moves
#print axioms Abmarl.c12_move_succeeds_iff
#print axioms Abmarl.c12_move_effect
#print axioms Abmarl.c12_cross_table
#print axioms Abmarl.placed_of_WInv
#print axioms Abmarl.C12_moves_judge
#print axioms Abmarl.C12_inactive_mover
#print axioms Abmarl.C12_inactive_mover_any
#print axioms Abmarl.C12_moves_any
#print axioms Abmarl.inactive_mover_outcome
#print axioms Abmarl.inactive_move_outcome
#print axioms Abmarl.inactive_cross_outcome
#print axioms Abmarl.inactive_cross_outside
#print axioms Abmarl.inactive_drift_outcome
#print axioms Abmarl.orient_in_table
#print axioms Abmarl.World.not_mem_cell_of_inactive
#print axioms Abmarl.World.remove_inactive
#print axioms Abmarl.World.moveBy_inactive
#print axioms Abmarl.World.moveAct_inactive
#print axioms Abmarl.World.crossAct_inactive
