import Abmarl.Lemmas.Ravel
/-!
# C04 — Ravelling is a bijection between a space and Discrete(n)

The model is `Model/Spaces.lean` (`ravel`, `unravel`, `ravelSpace`, `checkSpace`, `card`, `mem`
written after `ravel_discrete_wrapper.py`), the decidable specifications are `specRavel`,
`specUnravel`, `specRavelSpace`, `specCheckSpace` in `Spec/Spaces.lean`, the proofs are in
`Lemmas/Ravel.lean`.

Every theorem is for **every** space `s` with `WF04 s` — any nesting depth, any number of
children, any bounds, any (sorted) key list — and **every** member `p` of it / **every**
`k < card s`.  `WF04` excludes `Discrete(start ≠ 0)` (finding K1), integer Boxes that are not
of dtype `int` (finding K5), float and unbounded Boxes, spaces without cells or children, and `2^63`
points or more.  The last
clause is read by no proof (the model's integers are unbounded): it only delimits the domain on
which the model is compared with numpy, whose `int64` product wraps (finding K3).
-/
namespace Abmarl

/-- ravelling a member gives a number in `0..n-1`, `n` the number of points -/
theorem C04_ravel_lt (s : Space) (p : Pt) (hW : WF04 s = true) (hm : mem s p = true) :
    ∃ k : Nat, ravel s p = some (k : Int) ∧ k < card s :=
  let ⟨k, h1, h2, _⟩ := (ravel_codec (WF04_wf hW)).fwd p hm; ⟨k, h1, h2⟩

/-- unravelling is a left inverse of ravelling on the space -/
theorem C04_unravel_ravel (s : Space) (p : Pt) (hW : WF04 s = true) (hm : mem s p = true) :
    ∃ k : Nat, ravel s p = some (k : Int) ∧ unravel s k = some p :=
  let ⟨k, h1, _, h3⟩ := (ravel_codec (WF04_wf hW)).fwd p hm; ⟨k, h1, h3⟩

/-- unravelling any `k < n` yields a member of the space, and ravelling it gives `k` back -/
theorem C04_ravel_unravel (s : Space) (k : Nat) (hW : WF04 s = true) (hk : k < card s) :
    ∃ p, unravel s k = some p ∧ mem s p = true ∧ ravel s p = some (k : Int) :=
  (ravel_codec (WF04_wf hW)).bwd k hk

/-- one-to-one: two members with the same ravelled number are the same point -/
theorem C04_ravel_injective (s : Space) (p q : Pt) (hW : WF04 s = true)
    (hp : mem s p = true) (hq : mem s q = true) (h : ravel s p = ravel s q) : p = q :=
  (ravel_codec (WF04_wf hW)).enc_inj hp hq h

/-- onto: every number in `0..n-1` is the ravelled value of a member -/
theorem C04_ravel_surjective (s : Space) (k : Nat) (hW : WF04 s = true) (hk : k < card s) :
    ∃ p, mem s p = true ∧ ravel s p = some (k : Int) :=
  let ⟨p, _, h2, h3⟩ := (ravel_codec (WF04_wf hW)).bwd k hk; ⟨p, h2, h3⟩

/-- `card s` *is* the number of points: the members of the space are in bijection with
`Fin (card s)` (the bijection is `ravel`) -/
theorem C04_card_counts_points (s : Space) (hW : WF04 s = true) :
    ∃ f : {p : Pt // mem s p = true} → Fin (card s),
      (∀ a b, f a = f b → a = b) ∧ (∀ y, ∃ a, f a = y) ∧ ∀ a, ravel s a.1 = some ((f a).1 : Int) := by
  obtain ⟨f, g, hgf, hfg, he, _⟩ := (ravel_codec (WF04_wf hW)).equiv
  exact ⟨f, fun a b hab => by rw [← hgf a, hab, hgf], fun y => ⟨g y, hfg y⟩, he⟩

/-- the ravelled space is `Discrete(n)` with `n` the number of points -/
theorem C04_ravelSpace_card (s : Space) (hW : WF04 s = true) :
    ravelSpace s = some (.discrete (card s) 0) := by
  rw [ravelSpace, if_pos (ravel_ok s (WF04_wf hW)).pos]

/-- the dimension `_ravel_helper` recomputes on the way agrees with `_nested_dim_helper` -/
theorem C04_ravelH_dim (s : Space) (p : Pt) (hW : WF04 s = true) (hm : mem s p = true) :
    ∃ v, ravelH s p = some (v, card s) :=
  let ⟨_, h1, _⟩ := (ravel_ok s (WF04_wf hW)).fwd p hm; ⟨_, h1⟩

/-- the admission predicate accepts exactly the supported spaces -/
theorem C04_checkSpace_iff (s : Space) : checkSpace s = true ↔ supported s = true := by
  rw [checkSpace_eq_supported]

/-- in particular every space the theorems are about -/
theorem C04_checkSpace_of_WF (s : Space) (hW : WF04 s = true) : checkSpace s = true := by
  rw [checkSpace_eq_supported]
  exact wf_supported s (WF04_wf hW)

/-! ## What the specifications say (readings of the decidable predicates) -/

theorem specRavel_reading (s : Space) (p : Pt) (out : Option Int) :
    specRavel s p out = true ↔
      ∃ k : Nat, out = some (k : Int) ∧ k < card s ∧ unravel s k = some p := by
  rcases out with _ | v
  · simp [specRavel]
  · simp only [specRavel, Bool.and_eq_true, decide_eq_true_eq, beq_iff_eq, Option.some.injEq, and_assoc]
    constructor
    · rintro ⟨h0, h⟩
      exact ⟨v.toNat, (Int.toNat_of_nonneg h0).symm, h⟩
    · rintro ⟨k, rfl, h⟩
      exact ⟨Int.natCast_nonneg k, h⟩

/-- the `true` of the outcome is gymnasium's own answer to `q in space` -/
theorem specUnravel_reading (s : Space) (k : Nat) (out : Option (Pt × Bool)) :
    specUnravel s k out = true ↔
      ∃ q, out = some (q, true) ∧ mem s q = true ∧ ravel s q = some (k : Int) := by
  rcases out with _ | ⟨q, b⟩
  · simp [specUnravel]
  · simp only [specUnravel, Bool.and_eq_true, beq_iff_eq, Option.some.injEq, Prod.mk.injEq, and_assoc,
      exists_eq_left', Int.ofNat_eq_natCast]

theorem specRavelSpace_reading (s : Space) (out : Option (Nat × Int)) :
    specRavelSpace s out = true ↔ out = some (card s, 0) := by
  cases out with
  | none => simp [specRavelSpace]
  | some ns =>
    obtain ⟨n, st⟩ := ns
    simp [specRavelSpace]

theorem specCheckSpace_reading (s : Space) (out : Option Bool) :
    specCheckSpace s out = true ↔ out = some (supported s) := by
  cases out with
  | none => simp [specCheckSpace]
  | some b => simp [specCheckSpace]

/-! ## The model's outcome satisfies each specification (what the driver self-tests) -/

theorem C04_specRavel (s : Space) (p : Pt) (hW : WF04 s = true) (hm : mem s p = true) :
    specRavel s p (outRavel s p) = true :=
  (specRavel_reading s p _).mpr ((ravel_codec (WF04_wf hW)).fwd p hm)

theorem C04_specUnravel (s : Space) (k : Nat) (hW : WF04 s = true) (hk : k < card s) :
    specUnravel s k (outUnravel s k) = true := by
  obtain ⟨p, h1, h2, h3⟩ := (ravel_codec (WF04_wf hW)).bwd k hk
  exact (specUnravel_reading s k _).mpr ⟨p, by simp only [outUnravel, h1, h2, Option.map_some], h2, h3⟩

theorem C04_specRavelSpace (s : Space) (hW : WF04 s = true) :
    specRavelSpace s (outRavelSpace s) = true :=
  (specRavelSpace_reading s _).mpr (by simp only [outRavelSpace, C04_ravelSpace_card s hW])

theorem C04_specCheckSpace (s : Space) : specCheckSpace s (outCheckSpace s) = true :=
  (specCheckSpace_reading s _).mpr (by simp only [outCheckSpace, checkSpace_eq_supported])

/-! ## Non-vacuity: a nested space with every leaf kind, per-cell bounds, a negative low and a
Dict inside a Tuple meets the hypotheses; one of its 288 points is checked and ravelled by
evaluation, the statement about all 288 numbers is an instance of the theorems. -/

def exSpace04 : Space :=
  .tuple [.discrete 3 0,
          .dict [0, 2] [.multiBinary 2, .box [2, 1] [-1, 0] [1, 1] true],
          .multiDiscrete [2, 2]]

example : WF04 exSpace04 = true := by decide
example : card exSpace04 = 288 := by decide
example : mem exSpace04 (.tuple [.scalar (.int 2), .dict [0, 2] [.arr [.int 1, .int 0], .arr [.int (-1), .int 1]],
    .arr [.int 1, .int 0]]) = true := by decide
example : ravel exSpace04 (.tuple [.scalar (.int 2), .dict [0, 2] [.arr [.int 1, .int 0], .arr [.int (-1), .int 1]],
    .arr [.int 1, .int 0]]) = some 246 := by decide
example : (List.range (card exSpace04)).all (fun k => specUnravel exSpace04 k (outUnravel exSpace04 k) &&
    (match unravel exSpace04 k with
     | some p => specRavel exSpace04 p (outRavel exSpace04 p)
     | none => false)) = true := by
  have hW : WF04 exSpace04 = true := by decide
  rw [List.all_eq_true]
  intro k hk
  have hk := List.mem_range.mp hk
  obtain ⟨p, h1, h2, _⟩ := C04_ravel_unravel exSpace04 k hW hk
  rw [C04_specUnravel _ k hW hk, h1]
  exact C04_specRavel _ p hW h2
/-- the excluded spaces really are excluded, and the specification really fails there:
K1 `Discrete(3, start=1)`: the point 3 is ravelled to 3, which is not below 3 -/
example : WF04 (.discrete 3 1) = false ∧ mem (.discrete 3 1) (.scalar (.int 3)) = true ∧
    specRavel (.discrete 3 1) (.scalar (.int 3)) (outRavel (.discrete 3 1) (.scalar (.int 3))) = false := by
  decide
/-- K3 `MultiDiscrete([2^32+1, 2^32])` has more than `2^63` points -/
example : WF04 (.multiDiscrete [2 ^ 32 + 1, 2 ^ 32]) = false ∧ wf (.multiDiscrete [2 ^ 32 + 1, 2 ^ 32]) = true := by
  decide +kernel

end Abmarl
