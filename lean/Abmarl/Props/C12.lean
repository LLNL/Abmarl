import Abmarl.Lemmas.GridInv
/-!
# C12 — Moves succeed exactly when the destination is free, and change only the mover

* `C12_moves` — for **every** world satisfying the consistency invariant `WInv` (C03), every
  active agent and every action of the actor's action space, each of the three move actors
  returns without error and its outcome satisfies the decidable specification `specC12`
  (`specMoveBy` / `specDrift` of `Spec/Grid.lean`).
* `c12_*` — readings: what `specMoveBy` says in Prop form.
* `C12_inactive_mover` — a call made for an agent that is NOT active (judge `specMoveAny`) raises or returns with
  the world unchanged, for every action value; `C12_moves_any` — active or not, for the actions of the action space.
* `inactive_mover_outcome` (`inactive_move_outcome`, `inactive_cross_outcome`, `inactive_drift_outcome`) — which
  of the two it is: `KeyError` exactly when an attempt would have been carried out (`World.wouldMove`).
-/
namespace Abmarl
open World

theorem placed_of_WInv {w : World} {a : Aid} (hI : w.WInv = true) (ha : a < w.n)
    (hact : (w.stOf a).active = true) : Placed w a :=
  ((WInv_iff_InvV w).mp hI).placedAt ha hact

theorem orient_in_table {w : World} {a : Aid} (hI : w.WInv = true) (ha : a < w.n)
    (hor : (w.cfgOf a).hasOrient = true) :
    ∃ d, crossTable ((w.stOf a).orient : Int) = some d ∧ d ≠ (0, 0) := by
  have h := (((WInv_iff_InvV w).mp hI).vit a ha).orient hor
  obtain ⟨d, hd⟩ := crossTable_of_range (x := ((w.stOf a).orient : Int)) (by omega) (by omega)
  exact ⟨d, hd, crossTable_ne_zero (by omega) hd⟩

/-- the judge does not look at the value left in the action dictionary -/
theorem specC12_left (w : World) (c : MoveCall) (r : Except GErr (Option Bool × World)) (l l' : Int) :
    specC12 w c (r.map fun r => ⟨r.1, r.2, l⟩) = specC12 w c (r.map fun r => ⟨r.1, r.2, l'⟩) := by
  cases r <;> cases c <;> rfl

theorem specC12_cross {w : World} {a : Aid} {x : Int} {d : Pos} (hd : crossTable x = some d)
    (r : Except GErr MoveOut) : specC12 w (.cross a x) r = specC12 w (.move a d) r := by
  cases r with
  | error e => rfl
  | ok o => simp only [specC12, hd]; cases o.ret <;> rfl

theorem moveBy_judged {w : World} {a : Aid} (hC : PM.CInv w) (hm : a ∈ w.cell (w.stOf a).pos) (d : Pos) :
    ∃ ok w', w.moveBy a d = .ok (ok, w') ∧ specMoveBy w a d ok w' = true ∧ (ok = false → w' = w) := by
  obtain ⟨ok, w', h, hf⟩ := moveBy_returns hm d
  exact ⟨ok, w', h, (specMoveBy_iff_moveBy hC hm).mpr h, hf⟩

theorem moveAct_spec {w : World} {a : Aid} (hC : PM.CInv w) (hm : a ∈ w.cell (w.stOf a).pos) (d : Pos) :
    specC12 w (.move a d) (runMoveCall w (.move a d)) = true := by
  obtain ⟨ok, w', hm, hs, _⟩ := moveBy_judged hC hm d
  by_cases hmv : (w.cfgOf a).moving = true
  · simp [runMoveCall, moveAct, hmv, hm, specC12, Except.map, hs]
  · simp [runMoveCall, moveAct, hmv, specC12, Except.map]

theorem C12_moves (w : World) (c : MoveCall) (hI : w.WInv = true) (ha : c.agent < w.n)
    (hact : (w.stOf c.agent).active = true) (hsp : c.inSpace w = true) :
    specC12 w c (runMoveCall w c) = true := by
  have hV := (WInv_iff_InvV w).mp hI
  have hC := hV.cinv
  have hst := (hV.placed _ ha hact).2
  cases c with
  | move a d => exact moveAct_spec hC hst d
  | cross a x =>
    simp only [MoveCall.inSpace, Bool.and_eq_true, decide_eq_true_eq] at hsp
    obtain ⟨d, hd⟩ := crossTable_of_range hsp.1 hsp.2
    -- a cross call is the move call of its table offset, but for the value left in the dictionary, which `specC12` does not read
    rw [specC12_cross hd, runMoveCall, crossAct_eq_moveAct hd, specC12_left _ _ _ x 0]
    exact moveAct_spec hC hst d
  | drift a x =>
    simp only [MoveCall.agent] at ha hst
    simp only [MoveCall.inSpace, Bool.and_eq_true, decide_eq_true_eq] at hsp
    cases hsup : ((w.cfgOf a).moving && (w.cfgOf a).hasOrient) with
    | false => simp [runMoveCall, driftAct, hsup, specC12, specDrift, Except.map]
    | true =>
      obtain ⟨hmv, hor⟩ := Bool.and_eq_true _ _ ▸ hsup
      obtain ⟨do_, hdo, _⟩ := orient_in_table hI ha hor
      obtain ⟨d, hd⟩ := crossTable_of_range hsp.1 hsp.2
      -- the attempt along the stored orientation, made from `w`
      obtain ⟨okd, wd, hmd, hsd, _⟩ := moveBy_judged hC hst do_
      by_cases hx0 : x = 0
      · subst hx0
        simp [runMoveCall, driftAct, crossAct, hmv, hor, hmd, specC12, specDrift, Except.map, hdo, hsd,
          show crossTable 0 = some (0, 0) from rfl]
      · obtain ⟨ok, w1, hm, hs, hf⟩ := moveBy_judged hC hst d
        have hfree : w.destFree a d = ok := (specMoveBy_iff.mp hs).1.symm
        have hx0' : (x != 0) = true := by simpa using hx0
        cases ok with
        | true =>
          -- the turn is judged with the old orientation written back: that is the world the first attempt left
          obtain ⟨q, hq⟩ := (moveBy_stOf hm a).2
          have hlen1 : a < w1.st.length := by rw [(moveBy_step hm).sframe.len]; exact hV.lt_st ha
          have hback := setSt_back (w1 := w1) x.toNat (w.stOf a).orient hlen1 (by rw [hq])
          have hnew : ((w1.setSt a { w1.stOf a with orient := x.toNat }).stOf a).orient = x.toNat := by
            rw [stOf_setSt_same _ _ _ hlen1]
          simp [runMoveCall, driftAct, hx0, crossAct, hmv, hor, hd, hm, specC12, specDrift, Except.map, hfree,
            hx0', hnew, hback, hs]
        | false =>
          -- a first attempt that is refused has written nothing
          obtain rfl : w1 = w := hf rfl
          simp [runMoveCall, driftAct, hx0, crossAct, hmv, hor, hd, hm, hmd, specC12, specDrift, Except.map,
            hfree, hdo, hsd]

/-- the judge `specC12` accepts no exception -/
theorem C12_moves_return (w : World) (c : MoveCall) (hI : w.WInv = true) (ha : c.agent < w.n)
    (hact : (w.stOf c.agent).active = true) (hsp : c.inSpace w = true) : ∃ o, runMoveCall w c = .ok o := by
  have h := C12_moves w c hI ha hact hsp
  cases hr : runMoveCall w c with
  | ok o => exact ⟨o, rfl⟩
  | error e =>
    rw [hr] at h
    cases c <;> simp [specC12] at h

/-- a move succeeds **iff** the destination is inside the grid and is either the agent's current
cell or a cell where every occupant may overlap with the mover -/
theorem c12_move_succeeds_iff {w w' : World} {a : Aid} {d : Pos} {ok : Bool}
    (h : specMoveBy w a d ok w' = true) :
    ok = true ↔
      (w.inGrid ((w.stOf a).pos.1 + d.1, (w.stOf a).pos.2 + d.2) = true ∧
        (((w.stOf a).pos.1 + d.1, (w.stOf a).pos.2 + d.2) = (w.stOf a).pos ∨
          ∀ o ∈ w.cell ((w.stOf a).pos.1 + d.1, (w.stOf a).pos.2 + d.2),
            w.pairOK (w.encOf a) (w.encOf o) = true)) := by
  rw [(specMoveBy_iff.mp h).1]
  simp [destFree, List.all_eq_true]

/-- on success the position changes by exactly the requested offset and only the mover's cell
membership changes; on failure nothing changes; no other agent is ever affected -/
theorem c12_move_effect {w w' : World} {a : Aid} {d : Pos} {ok : Bool}
    (h : specMoveBy w a d ok w' = true) :
    (ok = true → (w'.stOf a).pos = ((w.stOf a).pos.1 + d.1, (w.stOf a).pos.2 + d.2)) ∧
    (ok = false → w' = w) ∧
    (∀ b < w.n, b ≠ a → w'.stOf b = w.stOf b) := by
  obtain ⟨_, _, h⟩ := specMoveBy_iff.mp h
  split at h
  · rename_i hc
    exact ⟨fun _ => congrArg AgentSt.pos h.st, fun hok => absurd (hc.1.symm.trans hok) nofun, h.other⟩
  · rename_i hc
    subst h
    exact ⟨fun hok => (Classical.not_not.mp fun hne => hc ⟨hok, hne⟩).symm, fun _ => rfl, fun _ _ _ => rfl⟩

/-- the cross actor's table: 0 stay, 1 left, 2 down, 3 right, 4 up -/
theorem c12_cross_table :
    crossTable 0 = some (0, 0) ∧ crossTable 1 = some (0, -1) ∧ crossTable 2 = some (1, 0) ∧
    crossTable 3 = some (0, 1) ∧ crossTable 4 = some (-1, 0) := ⟨rfl, rfl, rfl, rfl, rfl⟩

/-! ## Non-vacuity: a 2×3 world with a mover next to an agent it may not overlap with -/

def exWorld : World :=
  { rows := 2, cols := 3, overlap := [(1, [1])],
    cells := [[0], [1], [], [], [], [2]],
    cfg := [{ enc := 1, moving := true, moveRange := 2, hasOrient := true }, { enc := 2 }, { enc := 1 }],
    st := [{ pos := (0, 0), orient := 3 }, { pos := (0, 1) }, { pos := (1, 2) }] }

example : exWorld.WInv = true := by decide +kernel
/-- blocked to the right (encoding 2 may not be joined), free downwards; the drift actor asked to go
down turns and advances -/
example :
    (match runMoveCall exWorld (.cross 0 3) with | .ok o => o.ret == some false | _ => false) = true ∧
    (match runMoveCall exWorld (.cross 0 2) with | .ok o => o.ret == some true | _ => false) = true ∧
    (match runMoveCall exWorld (.drift 0 2) with
      | .ok o => o.ret == some true && (o.post.stOf 0).orient == 2 && (o.post.stOf 0).pos == (1, 0)
      | _ => false) = true ∧
    specC12 exWorld (.drift 0 2) (runMoveCall exWorld (.drift 0 2)) = true := by decide +kernel

/-! ### Calls made for any agent: the judge of the driver is `specMoveAny` -/

theorem specMoveAny_active (w : World) (c : MoveCall) (o : Except GErr MoveOut)
    (hact : (w.stOf c.agent).active = true) : specMoveAny w c o = specC12 w c o := by
  simp [specMoveAny, hact]

theorem specC03MoveAny_active (w : World) (c : MoveCall) (o : Except GErr MoveOut)
    (hact : (w.stOf c.agent).active = true) : specC03MoveAny w c o = specC03Move w o := by
  simp [specC03MoveAny, hact]

/-- **C12**, active movers, in the form the driver judges -/
theorem C12_moves_judge (w : World) (c : MoveCall) (hI : w.WInv = true) (ha : c.agent < w.n)
    (hact : (w.stOf c.agent).active = true) (hsp : c.inSpace w = true) :
    specMoveAny w c (runMoveCall w c) = true := by
  rw [specMoveAny_active w c _ hact]; exact C12_moves w c hI ha hact hsp

/-! ### The mover is not active

Under `WInv` an agent that is not active stands in no cell (`World.not_mem_cell_of_inactive`), so the only
operation of a move actor that could change the world - `Grid.remove` followed by `Grid.place` - raises
`KeyError` at its first half (`World.remove_inactive`).  Everything before it only reads. -/

/-- **C12, inactive mover**, without any bound on the agent index and for EVERY action value (inside the
declared action space or not): the call raises, or returns with the world unchanged. -/
theorem C12_inactive_mover_any (w : World) (c : MoveCall) (hI : w.WInv = true)
    (hin : (w.stOf c.agent).active = false) : specMoveAny w c (runMoveCall w c) = true := by
  simp only [specMoveAny, hin, Bool.false_eq_true, if_false]
  cases hr : runMoveCall w c with
  | error e => rfl
  | ok o => exact beq_iff_eq.mpr ((runMoveCall_step hr).eq_of_not_stored (not_mem_cell_of_inactive hI hin _))

/-- **C12, inactive mover**, as the clause the driver judges with `specMoveAny` when the agent of the call is not
active: `C12_inactive_mover_any` with the bound on the agent, which is not used -/
theorem C12_inactive_mover (w : World) (c : MoveCall) (hI : w.WInv = true) (_ha : c.agent < w.n)
    (hin : (w.stOf c.agent).active = false) : specMoveAny w c (runMoveCall w c) = true :=
  C12_inactive_mover_any w c hI hin

/-- **C12 for a call made for any agent**, active or not, in the form the driver judges: for every world
satisfying `WInv`, every agent and every action of the action space the outcome satisfies `specMoveAny`. -/
theorem C12_moves_any (w : World) (c : MoveCall) (hI : w.WInv = true) (ha : c.agent < w.n)
    (hsp : c.inSpace w = true) : specMoveAny w c (runMoveCall w c) = true := by
  cases hact : (w.stOf c.agent).active with
  | true => exact C12_moves_judge w c hI ha hact hsp
  | false => exact C12_inactive_mover w c hI ha hact

/-! ### Which of the two it is (`World.wouldMove`, `World.staysPut`: offsets from the STORED position) -/

/-- `MoveActor`: raises `KeyError` exactly when the move would have been carried out; otherwise answers with
the world it was given (`True` only for the trivial move onto the stored position) -/
theorem inactive_move_outcome (w : World) (a : Aid) (d : Pos) (hI : w.WInv = true)
    (hin : (w.stOf a).active = false) (hmv : (w.cfgOf a).moving = true) :
    runMoveCall w (.move a d) =
      if w.wouldMove a d then .error .keyError else .ok ⟨some (w.staysPut a d), w, 0⟩ := by
  rw [runMoveCall, moveAct_inactive hI hin hmv]
  cases w.wouldMove a d <;> rfl

/-- `CrossMoveActor`, an action of the table -/
theorem inactive_cross_outcome (w : World) (a : Aid) (x : Int) (d : Pos) (hI : w.WInv = true)
    (hin : (w.stOf a).active = false) (hmv : (w.cfgOf a).moving = true) (hd : crossTable x = some d) :
    runMoveCall w (.cross a x) =
      if w.wouldMove a d then .error .keyError else .ok ⟨some (w.staysPut a d), w, x⟩ := by
  simp only [runMoveCall, crossAct_inactive hI hin hmv, hd]
  cases w.wouldMove a d <;> rfl

/-- `CrossMoveActor`, an action outside the table: the assertion of `grid_action` -/
theorem inactive_cross_outside (w : World) (a : Aid) (x : Int) (hI : w.WInv = true)
    (hin : (w.stOf a).active = false) (hmv : (w.cfgOf a).moving = true) (hd : crossTable x = none) :
    runMoveCall w (.cross a x) = .error .assertion := by
  simp only [runMoveCall, crossAct_inactive hI hin hmv, hd]
  rfl

/-- `DriftMoveActor`, stored orientation inside the table (offset `d'`): asked for a new direction `x ≠ 0` the
FIRST attempt (offset of `x`) decides whenever it raises; when it is refused the SECOND attempt (along the
stored orientation) decides; for `x = 0` only the second attempt is made.  A call that returns leaves the
stored orientation in the action dictionary. -/
theorem inactive_drift_outcome (w : World) (a : Aid) (x : Int) (d' : Pos) (hI : w.WInv = true)
    (hin : (w.stOf a).active = false)
    (hsup : ((w.cfgOf a).moving && (w.cfgOf a).hasOrient) = true)
    (ho : crossTable ((w.stOf a).orient : Int) = some d') :
    runMoveCall w (.drift a x) =
      if x ≠ 0 then
        match crossTable x with
        | none => .error .assertion
        | some d =>
          if w.wouldMove a d then .error .keyError
          else if w.wouldMove a d' then .error .keyError
          else .ok ⟨some (w.staysPut a d'), w, ((w.stOf a).orient : Int)⟩
      else if w.wouldMove a d' then .error .keyError
      else .ok ⟨some (w.staysPut a d'), w, ((w.stOf a).orient : Int)⟩ := by
  have hmv : (w.cfgOf a).moving = true := by
    simp only [Bool.and_eq_true] at hsup; exact hsup.1
  simp only [runMoveCall, driftAct, hsup, if_true]
  by_cases hx : x = 0
  · by_cases h2 : w.wouldMove a d' = true <;> simp [hx, h2, Except.map, crossAct_inactive hI hin hmv, ho]
  · cases hd : crossTable x with
    | none => simp [hx, Except.map, crossAct_inactive hI hin hmv, hd]
    | some d =>
      -- a first attempt that is not carried out does not answer `True` (its offset is not `(0, 0)`): the second is made
      have hs : w.staysPut a d = false := staysPut_of_ne (crossTable_ne_zero hx hd)
      by_cases h1 : w.wouldMove a d = true <;> by_cases h2 : w.wouldMove a d' = true <;>
        simp [hx, h1, h2, hs, Except.map, crossAct_inactive hI hin hmv, ho, hd]

/-- the agent is one the actor supports -/
def MoveCall.supported (w : World) : MoveCall → Bool
  | .move a _ => (w.cfgOf a).moving
  | .cross a _ => (w.cfgOf a).moving
  | .drift a _ => (w.cfgOf a).moving && (w.cfgOf a).hasOrient

/-- the offsets a call tries, in the order it tries them -/
def MoveCall.attempts (w : World) : MoveCall → List Pos
  | .move _ d => [d]
  | .cross _ x => (crossTable x).toList
  | .drift a x => (if x = 0 then [] else (crossTable x).toList) ++
      (crossTable ((w.stOf a).orient : Int)).toList

/-- the value in `action_dict['move']` after a call that returns -/
def MoveCall.leftInactive (w : World) : MoveCall → Int
  | .move _ _ => 0
  | .cross _ x => x
  | .drift a _ => ((w.stOf a).orient : Int)

/-- **the outcome of a call for a supported agent that is not active, action in the action space**: the call
raises `KeyError` exactly when one of its attempts would have been carried out (the first such attempt raises:
`inactive_drift_outcome`); otherwise it returns, with the world it was given, and with `False` unless its
last attempt is the trivial move onto the stored position (possible for `MoveActor` with offset `(0,0)` and
`CrossMoveActor` with action 0 only). -/
theorem inactive_mover_outcome (w : World) (c : MoveCall) (hI : w.WInv = true) (ha : c.agent < w.n)
    (hin : (w.stOf c.agent).active = false) (hsp : c.inSpace w = true) (hsup : c.supported w = true) :
    runMoveCall w c =
      if (c.attempts w).any (w.wouldMove c.agent) then .error .keyError
      else .ok ⟨some ((c.attempts w).getLast?.elim false (w.staysPut c.agent)), w, c.leftInactive w⟩ := by
  cases c with
  | move a d =>
    simp only [MoveCall.agent, MoveCall.supported] at ha hin hsup
    rw [inactive_move_outcome w a d hI hin hsup]
    simp [MoveCall.attempts, MoveCall.agent, MoveCall.leftInactive]
  | cross a x =>
    simp only [MoveCall.agent, MoveCall.supported] at ha hin hsup
    simp only [MoveCall.inSpace, Bool.and_eq_true, decide_eq_true_eq] at hsp
    obtain ⟨d, hd⟩ := crossTable_of_range hsp.1 hsp.2
    rw [inactive_cross_outcome w a x d hI hin hsup hd]
    simp [MoveCall.attempts, MoveCall.agent, MoveCall.leftInactive, hd]
  | drift a x =>
    simp only [MoveCall.agent, MoveCall.supported] at ha hin hsup
    simp only [MoveCall.inSpace, Bool.and_eq_true, decide_eq_true_eq] at hsp
    have hor : (w.cfgOf a).hasOrient = true := by
      simp only [Bool.and_eq_true] at hsup; exact hsup.2
    obtain ⟨d', hd', hne'⟩ := orient_in_table hI ha hor
    obtain ⟨d, hd⟩ := crossTable_of_range hsp.1 hsp.2
    rw [inactive_drift_outcome w a x d' hI hin hsup hd']
    have hs : w.staysPut a d' = false := staysPut_of_ne hne'
    by_cases hx : x = 0
    · subst hx
      simp [MoveCall.attempts, MoveCall.agent, MoveCall.leftInactive, hd', hs]
    · by_cases h1 : w.wouldMove a d = true <;> by_cases h2 : w.wouldMove a d' = true <;>
        simp [MoveCall.attempts, MoveCall.agent, MoveCall.leftInactive, hd', hd, hs, hx, h1, h2]

/-! ## Non-vacuity: a 2×2 world with one dead agent

Agent 0 (encoding 1, a mover with an orientation `o`) is dead: health 0, not active, in no cell, its stored
position still `(0,0)`.  Agent 1 (encoding 2, which 1 may not join) stands at `(0,1)`; the cell below, `(1,0)`,
is empty. -/

def exDead (o : Nat) : World :=
  { rows := 2, cols := 2, overlap := [(1, [1])],
    cells := [[], [1], [], []],
    cfg := [{ enc := 1, moving := true, moveRange := 1, hasOrient := true }, { enc := 2 }],
    st := [{ pos := (0, 0), health := 0, active := false, orient := o }, { pos := (0, 1) }] }

example : (exDead 2).WInv = true ∧ (exDead 4).WInv = true := by decide +kernel
example : ((exDead 2).stOf 0).active = false ∧ (0 : Aid) < (exDead 2).n := by decide +kernel
/-- both outcomes, `MoveActor` and `CrossMoveActor`: downwards (free cell) the call raises `KeyError`; to the right
(a cell the mover may not join) it is refused and the world stays; the trivial move answers `True`; a cross action
outside the table raises the assertion -/
example :
    (match runMoveCall (exDead 2) (.move 0 (1, 0)) with | .error .keyError => true | _ => false) = true ∧
    (match runMoveCall (exDead 2) (.move 0 (0, 1)) with
      | .ok o => o.ret == some false && o.post == exDead 2 | _ => false) = true ∧
    (match runMoveCall (exDead 2) (.move 0 (0, 0)) with
      | .ok o => o.ret == some true && o.post == exDead 2 | _ => false) = true ∧
    (match runMoveCall (exDead 2) (.cross 0 2) with | .error .keyError => true | _ => false) = true ∧
    (match runMoveCall (exDead 2) (.cross 0 3) with
      | .ok o => o.ret == some false && o.post == exDead 2 | _ => false) = true ∧
    (match runMoveCall (exDead 2) (.cross 0 7) with | .error .assertion => true | _ => false) = true := by
  decide +kernel
/-- the drift actor: the first attempt raises (down); the first is refused (right) and the second (down, the
stored orientation) raises; both are refused (right, then up out of the grid) and the stored orientation is
left in the action dictionary -/
example :
    (match runMoveCall (exDead 4) (.drift 0 2) with | .error .keyError => true | _ => false) = true ∧
    (match runMoveCall (exDead 2) (.drift 0 3) with | .error .keyError => true | _ => false) = true ∧
    (match runMoveCall (exDead 2) (.drift 0 0) with | .error .keyError => true | _ => false) = true ∧
    (match runMoveCall (exDead 4) (.drift 0 3) with
      | .ok o => o.ret == some false && o.post == exDead 4 && o.left == 4 | _ => false) = true := by
  decide +kernel
/-- the judge accepts both kinds of outcome, and it is not trivially true: a returned world that differs is
rejected -/
example :
    specMoveAny (exDead 2) (.cross 0 2) (runMoveCall (exDead 2) (.cross 0 2)) = true ∧
    specMoveAny (exDead 2) (.cross 0 3) (runMoveCall (exDead 2) (.cross 0 3)) = true ∧
    specMoveAny (exDead 2) (.cross 0 3) (.ok ⟨some false, exDead 3, 3⟩) = false := by decide +kernel
example :
    ((MoveCall.drift 0 3).attempts (exDead 2) = [(0, 1), (1, 0)]) ∧
    ((exDead 2).wouldMove 0 (0, 1) = false) ∧ ((exDead 2).wouldMove 0 (1, 0) = true) ∧
    ((exDead 2).staysPut 0 (0, 0) = true) := by decide +kernel

end Abmarl
