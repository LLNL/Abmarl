import Abmarl.Lemmas.ObserversViews
import Batteries.Lean.Except
/-!
# C09 — Grid observers report exactly what is in view

Model: `Model/Observers.lean`.  Specification: `Spec/Observers.lean`, written from the property text over inputs and
outcome only.

The theorems are for **all** worlds — all grid sizes, all overlap pile-ups, dead agents, blocking
layouts —, **all** agents (supported or not), **all** view ranges (`cfg.viewRange` is any natural
number, also larger than the grid), both `observe_self` values and **all tapes** (all random
choices).  Hypotheses, stated explicitly where a theorem needs them (the position and ammunition
observers need none, the stacked view needs `ha`, `hpos` and `henc` only):

* `hI : WInv w` — the world is consistent (cells ↔ positions, C03);
* `ha : a < n` — the observer is an agent of the simulation (so there is a largest encoding);
* `hpos : inGrid (pos a)` — the observer's stored position is a grid cell.  For an *active*
  observer this follows from `WInv` (`observer_inGrid_of_active`); a dead observer keeps the
  cell it died on;
* `henc : ∀ b < n, 0 < enc b` — encodings are positive (the agent class rejects −2, −1, 0;
  negative encodings ≤ −3 are accepted by the setter but would collide with nothing and are
  excluded here because `max encoding` must be a valid number of layers);
* `hinit` / `hammo : 0 ≤ initAmmo a` — for the declared space of the ammunition observer only.

`get_obs` never raises and its observation satisfies the judge (`*_spec`, bundled in
`C09_observers`).  Every observation satisfying the judge lies in the declared `Box`
(`*_in_declared_space`: C02's clause; derived from the judge, so it transfers to any implementation
outcome the judge accepts).

`*_spec`, `C09_observers` and `*_in_declared_space` that take `hI` are the instance for `WInv` of a theorem `ObsInv.*`
(`Observers.ObsInv`, Lemmas/ObserversViews.lean: what they read of the invariant).  `observer_inGrid_of_active`,
`absolute_dead_observer_no_minus_one` and `absolute_own_cell` need `WInv` itself: an active agent is on the cell of its
position and on no other, a dead one on none.
-/
namespace Abmarl
namespace Observers
open World

theorem ObsInv.centered_spec {w : World} (hI : ObsInv w) (a : Aid) (os : Bool) (t : Tape)
    (hpos : w.inGrid (w.stOf a).pos = true) (henc : ∀ b < w.n, 0 < w.encOf b) :
    ∃ o t', getObsCentered w a os t = .ok (o, t') ∧ specCentered w a os o = true := by
  -- `getObsCentered` and `specCentered` unfold to the `if`s of `judged_of_body`; `J`, `k`, `P` come from unification
  refine judged_of_body t hpos (convolve_judged (fun i hi j hj t => ?_) (fun g => (specTab_iff ..).mpr) t)
  rw [at2_maskFor w a _ i j hi hj, at2_localGrid w a _ i j hpos hi hj]
  exact cenCell_ok w a os _ _ _ t fun b hb => henc b (hI.lt hb)

/-- **C09, centred view** (`PositionCenteredEncodingObserver`), both `observe_self` settings. -/
theorem centered_spec (w : World) (a : Aid) (os : Bool) (t : Tape) (hI : w.WInv = true)
    (hpos : w.inGrid (w.stOf a).pos = true) (henc : ∀ b < w.n, 0 < w.encOf b) :
    ∃ o t', getObsCentered w a os t = .ok (o, t') ∧ specCentered w a os o = true :=
  (ObsInv.of_WInv hI).centered_spec a os t hpos henc

theorem ObsInv.absolute_spec {w : World} (hI : ObsInv w) (a : Aid) (t : Tape)
    (hpos : w.inGrid (w.stOf a).pos = true) (henc : ∀ b < w.n, 0 < w.encOf b) :
    ∃ o t', getObsAbsolute w a t = .ok (o, t') ∧ specAbsolute w a o = true := by
  refine judged_of_body t hpos (convolve_judged (fun i hi j hj t => ?_)
    (fun g hP => (specTab_iff ..).mpr (paste_spec w a _ g hpos hP)) t)
  rw [at2_maskFor w a _ i j hi hj, at2_localGrid w a _ i j hpos hi hj]
  exact absCell_ok w a _ _ _ t fun b hb => henc b (hI.lt hb)

/-- **C09, absolute view** (`AbsoluteEncodingObserver`). -/
theorem absolute_spec (w : World) (a : Aid) (t : Tape) (hI : w.WInv = true)
    (hpos : w.inGrid (w.stOf a).pos = true) (henc : ∀ b < w.n, 0 < w.encOf b) :
    ∃ o t', getObsAbsolute w a t = .ok (o, t') ∧ specAbsolute w a o = true :=
  (ObsInv.of_WInv hI).absolute_spec a t hpos henc

/-- **C09, stacked view** (`StackedPositionCenteredEncodingObserver`): exact counts per encoding. -/
theorem stacked_spec (w : World) (a : Aid) (t : Tape) (ha : a < w.n)
    (hpos : w.inGrid (w.stOf a).pos = true) (henc : ∀ b < w.n, 0 < w.encOf b) :
    ∃ o t', getObsStacked w a t = .ok (o, t') ∧ specStacked w a o = true := by
  have hE : ¬ maxEnc w < 0 := by have := maxEnc_pos w ha henc; omega
  refine judged_of_body t hpos ⟨_, t, if_neg hE, ?_⟩
  simp only [topEnc_eq w (Nat.lt_of_le_of_lt (Nat.zero_le _) ha)]
  refine (specTab_iff ..).mpr (TabP_tab _ _ _ _ fun i hi j hj => (layers_iff ..).mpr ⟨by simp, fun e he => ?_⟩)
  refine ⟨_, by rw [List.getElem?_map, List.getElem?_range he, Option.map_some], ?_⟩
  rw [at2_maskFor w a _ i j hi hj, at2_localGrid w a _ i j hpos hi hj]
  exact stkCell_ok w _ _ _ e

/-- **C09, position observer** (`AbsolutePositionObserver`). -/
theorem position_spec (w : World) (a : Aid) (t : Tape) :
    ∃ o t', getObsPosition w a t = .ok (o, t') ∧ specPosition w a o = true := by
  cases hobs : (w.cfgOf a).observing
  · exact ⟨.unsupported, t, by simp [getObsPosition, hobs], by simp [specPosition, hobs]⟩
  · exact ⟨.vec (w.stOf a).pos, t, by simp [getObsPosition, hobs], by simp [specPosition, hobs]⟩

/-- **C09, ammunition observer** (`AmmoObserver`). -/
theorem ammo_spec (w : World) (a : Aid) (t : Tape) :
    ∃ o t', getObsAmmo w a t = .ok (o, t') ∧ specAmmo w a o = true := by
  cases hsup : ((w.cfgOf a).hasAmmo && (w.cfgOf a).observing)
  · exact ⟨.unsupported, t, by simp only [getObsAmmo, hsup]; rfl, by simp [specAmmo, hsup]⟩
  · exact ⟨.scalar (w.stOf a).ammo, t, by simp only [getObsAmmo, hsup]; rfl, by simp [specAmmo, hsup]⟩

/-- an active observer's position is a grid cell (so `hpos` is a hypothesis about dead observers only) -/
theorem observer_inGrid_of_active {w : World} {a : Aid} (hI : w.WInv = true) (ha : a < w.n)
    (hact : (w.stOf a).active = true) : w.inGrid (w.stOf a).pos = true :=
  (((WInv_iff_InvV w).mp hI).placedAt ha hact).inG

theorem ObsInv.C09_observers {w : World} (hI : ObsInv w) (a : Aid) (k : Kind) (t : Tape) (ha : a < w.n)
    (hpos : w.inGrid (w.stOf a).pos = true) (henc : ∀ b < w.n, 0 < w.encOf b) :
    ∃ o t', getObs w a k t = .ok (o, t') ∧ specC09 w a k (.ok o) = true := by
  cases k with
  | absolute => exact hI.absolute_spec a t hpos henc
  | centered os => exact hI.centered_spec a os t hpos henc
  | stacked => exact stacked_spec w a t ha hpos henc
  | position => exact position_spec w a t
  | ammo => exact ammo_spec w a t

/-- **C09**: for every consistent world, every agent, every built-in observer (every option) and
every tape, `get_obs` returns without error and the observation satisfies the judge `specC09`. -/
theorem C09_observers (w : World) (a : Aid) (k : Kind) (t : Tape) (hI : w.WInv = true) (ha : a < w.n)
    (hpos : w.inGrid (w.stOf a).pos = true) (henc : ∀ b < w.n, 0 < w.encOf b) :
    ∃ o t', getObs w a k t = .ok (o, t') ∧ specC09 w a k (.ok o) = true :=
  (ObsInv.of_WInv hI).C09_observers a k t ha hpos henc

theorem beq_beq_iff (v k : Int) (b : Bool) : (v == k) = b ↔ (v = k ↔ b = true) := by
  cases b <;> simp

theorem or4_iff_imp {a b c d : Prop} : (((a ∨ b) ∨ c) ∨ d) ↔ (¬a → ¬b → ¬c → d) := by
  rw [or_assoc, or_assoc, Classical.or_iff_not_imp_left, Classical.or_iff_not_imp_left, Classical.or_iff_not_imp_left]

theorem cenCellOK_reading (w : World) (hidden inG : Bool) (rep : List Aid) (v : Int) :
    cenCellOK w hidden inG rep v = true ↔
      (v = -2 ↔ hidden = true) ∧
      (v = -1 ↔ hidden = false ∧ inG = false) ∧
      (v = 0 ↔ hidden = false ∧ inG = true ∧ rep = []) ∧
      (v ≠ -2 → v ≠ -1 → v ≠ 0 → ∃ b ∈ rep, w.encOf b = v) := by
  unfold cenCellOK
  simp only [Bool.and_eq_true, beq_beq_iff, Bool.or_eq_true, beq_iff_eq, List.any_eq_true,
    Bool.not_eq_true', List.isEmpty_iff, and_assoc, or4_iff_imp, ne_eq]

theorem absCellOK_reading (w : World) (a : Aid) (masked : Bool) (occ : List Aid) (v : Int) :
    absCellOK w a masked occ v = true ↔
      (v = -2 ↔ masked = true) ∧
      (v = -1 ↔ masked = false ∧ a ∈ occ) ∧
      (v = 0 ↔ masked = false ∧ occ = []) ∧
      (v ≠ -2 → v ≠ -1 → v ≠ 0 → ∃ b ∈ occ, b ≠ a ∧ w.encOf b = v) := by
  unfold absCellOK
  simp only [Bool.and_eq_true, beq_beq_iff, Bool.or_eq_true, beq_iff_eq, List.any_eq_true,
    Bool.not_eq_true', List.isEmpty_iff, and_assoc, List.contains_iff_mem, bne_iff_ne, ne_eq, or4_iff_imp]

/-- stacked view, one entry: the two markers, and otherwise the **exact** count -/
theorem stkCellOK_reading (w : World) (hidden inG : Bool) (occ : List Aid) (e : Nat) (v : Int) :
    stkCellOK w hidden inG occ e v = true ↔
      (v = -2 ↔ hidden = true) ∧
      (v = -1 ↔ hidden = false ∧ inG = false) ∧
      (hidden = false → inG = true →
        v = ((occ.countP fun b => w.encOf b == (e : Int) + 1 : Nat) : Int)) := by
  unfold stkCellOK
  simp only [Bool.and_eq_true, beq_beq_iff, Bool.or_eq_true, beq_iff_eq, Bool.not_eq_true', and_assoc,
    Classical.or_iff_not_imp_left, Bool.not_eq_true, Bool.not_eq_false, Classical.not_imp, and_imp]

theorem hiddenFrom_iff (w : World) (a : Aid) (R : Nat) (r c : Int) :
    hiddenFrom w a R r c = true ↔
      ∃ b < w.n, (w.cfgOf b).blocking = true ∧ (w.stOf b).active = true ∧
        Mask.inWin R (offsetOf w a b).1 = true ∧ Mask.inWin R (offsetOf w a b).2 = true ∧
        Mask.hiddenSpec (offsetOf w a b).1 (offsetOf w a b).2 r c = true := by
  unfold hiddenFrom allAgents
  simp only [List.any_eq_true, List.mem_range, Bool.and_eq_true, and_assoc]

theorem reportable_not_self (w : World) (a : Aid) (q : Pos) : a ∉ reportable w a false q := by
  simp [reportable]

theorem reportable_all (w : World) (a : Aid) (q : Pos) : reportable w a true q = w.cell q := by
  simp [reportable]

theorem specCentered_reading (w : World) (a : Aid) (os : Bool) (g : List (List Int))
    (hobs : (w.cfgOf a).observing = true) :
    specCentered w a os (.grid g) = true ↔
      TabP (2*(w.cfgOf a).viewRange+1) (2*(w.cfgOf a).viewRange+1) (fun i j v =>
        cenCellOK w
          (hiddenFrom w a (w.cfgOf a).viewRange ((i : Int) - ((w.cfgOf a).viewRange : Int))
            ((j : Int) - ((w.cfgOf a).viewRange : Int)))
          (w.inGrid (winPos (w.stOf a).pos (w.cfgOf a).viewRange i j))
          (if w.inGrid (winPos (w.stOf a).pos (w.cfgOf a).viewRange i j) = true
            then reportable w a os (winPos (w.stOf a).pos (w.cfgOf a).viewRange i j) else []) v = true) g := by
  simp only [specCentered, hobs, if_true]
  rw [specTab_iff]

/-- what the judge of the absolute view says: the array has the shape of the grid and entry
`[gi, gj]` is about the grid cell `(gi, gj)` itself (true coordinates) -/
theorem specAbsolute_reading (w : World) (a : Aid) (g : List (List Int))
    (hobs : (w.cfgOf a).observing = true) :
    specAbsolute w a (.grid g) = true ↔
      TabP w.rows w.cols (fun gi gj v =>
        absCellOK w a
          (!(Mask.inWin (w.cfgOf a).viewRange ((gi : Int) - (w.stOf a).pos.1) &&
              Mask.inWin (w.cfgOf a).viewRange ((gj : Int) - (w.stOf a).pos.2)) ||
            hiddenFrom w a (w.cfgOf a).viewRange ((gi : Int) - (w.stOf a).pos.1) ((gj : Int) - (w.stOf a).pos.2))
          (w.cell ((gi : Int), (gj : Int))) v = true) g := by
  simp only [specAbsolute, hobs, if_true]
  rw [specTab_iff]

/-- what the judge of the stacked view says: shape `(2R+1, 2R+1, E)` with `E` the largest
encoding, and entry `[i, j, e]` satisfies the stacked cell clause for encoding `e + 1` -/
theorem specStacked_reading (w : World) (a : Aid) (g : List (List (List Int)))
    (hobs : (w.cfgOf a).observing = true) (hn : 0 < w.n) :
    specStacked w a (.stack g) = true ↔
      TabP (2*(w.cfgOf a).viewRange+1) (2*(w.cfgOf a).viewRange+1) (fun i j layers =>
        layers.length = (maxEnc w).toNat ∧ ∀ e < (maxEnc w).toNat, ∃ v, layers[e]? = some v ∧
          stkCellOK w
            (hiddenFrom w a (w.cfgOf a).viewRange ((i : Int) - ((w.cfgOf a).viewRange : Int))
              ((j : Int) - ((w.cfgOf a).viewRange : Int)))
            (w.inGrid (winPos (w.stOf a).pos (w.cfgOf a).viewRange i j))
            (if w.inGrid (winPos (w.stOf a).pos (w.cfgOf a).viewRange i j) = true
              then w.cell (winPos (w.stOf a).pos (w.cfgOf a).viewRange i j) else []) e v = true) g := by
  simp only [specStacked, hobs, if_true, topEnc_eq w hn]
  rw [specTab_iff]
  exact TabP_congr fun i j layers => layers_iff _ layers _

/-- an unsupported agent gets `{}` from every grid observer -/
theorem unsupported_reading (w : World) (a : Aid) (o : Obs) (hobs : (w.cfgOf a).observing = false) :
    (specAbsolute w a o = true ↔ o = .unsupported) ∧
    (∀ os, specCentered w a os o = true ↔ o = .unsupported) ∧
    (specStacked w a o = true ↔ o = .unsupported) ∧
    (specPosition w a o = true ↔ o = .unsupported) := by
  simp [specAbsolute, specCentered, specStacked, specPosition, hobs]

theorem specPosition_reading (w : World) (a : Aid) (o : Obs) (hobs : (w.cfgOf a).observing = true) :
    specPosition w a o = true ↔ o = .vec (w.stOf a).pos := by
  simp [specPosition, hobs]

theorem specAmmo_reading (w : World) (a : Aid) (o : Obs)
    (hsup : (w.cfgOf a).hasAmmo = true ∧ (w.cfgOf a).observing = true) :
    specAmmo w a o = true ↔ o = .scalar (w.stOf a).ammo := by
  simp [specAmmo, hsup.1, hsup.2]

/-- nothing hides the viewer's own cell: it is nearer than any blocker that has a direction -/
theorem hiddenSpec_origin (rd cd : Int) : Mask.hiddenSpec rd cd 0 0 = false := by
  rw [← Bool.not_eq_true, Mask.hiddenSpec_iff, Mask.HiddenP]
  rintro ⟨h0, -, h3, h4, -⟩
  exact h0 ⟨Classical.byContradiction fun h => absurd h3 (Int.not_le.mpr (Mask.sign_mul_pos h)),
    Classical.byContradiction fun h => absurd h4 (Int.not_le.mpr (Mask.sign_mul_pos h))⟩

theorem hiddenFrom_origin (w : World) (a : Aid) (R : Nat) : hiddenFrom w a R 0 0 = false := by
  rw [← Bool.not_eq_true, hiddenFrom_iff]
  rintro ⟨b, _, _, _, _, _, h⟩
  rw [hiddenSpec_origin] at h; cases h

/-- a **dead observer** (on no cell, by the consistency invariant) sees no −1 anywhere:
"own cell" means "the observer is among the occupants", not "the observer's stored position" -/
theorem absolute_dead_observer_no_minus_one (w : World) (a : Aid) (g : List (List Int))
    (hI : w.WInv = true) (hobs : (w.cfgOf a).observing = true) (hdead : (w.stOf a).active = false)
    (h : specAbsolute w a (.grid g) = true) :
    ∀ gi < w.rows, ∀ gj < w.cols, ∀ row v, g[gi]? = some row → row[gj]? = some v → v ≠ -1 := by
  intro gi hgi gj hgj row v hrow hv hm1
  have hok := (absCellOK_reading ..).mp (((specAbsolute_reading w a g hobs).mp h).entry hgi hgj hrow hv)
  exact not_mem_cell_of_inactive hI hdead _ (hok.2.1.mp hm1).2

/-- an **active observer** sees −1 at its own position and nowhere else -/
theorem absolute_own_cell (w : World) (a : Aid) (g : List (List Int))
    (hI : w.WInv = true) (ha : a < w.n) (hobs : (w.cfgOf a).observing = true)
    (hact : (w.stOf a).active = true) (h : specAbsolute w a (.grid g) = true) :
    ∀ gi < w.rows, ∀ gj < w.cols, ∀ row v, g[gi]? = some row → row[gj]? = some v →
      (v = -1 ↔ ((gi : Int), (gj : Int)) = (w.stOf a).pos) := by
  have hP := ((WInv_iff_InvV w).mp hI).placedAt ha hact
  intro gi hgi gj hgj row v hrow hv
  have hok := (absCellOK_reading ..).mp (((specAbsolute_reading w a g hobs).mp h).entry hgi hgj hrow hv)
  have hq : w.inGrid ((gi : Int), (gj : Int)) = true := inGrid_iff_nat.mpr ⟨_, _, hgi, hgj, rfl⟩
  constructor
  · intro hm1
    have hmem := (hok.2.1.mp hm1).2
    exact idx_inj hq hP.inG (hP.only _ hmem)
  · intro heq
    refine hok.2.1.mpr ⟨?_, heq ▸ hP.mem⟩
    rw [← heq, Int.sub_self, Int.sub_self, hiddenFrom_origin]
    simp [Mask.inWin]

theorem ObsInv.cell_enc_bounds {w : World} (hI : ObsInv w) (henc : ∀ b < w.n, 0 < w.encOf b)
    {q : Pos} {b : Aid} (hb : b ∈ w.cell q) : 0 < w.encOf b ∧ w.encOf b ≤ maxEnc w :=
  ⟨henc b (hI.lt hb), encOf_le_maxEnc w (hI.lt hb)⟩

theorem marker_or_enc_bounds {v E : Int} (hE : 0 < E)
    (h : v ≠ -2 → v ≠ -1 → v ≠ 0 → 0 < v ∧ v ≤ E) : -2 ≤ v ∧ v ≤ E := by
  omega

theorem mem_cell_of_mem_reportable {w : World} {a : Aid} {os inG : Bool} {q : Pos} {b : Aid}
    (h : b ∈ if inG = true then reportable w a os q else []) : b ∈ w.cell q := by
  unfold reportable at h
  cases inG
  · cases h
  · cases os
    · exact (List.mem_filter.mp h).1
    · exact h

theorem cenCellOK_bounds {w : World} {hidden inG : Bool} {rep : List Aid} {v E : Int} (hE : 0 < E)
    (hrep : ∀ b ∈ rep, 0 < w.encOf b ∧ w.encOf b ≤ E) (h : cenCellOK w hidden inG rep v = true) :
    -2 ≤ v ∧ v ≤ E := by
  refine marker_or_enc_bounds hE fun n1 n2 n3 => ?_
  obtain ⟨b, hb, hbv⟩ := ((cenCellOK_reading ..).mp h).2.2.2 n1 n2 n3
  exact hbv ▸ hrep b hb

theorem absCellOK_bounds {w : World} {a : Aid} {masked : Bool} {occ : List Aid} {v E : Int} (hE : 0 < E)
    (hocc : ∀ b ∈ occ, 0 < w.encOf b ∧ w.encOf b ≤ E) (h : absCellOK w a masked occ v = true) :
    -2 ≤ v ∧ v ≤ E := by
  refine marker_or_enc_bounds hE fun n1 n2 n3 => ?_
  obtain ⟨b, hb, -, hbv⟩ := ((absCellOK_reading ..).mp h).2.2.2 n1 n2 n3
  exact hbv ▸ hocc b hb

theorem stkCellOK_bounds {w : World} {hidden inG : Bool} {occ : List Aid} {e : Nat} {v : Int}
    (h : stkCellOK w hidden inG occ e v = true) : -2 ≤ v ∧ v ≤ (occ.length : Int) := by
  have hc := List.countP_le_length (p := fun b => w.encOf b == (e : Int) + 1) (l := occ)
  obtain ⟨h1, h2, h3⟩ := (stkCellOK_reading ..).mp h
  cases hidden with
  | true => have := h1.mpr rfl; omega
  | false =>
    cases inG with
    | false => have := h2.mpr ⟨rfl, rfl⟩; omega
    | true => have := h3 rfl rfl; omega

theorem ObsInv.absolute_in_declared_space {w : World} (hI : ObsInv w) (a : Aid) (o : Obs) (ha : a < w.n)
    (henc : ∀ b < w.n, 0 < w.encOf b) (h : specAbsolute w a o = true) :
    declared w a .absolute o = true := by
  -- the cases of the judge: an observing agent and an array, an observing agent and anything else, `{}`
  unfold specAbsolute at h
  split at h
  · split at h
    · simp only [declared, topEnc_eq w (Nat.lt_of_le_of_lt (Nat.zero_le _) ha), inBox2]
      refine specTab_imp h fun gi _ gj _ v hv => ?_
      simp only [Bool.and_eq_true, decide_eq_true_eq]
      exact absCellOK_bounds (maxEnc_pos w ha henc) (fun b hb => hI.cell_enc_bounds henc hb) hv
    · cases h
  · rw [eq_of_beq h]
    rfl

/-- every observation accepted by the absolute judge lies in `Box(-2, max encoding, (rows, cols))` -/
theorem absolute_in_declared_space (w : World) (a : Aid) (o : Obs) (hI : w.WInv = true) (ha : a < w.n)
    (henc : ∀ b < w.n, 0 < w.encOf b) (h : specAbsolute w a o = true) :
    declared w a .absolute o = true :=
  (ObsInv.of_WInv hI).absolute_in_declared_space a o ha henc h

theorem ObsInv.centered_in_declared_space {w : World} (hI : ObsInv w) (a : Aid) (os : Bool) (o : Obs)
    (ha : a < w.n) (henc : ∀ b < w.n, 0 < w.encOf b) (h : specCentered w a os o = true) :
    declared w a (.centered os) o = true := by
  unfold specCentered at h
  split at h
  · split at h
    · simp only [declared, topEnc_eq w (Nat.lt_of_le_of_lt (Nat.zero_le _) ha), inBox2]
      refine specTab_imp h fun i _ j _ v hv => ?_
      simp only [Bool.and_eq_true, decide_eq_true_eq]
      exact cenCellOK_bounds (maxEnc_pos w ha henc)
        (fun b hb => hI.cell_enc_bounds henc (mem_cell_of_mem_reportable hb)) hv
    · cases h
  · rw [eq_of_beq h]
    rfl

/-- every observation accepted by the centred judge lies in `Box(-2, max encoding, (2R+1, 2R+1))` -/
theorem centered_in_declared_space (w : World) (a : Aid) (os : Bool) (o : Obs) (hI : w.WInv = true)
    (ha : a < w.n) (henc : ∀ b < w.n, 0 < w.encOf b) (h : specCentered w a os o = true) :
    declared w a (.centered os) o = true :=
  (ObsInv.of_WInv hI).centered_in_declared_space a os o ha henc h

theorem ObsInv.stacked_in_declared_space {w : World} (hI : ObsInv w) (a : Aid) (o : Obs)
    (ha : a < w.n) (h : specStacked w a o = true) :
    declared w a .stacked o = true := by
  have hn : 0 < w.n := Nat.lt_of_le_of_lt (Nat.zero_le _) ha
  unfold specStacked at h
  rw [topEnc_eq w hn] at h
  split at h
  · split at h
    · rename_i E hE
      cases hE
      simp only [declared, topEnc_eq w hn]
      refine specTab_imp h fun i _ j _ layers hv => ?_
      obtain ⟨hlen, hall⟩ := (layers_iff _ layers _).mp hv
      simp only [Bool.and_eq_true, beq_iff_eq, List.all_eq_true, decide_eq_true_eq]
      refine ⟨hlen, fun v hvmem => ?_⟩
      obtain ⟨e, he, rfl⟩ := List.getElem_of_mem hvmem
      obtain ⟨v', hv', hcell⟩ := hall e (hlen ▸ he)
      cases (List.getElem?_eq_getElem he).symm.trans hv'
      -- the count is at most the number of occupants, which is at most the number of agents
      have hb := stkCellOK_bounds hcell
      refine ⟨hb.1, Int.le_trans hb.2 (Int.ofNat_le.mpr ?_)⟩
      split
      · exact hI.cell_length_le _
      · exact Nat.zero_le _
    · cases h
  · rw [eq_of_beq h]
    rfl

/-- every observation accepted by the stacked judge lies in
`Box(-2, number of agents, (2R+1, 2R+1, max encoding))` -/
theorem stacked_in_declared_space (w : World) (a : Aid) (o : Obs) (hI : w.WInv = true)
    (ha : a < w.n) (h : specStacked w a o = true) :
    declared w a .stacked o = true :=
  (ObsInv.of_WInv hI).stacked_in_declared_space a o ha h

/-- the reported position lies in `Box([0, 0], [rows-1, cols-1])` -/
theorem position_in_declared_space (w : World) (a : Aid) (o : Obs)
    (hpos : w.inGrid (w.stOf a).pos = true) (h : specPosition w a o = true) :
    declared w a .position o = true := by
  rw [inGrid_iff] at hpos
  cases hobs : (w.cfgOf a).observing
  · rw [(unsupported_reading w a o hobs).2.2.2.mp h]
    rfl
  · rw [(specPosition_reading w a o hobs).mp h]
    simp only [declared, Bool.and_eq_true, decide_eq_true_eq]
    omega

theorem ObsInv.ammo_in_declared_space {w : World} (hI : ObsInv w) (a : Aid) (o : Obs) (ha : a < w.n)
    (hinit : 0 ≤ (w.cfgOf a).initAmmo) (h : specAmmo w a o = true) :
    declared w a .ammo o = true := by
  cases hsup : ((w.cfgOf a).hasAmmo && (w.cfgOf a).observing)
  · have : o = .unsupported := by simpa [specAmmo, hsup] using h
    subst this; rfl
  · have hsup := Bool.and_eq_true_iff.mp hsup
    rw [(specAmmo_reading w a o hsup).mp h]
    obtain ⟨h1, h2⟩ := hI.ammo a ha
    have h2 := h2 hsup.1
    simp only [declared, Bool.and_eq_true, decide_eq_true_eq]
    omega

/-- the reported ammunition lies in `Box(0, initial_ammo, (1,))` -/
theorem ammo_in_declared_space (w : World) (a : Aid) (o : Obs) (hI : w.WInv = true) (ha : a < w.n)
    (hinit : 0 ≤ (w.cfgOf a).initAmmo) (h : specAmmo w a o = true) :
    declared w a .ammo o = true :=
  (ObsInv.of_WInv hI).ammo_in_declared_space a o ha hinit h

/-- every built-in observer, every option, every tape: `get_obs` returns a member of the declared space -/
theorem ObsInv.getObs_declared {w : World} (hI : ObsInv w) (a : Aid) (k : Kind) (t : Tape) (ha : a < w.n)
    (hpos : w.inGrid (w.stOf a).pos = true) (henc : ∀ b < w.n, 0 < w.encOf b)
    (hammo : 0 ≤ (w.cfgOf a).initAmmo) :
    ∃ o t', getObs w a k t = .ok (o, t') ∧ declared w a k o = true := by
  obtain ⟨o, t', hget, hspec⟩ := hI.C09_observers a k t ha hpos henc
  refine ⟨o, t', hget, ?_⟩
  cases k with
  | absolute => exact hI.absolute_in_declared_space a o ha henc hspec
  | centered os => exact hI.centered_in_declared_space a os o ha henc hspec
  | stacked => exact hI.stacked_in_declared_space a o ha hspec
  | position => exact position_in_declared_space w a o hpos hspec
  | ammo => exact hI.ammo_in_declared_space a o ha hammo hspec

/-! ## Non-vacuity: a 3×3 world with a blocker, a pile-up, a hidden agent and a dead observer

The `decide`s compare `Except` values: `DecidableEq (Except ..)` is what `Batteries.Lean.Except` is imported for.

```
      col 0      col 1        col 2
row 0 observer 0 blocker 1    agent 4 (enc 2, hidden behind the blocker)
row 1 .          2 (enc 2) + 3 (enc 4)   .  (hidden)
row 2 .          .            . (agent 5, enc 1, died here: on no cell; it observes with range 1)
```
-/

def exWorld : World :=
  { rows := 3, cols := 3, overlap := [(2, [4]), (4, [2])],
    cells := [[0], [1], [4],  [], [2, 3], [],  [], [], []],
    cfg := [{ enc := 1, observing := true, viewRange := 2, hasAmmo := true, initAmmo := 5 },
            { enc := 3, blocking := true }, { enc := 2 }, { enc := 4 }, { enc := 2 },
            { enc := 1, observing := true, viewRange := 1 }],
    st := [{ pos := (0, 0), ammo := 3 }, { pos := (0, 1) }, { pos := (1, 1) }, { pos := (1, 1) },
           { pos := (0, 2) }, { pos := (2, 2), health := 0, active := false }] }

/-- the hypotheses of the theorems are inhabited by this world, for the live and the dead observer -/
example : exWorld.WInv = true ∧ (∀ b < exWorld.n, 0 < exWorld.encOf b) ∧
    exWorld.inGrid (exWorld.stOf 0).pos = true ∧ exWorld.inGrid (exWorld.stOf 5).pos = true := by decide +kernel

/-- centred view from the corner, range 2, self-observation on; three draws in row-major order:
own cell, blocker, pile-up (third tape value 1 picks the second occupant, encoding 4).  Rows/columns
beyond the border are −1 — except the cell `(−1, 2)`, which lies in the blocker's shadow: −2 wins. -/
example : getObsCentered exWorld 0 true [0, 0, 1] =
    .ok (.grid [[-1, -1, -1, -1, -1],
                [-1, -1, -1, -1, -2],
                [-1, -1,  1,  3, -2],
                [-1, -1,  0,  4, -2],
                [-1, -1,  0,  0,  0]], []) := by decide +kernel

/-- self-observation off: the own cell reads 0 and draws nothing (the tape value 1 is left over) -/
example : getObsCentered exWorld 0 false [0, 0, 1] =
    .ok (.grid [[-1, -1, -1, -1, -1],
                [-1, -1, -1, -1, -2],
                [-1, -1,  0,  3, -2],
                [-1, -1,  0,  2, -2],
                [-1, -1,  0,  0,  0]], [1]) := by decide +kernel

/-- absolute view: true coordinates, −1 on the own cell (no draw there), the hidden agent 4 is −2 -/
example : getObsAbsolute exWorld 0 [0, 1] =
    .ok (.grid [[-1, 3, -2],
                [ 0, 4, -2],
                [ 0, 0,  0]], []) := by decide +kernel

/-- the dead observer (range 1, stored position (2, 2)) sees the pile-up, cells beyond its window
are −2, and there is no −1 anywhere -/
example : getObsAbsolute exWorld 5 [1] =
    .ok (.grid [[-2, -2, -2],
                [-2,  4,  0],
                [-2,  0,  0]], []) := by decide +kernel

/-- stacked view: layer `e` counts encoding `e + 1`; the pile-up cell holds one agent of encoding 2
and one of encoding 4; markers are uniform across the layers -/
example : getObsStacked exWorld 0 [7] =
    .ok (.stack
      [[[-1, -1, -1, -1], [-1, -1, -1, -1], [-1, -1, -1, -1], [-1, -1, -1, -1], [-1, -1, -1, -1]],
       [[-1, -1, -1, -1], [-1, -1, -1, -1], [-1, -1, -1, -1], [-1, -1, -1, -1], [-2, -2, -2, -2]],
       [[-1, -1, -1, -1], [-1, -1, -1, -1], [ 1,  0,  0,  0], [ 0,  0,  1,  0], [-2, -2, -2, -2]],
       [[-1, -1, -1, -1], [-1, -1, -1, -1], [ 0,  0,  0,  0], [ 0,  1,  0,  1], [-2, -2, -2, -2]],
       [[-1, -1, -1, -1], [-1, -1, -1, -1], [ 0,  0,  0,  0], [ 0,  0,  0,  0], [ 0,  0,  0,  0]]], [7]) := by
  decide +kernel

example : getObsPosition exWorld 0 [] = .ok (.vec (0, 0), []) ∧ getObsAmmo exWorld 0 [] = .ok (.scalar 3, []) ∧
    getObsAmmo exWorld 5 [] = .ok (.unsupported, []) ∧ getObsAbsolute exWorld 1 [] = .ok (.unsupported, []) := by
  decide +kernel

/-- the judge accepts these observations … -/
example :
    specCentered exWorld 0 true (.grid [[-1, -1, -1, -1, -1], [-1, -1, -1, -1, -2], [-1, -1, 1, 3, -2],
      [-1, -1, 0, 4, -2], [-1, -1, 0, 0, 0]]) = true ∧
    specCentered exWorld 0 true (.grid [[-1, -1, -1, -1, -1], [-1, -1, -1, -1, -2], [-1, -1, 1, 3, -2],
      [-1, -1, 0, 2, -2], [-1, -1, 0, 0, 0]]) = true ∧
    specAbsolute exWorld 0 (.grid [[-1, 3, -2], [0, 2, -2], [0, 0, 0]]) = true ∧
    specAbsolute exWorld 5 (.grid [[-2, -2, -2], [-2, 2, 0], [-2, 0, 0]]) = true := by decide +kernel

/-- … and rejects: an encoding that is not on the cell (3 on the pile-up), the transposed window, the
hidden agent shown, the own encoding under `observe_self = false`, a −1 for the dead observer's
stored position, a shifted paste, a wrong count -/
example :
    specCentered exWorld 0 true (.grid [[-1, -1, -1, -1, -1], [-1, -1, -1, -1, -2], [-1, -1, 1, 3, -2],
      [-1, -1, 0, 3, -2], [-1, -1, 0, 0, 0]]) = false ∧
    specCentered exWorld 0 true (.grid [[-1, -1, -1, -1, -1], [-1, -1, -1, -1, -1], [-1, -1, 1, 0, 0],
      [-1, -1, 3, 4, 0], [-1, -2, -2, -2, 0]]) = false ∧
    specCentered exWorld 0 true (.grid [[-1, -1, -1, -1, -1], [-1, -1, -1, -1, -2], [-1, -1, 1, 3, 2],
      [-1, -1, 0, 4, -2], [-1, -1, 0, 0, 0]]) = false ∧
    specCentered exWorld 0 false (.grid [[-1, -1, -1, -1, -1], [-1, -1, -1, -1, -2], [-1, -1, 1, 3, -2],
      [-1, -1, 0, 4, -2], [-1, -1, 0, 0, 0]]) = false ∧
    specAbsolute exWorld 5 (.grid [[-2, -2, -2], [-2, 2, 0], [-2, 0, -1]]) = false ∧
    specAbsolute exWorld 0 (.grid [[-2, -1, 3], [-2, 0, 2], [-2, 0, 0]]) = false ∧
    specStacked exWorld 0 (.stack
      [[[-1, -1, -1, -1], [-1, -1, -1, -1], [-1, -1, -1, -1], [-1, -1, -1, -1], [-1, -1, -1, -1]],
       [[-1, -1, -1, -1], [-1, -1, -1, -1], [-1, -1, -1, -1], [-1, -1, -1, -1], [-2, -2, -2, -2]],
       [[-1, -1, -1, -1], [-1, -1, -1, -1], [ 1,  0,  0,  0], [ 0,  0,  1,  0], [-2, -2, -2, -2]],
       [[-1, -1, -1, -1], [-1, -1, -1, -1], [ 0,  0,  0,  0], [ 0,  2,  0,  0], [-2, -2, -2, -2]],
       [[-1, -1, -1, -1], [-1, -1, -1, -1], [ 0,  0,  0,  0], [ 0,  0,  0,  0], [ 0,  0,  0,  0]]]) = false := by
  decide +kernel

/-- window embedding on the example: the corner viewer's window entry `[1, 4]` is outside the grid,
`[3, 3]` is the pile-up cell `(1, 1)` -/
example : localCell exWorld (0, 0) 2 1 4 = none ∧ localCell exWorld (0, 0) 2 3 3 = some [2, 3] ∧
    winPos (0, 0) 2 3 3 = (1, 1) := by decide +kernel

end Observers
end Abmarl
