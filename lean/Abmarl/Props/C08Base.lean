import Abmarl.Model.Adapters
import Abmarl.Lemmas.ManagersInv
import Abmarl.Model.Trainer
import Abmarl.Model.StubSim
/-!
# C08 for the managers, the OpenSpiel adapter and `GymABS` — reset starts a fresh episode that does
not depend on earlier episodes

The model state of every layer carries **every** mutable field the Python object carries (turn
pointer and done set of the managers; `_should_reset/_current_player` of the OpenSpiel adapter;
`_obs/_reward/_done/_info` of `GymABS`; …) and `reset` is written field by field as the code does,
so these theorems are false of a model that skips a field (findings F3: turn pointer, F4:
`GymABS._done/_reward`, F8: placement order; DESIGN.md §11.3).

`ResetForgets S` is the hypothesis on the wrapped simulation.  The stub with a constant episode number satisfies
it (`stubFlat_forgets`); the packaged example simulations use `runOps_reset_eq_of`, whose hypothesis is only that
the two reset states at hand are equal.
-/
namespace Abmarl
variable {σ α ω ι : Type}

/-- the wrapped simulation's own reset does not depend on earlier episodes -/
def ResetForgets (S : SimIface σ α ω ι) : Prop := ∀ s1 s2, S.reset s1 = S.reset s2

/-- One `reset` brings two managers with the same configuration and seed, whose simulations reset to
the same state, into the same state and produces the same output, whatever happened before.  The
hypothesis is about the two states at hand only: simulations whose reset forgets on the states they
can reach, not on every state, use this form (`runOps_reset_eq_of`). -/
theorem runOp_reset_eq_of (S : SimIface σ α ω ι) (k : MKind) (hl : k = .turnBased → S.learners ≠ [])
    (m1 m2 : MState σ) (hs : S.reset m1.sim = S.reset m2.sim) (hsh : m1.shuffle = m2.shuffle)
    (ht : m1.tape = m2.tape) :
    runOp (α := α) S k m1 .reset = runOp (α := α) S k m2 .reset := by
  cases k with
  | allStep => simp [runOp, mgrReset, hs, hsh, ht]
  | dynamic => simp [runOp, mgrReset, hs, hsh, ht]
  | turnBased =>
    obtain ⟨a, rest, hL⟩ : ∃ a rest, S.learners = a :: rest := by
      cases hL : S.learners with
      | nil => exact absurd hL (hl rfl)
      | cons a r => exact ⟨a, r, rfl⟩
    simp [runOp, mgrReset, hs, hL, hsh, ht]

theorem runOps_reset_eq_of (S : SimIface σ α ω ι) (k : MKind) (hl : k = .turnBased → S.learners ≠ [])
    (m1 m2 : MState σ) (hs : S.reset m1.sim = S.reset m2.sim) (hsh : m1.shuffle = m2.shuffle)
    (ht : m1.tape = m2.tape) (ops : List (Op α)) :
    runOps S k m1 (.reset :: ops) = runOps S k m2 (.reset :: ops) := by
  simp only [runOps, runOp_reset_eq_of (α := α) S k hl m1 m2 hs hsh ht]

theorem runOp_reset_eq (S : SimIface σ α ω ι) (hR : ResetForgets S) (k : MKind)
    (hl : k = .turnBased → S.learners ≠ []) (m1 m2 : MState σ)
    (hsh : m1.shuffle = m2.shuffle) (ht : m1.tape = m2.tape) :
    runOp (α := α) S k m1 .reset = runOp (α := α) S k m2 .reset :=
  runOp_reset_eq_of S k hl m1 m2 (hR _ _) hsh ht

/-- **C08 (managers)**: `reset` followed by any history gives the same trace on any two managers of
the same kind, configuration and seed over the same simulation — no matter what either went through
before (any number of earlier episodes, each cut anywhere). -/
theorem mgr_reset_forgets (S : SimIface σ α ω ι) (hR : ResetForgets S) (k : MKind)
    (hl : k = .turnBased → S.learners ≠ []) (m1 m2 : MState σ)
    (hsh : m1.shuffle = m2.shuffle) (ht : m1.tape = m2.tape) (ops : List (Op α)) :
    runOps S k m1 (.reset :: ops) = runOps S k m2 (.reset :: ops) :=
  runOps_reset_eq_of S k hl m1 m2 (hR _ _) hsh ht ops

/-- the manager state after a history; it is `stateAfter` of Model/Trainer.lean (`finalState_eq_stateAfter`) -/
def finalState (S : SimIface σ α ω ι) (k : MKind) : MState σ → List (Op α) → MState σ
  | m, [] => m
  | m, op :: ops => finalState S k (runOp S k m op).2 ops

theorem finalState_eq_stateAfter (S : SimIface σ α ω ι) (k : MKind) :
    ∀ (ops : List (Op α)) (m : MState σ), finalState S k m ops = stateAfter S k m ops
  | [], _ => rfl
  | op :: ops, m => finalState_eq_stateAfter S k ops (runOp S k m op).2

theorem finalState_shuffle (S : SimIface σ α ω ι) (k : MKind) :
    ∀ (ops : List (Op α)) (m : MState σ), (finalState S k m ops).shuffle = m.shuffle := by
  intro ops
  induction ops with
  | nil => intro m; rfl
  | cons op ops ih => intro m; simp only [finalState]; rw [ih, runOp_shuffle]

/-- **C08, used versus fresh twin**: an episode played after `reset` on a manager that went through
any prefix history is indistinguishable from the same seeded episode on a newly built manager. -/
theorem fresh_twin_managers (S : SimIface σ α ω ι) (hR : ResetForgets S) (k : MKind)
    (hl : k = .turnBased → S.learners ≠ []) (m0 : MState σ) (history follow : List (Op α)) (seed : Tape) :
    runOps S k { finalState S k m0 history with tape := seed } (.reset :: follow) =
    runOps S k { m0 with tape := seed } (.reset :: follow) :=
  mgr_reset_forgets S hR k hl { finalState S k m0 history with tape := seed } { m0 with tape := seed }
    (finalState_shuffle S k history m0) rfl follow

/-- an explicit `reset()` of the adapter forgets `_should_reset`, the current player and everything
the manager underneath remembered -/
theorem os_reset_eq [DecidableEq α] (S : SimIface σ α ω ι) (hR : ResetForgets S) (k : MKind) (hW : WF S k)
    (hk : k ≠ .dynamic) (hl : S.learners ≠ []) (st1 st2 : OSState σ)
    (hsh : st1.m.shuffle = st2.m.shuffle) (ht : st1.m.tape = st2.m.tape) :
    osReset (α := α) S k st1 = osReset (α := α) S k st2 := by
  have hrs := runOp_reset_eq (α := α) S hR k (fun _ => hl) st1.m st2.m hsh ht
  -- the reset reports somebody, so neither adapter keeps its old current player
  obtain ⟨obs, p, hobs, hp, _, _⟩ := reset_reports_learners (α := α) hW hk hl st2.m
  simp only [osReset, hrs, hobs, hp]

/-- **C08 (OpenSpiel adapter)**: after an explicit `reset()` the play-through is the same on a used
and on a fresh adapter. -/
theorem fresh_twin_openspiel [DecidableEq α] (S : SimIface σ α ω ι) (hR : ResetForgets S) (k : MKind)
    (hW : WF S k) (hk : k ≠ .dynamic) (hl : S.learners ≠ []) (st1 st2 : OSState σ)
    (hsh : st1.m.shuffle = st2.m.shuffle) (ht : st1.m.tape = st2.m.tape)
    (calls : List (Option (List α))) :
    osRun S k st1 (none :: calls) = osRun S k st2 (none :: calls) := by
  simp only [osRun, os_reset_eq S hR k hW hk hl st1 st2 hsh ht]

/-- **C08 (GymABS)**: if the environment's own reset does not depend on the past, neither does the
adapter's — in particular `get_done()`/`get_reward()` right after reset are `None` (finding F4). -/
theorem gymabs_reset_forgets {ε : Type} (E : GymEnv ε α ω ι) (hE : ∀ e1 e2, E.reset e1 = E.reset e2)
    (s1 s2 : GymABSSt ε ω ι) : gymabsReset E s1 = gymabsReset E s2 := by
  simp [gymabsReset, hE s1.env s2.env]

theorem gymabs_reset_clears {ε : Type} (E : GymEnv ε α ω ι) (s : GymABSSt ε ω ι) :
    (gymabsReset E s).reward = none ∧ (gymabsReset E s).done = none := ⟨rfl, rfl⟩

theorem stubFlat_forgets (sc : Script) : ResetForgets (stubSimFlat sc) := fun _ _ => rfl

end Abmarl
