import Abmarl.Props.C01
/-!
# C07 — Managers schedule turns fairly and an unfinished episode can always progress

* `C07_fair_turns_and_progress` — for every simulation satisfying `WF`, every manager kind and
  every history, the model's trace satisfies `specC07`.
* `C07_every_call_returns` — under the caller protocol `ProtocolOK` the turn search of the
  turn-based manager never exhausts a rotation: the model never yields `exhausted` (the real code's
  `for next_agent in cycle(...)` therefore terminates wherever it corresponds to the model),
  and no model call ever yields `crash` or `hang`.  (Outside the protocol it can: a step with no
  action after everybody is done.)
* `c07_*` read the per-entry check `c07Entry` back as the clauses of the property.
* `C07_stub` (for the scripted stub simulation, `stub_WF`), and an example on the history of C01.
-/
namespace Abmarl
variable {σ α ω ι : Type}

/-- **C07** for every simulation, manager kind and history. -/
theorem C07_fair_turns_and_progress [DecidableEq α] (S : SimIface σ α ω ι) (k : MKind)
    (hW : WF S k) (m0 : MState σ) (ops : List (Op α)) :
    specC07 k S.n S.learning (runOps S k m0 ops) = true :=
  runOps_judged hW (fun _ => c07Entry k S.n S.learning) (fun _ _ _ h => h.2.1) ops m0 {} (by intro h; simp at h)

/-- every manager call made under the caller protocol returns normally or with the documented
rejection — in particular the turn search never runs out (`exhausted`), for any history. -/
theorem C07_every_call_returns [DecidableEq α] (S : SimIface σ α ω ι) (k : MKind)
    (hW : WF S k) (m0 : MState σ) (ops : List (Op α)) (i : Nat) (e : Entry α ω ι)
    (hi : (runOps S k m0 ops)[i]? = some e) (hp : ProtocolOK {} (runOps S k m0 ops) i) :
    ∀ er, e.res = .err er → er = .rejected := by
  intro er her
  have h := specLoop_at _ _ _ (C07_fair_turns_and_progress S k hW m0 ops) i e hi hp
  cases hop : e.op <;> simpa [c07Entry, hop, her] using h

section readings
variable {k : MKind} {n : Nat} {learning : Aid → Bool} {g : GSt} {e : Entry α ω ι} {o : Out ω ι}
  {acts : List (Aid × α)}

/-- all-step: after a non-final step exactly the learning agents not yet reported done are reported -/
theorem c07_allStep_reports (h : c07Entry .allStep n learning g e = true) (hop : e.op = .step acts)
    (ho : e.res = .stepOk o) (hnf : o.allDone = false) :
    ∀ a, a ∈ keys o.dones ↔ (a < n ∧ learning a = true ∧ a ∉ g.R) := by
  simp only [c07Entry, hop, ho, hnf, Bool.false_or, Bool.and_eq_true, sameSet_iff] at h
  intro a
  rw [h.1 a]
  simp only [List.mem_filter, List.mem_range, decide_eq_true_eq, and_assoc]

/-- turn-based: a non-final output consists of the agents that finish now, in cyclic listing
order after the previous turn holder, followed by exactly one agent that is not done — the
first one in that order that is neither already reported nor finishing now. -/
theorem c07_turnBased_one_live (h : c07Entry .turnBased n learning g e = true) (hop : e.op = .step acts)
    (ho : e.res = .stepOk o) (hnf : o.allDone = false) :
    turnExpect ((List.range n).filter learning) g e.ghost.simDone = some o.dones := by
  simp only [c07Entry, hop, ho, hnf, Bool.false_or, Bool.and_eq_true, beq_iff_eq] at h
  exact h.1

/-- dynamic: a non-final output reports exactly the nominated agents minus those already done -/
theorem c07_dynamic_reports (h : c07Entry .dynamic n learning g e = true) (hop : e.op = .step acts)
    (ho : e.res = .stepOk o) (hnf : o.allDone = false) :
    ∀ a, a ∈ keys o.dones ↔ (a ∈ e.ghost.nominated ∧ a ∉ g.R) := by
  simp only [c07Entry, hop, ho, hnf, Bool.false_or, Bool.and_eq_true, sameSet_iff] at h
  intro a
  rw [h.1 a]
  simp

/-- whenever `__all__` is false some reported agent is not done (for the dynamic-order manager:
provided the simulation honoured its documented duty to nominate a live agent) -/
theorem c07_progress (h : c07Entry k n learning g e = true) (hop : e.op = .step acts)
    (ho : e.res = .stepOk o) (hnf : o.allDone = false)
    (hdyn : k = .dynamic → nominatesLive g e.ghost = true) :
    ∃ p ∈ o.dones, p.2 = false :=
  c07Entry_progress h hop ho hnf hdyn

end readings

theorem C07_stub (sc : Script) (k : MKind) (m0 : MState StubSt) (ops : List (Op Int))
    (hl : k = .turnBased → ∃ a < sc.n, sc.learning.getD a false = true)
    (hd : k = .dynamic → ScriptWF sc) :
    specC07 k sc.n (stubSim sc).learning (runOps (stubSim sc) k m0 ops) = true :=
  C07_fair_turns_and_progress (stubSim sc) k (stub_WF sc k hl hd) m0 ops

/-- non-vacuity: in the example history of C01 the first step hands the turn to agent 1 (`turnExpect` is
judged there, nobody finishing in between); the second reports three done agents at once — agent 3, done
"before its turn", and the double finish of 0 and 1 — with `__all__`, where `c07Entry` demands nothing more -/
example :
    let tr := runOps (stubSim exScript) .turnBased (mgrInit {} false []) exOps
    (tr.any fun e => match e.res with | .stepOk o => decide (o.dones.length = 3) | _ => false) = true ∧
    specC07 .turnBased 4 (stubSim exScript).learning tr = true := by
  decide +kernel

end Abmarl
