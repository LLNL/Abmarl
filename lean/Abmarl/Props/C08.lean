import Abmarl.Props.C08Base
import Abmarl.Props.C08Grid
/-!
# C08, grid-world state components: a reset restores every agent, whatever happened before

C08 is proved in three files, and this module is the one the audit and the harness name: it imports
the other two so that they come with it.
* `Props/C08Base.lean`: the layers above the simulation — the managers, the OpenSpiel adapter,
  `GymABS`, the flat stub (the super-agent and communication wrappers: the reset clauses of
  `C14_trace` and `C20_trace`);
* `Props/C08Grid.lean`: the grid-world state components forget — two worlds of the same configuration
  are reset to the same outcome (`grid_reset_forgets`, `grid_fresh_twin`);
* here: what a successful reset of the state components establishes (`C08_grid_reset_fresh`): everything the
  property lists, and nothing in the conclusion refers to the dynamic state of the prior world.
-/
namespace Abmarl
open World

/-- each "declared values" clause (`Grp.decl`) holds after the components of a list have been reset
one after the other, provided it held before or the component that owns its field group is in the
list — **in any order** -/
theorem applyComps_decl (cs : List StateComp) (w : World) (t : Tape) (w' : World) (t' : Tape)
    (hok : CompsOK cs w) (h : applyComps cs w t = .ok (w', t')) (g : Grp) :
    (∃ c ∈ cs, c.owns = g) ∨ g.Decl w → g.Decl w' :=
  applyComps_estab Grp.Decl (fun _ _ _ => Grp.Decl.keep)
    (fun c w t w' t' hok h => (applyComp_fresh c w t w' t' hok h).2) cs w t w' t' hok h g

/-- **C08, grid-world state components.**  Whatever the prior world `w` (any earlier episodes, cut
anywhere: moved, dead, disarmed, turned agents; a dirty grid), after a successful reset through a
placement state and the three vitals components, in any order and under any tape:

* the consistency invariant holds (`WInv`): the grid holds exactly the agents, each once, in the
  cell of its position, co-occupants may overlap;
* every agent is alive, with health in (0,1] — the declared one if one is declared;
* ammunition is the declared initial ammunition; orientation is one of the four directions — the
  declared one if one is declared; every agent with a declared initial position stands on it;
* every agent stands in a grid cell that stores it. -/
theorem C08_grid_reset_fresh (cs : List StateComp) (w : World) (t : Tape) (w' : World) (t' : Tape)
    (hpos : ∃ kind o, StateComp.position kind o ∈ cs) (hh : StateComp.health ∈ cs)
    (ha : StateComp.ammo ∈ cs) (ho : StateComp.orient ∈ cs) (hnc : StateComp.healthClosed ∉ cs)
    (hwf : ∀ kind o, StateComp.position kind o ∈ cs → wfPlacement kind o w = true) (hcfg : CfgOK w)
    (hn : NoAmmoC w) (h : applyComps cs w t = .ok (w', t')) :
    w'.WInv = true ∧ w'.n = w.n ∧
    (∀ a < w.n,
      (w'.stOf a).active = true ∧ 0 < (w'.stOf a).health ∧ (w'.stOf a).health ≤ 1 ∧
      (∀ h0, (w.cfgOf a).initHealth = some h0 → (w'.stOf a).health = h0) ∧
      ((w.cfgOf a).hasAmmo = true → (w'.stOf a).ammo = max 0 (w.cfgOf a).initAmmo) ∧
      ((w.cfgOf a).hasOrient = true → 1 ≤ (w'.stOf a).orient ∧ (w'.stOf a).orient ≤ 4 ∧
        ∀ o, (w.cfgOf a).initOrient = some (o + 1) → (w'.stOf a).orient = o + 1) ∧
      (∀ q, (w.cfgOf a).initPos = some q → (w'.stOf a).pos = q) ∧
      w'.inGrid (w'.stOf a).pos = true ∧ a ∈ w'.cell (w'.stOf a).pos) := by
  have hI := C03_reset_establishes cs w t w' t' hpos hh ha ho hnc hwf hcfg hn h
  obtain ⟨k0, o0, hm0⟩ := hpos
  have hok : CompsOK cs w := ⟨hwf, hcfg, hnc, (wfp_of_wf (hwf k0 o0 hm0)).lenS⟩
  obtain ⟨hS, -, -, hH, -, hO⟩ := applyComps_spec cs w t w' t' hwf hcfg hnc hok.len h
  have hD := fun g c (hc : c ∈ cs) (e : c.owns = g) =>
    applyComps_decl cs w t w' t' hok h g (Or.inl ⟨c, hc, e⟩)
  obtain ⟨hn', hcf⟩ := clause_frame hS
  refine ⟨hI, hn', fun a haw => ?_⟩
  have ha' : a < w'.n := hn' ▸ haw
  obtain ⟨h0, h1, hact⟩ := hH (Or.inl hh) a ha'
  have hpl := placed_of_WInv hI ha' hact
  rw [← hcf a]
  exact ⟨hact, h0, h1, hD .health _ hh rfl a ha', hD .ammo _ ha rfl a ha',
    fun hOr => and_assoc.mp ⟨hO (Or.inl ho) a ha' hOr, hD .orient _ ho rfl a ha' hOr⟩,
    hD .pos _ hm0 rfl a ha', hpl.inG, hpl.mem⟩

end Abmarl
