import Abmarl.Lemmas.Comm
import Abmarl.Props.C01
/-!
# C20 — Messages are delivered only after a send followed by a matching receive

Model: `Model/Comm.lean` (`CommunicationHandshakeWrapper` as a functor on simulations whose
observation getter takes a fusion row); judge: `specC20` in `Spec/Comm.lean`, whose expectations
`expBuffer` / `expFuse` are computed from the history of calls alone.

For **every** wrapped simulation (any state / action / observation types, no hypothesis on it), every
number of agents and every history of resets, steps (any subset of acting agents, any bits) and
`get_obs` calls inside the domain `histWF` (on it the code raises nothing; it is strictly smaller than the
set of such inputs: a step in which an agent addresses a `send` to itself, `{z0: {'send': {z0: True}, …}}`,
is outside the domain, yet neither the model nor the wrapper raises on it):

* `buffer_iff`, `buffer_after_step`, `fuse_iff` — the two matrices after any history (by induction
  over the history, `commFinal_cinv`); `fuse_kept_when_idle`, `fuse_false_before_first_action` — the two
  special cases the reading names, as facts about the expectation `expFuse` that `fuse_iff` ties to
  the wrapper;
* `cleared_each_step_and_reset`, `inner_gets_original_actions`;
* `comm_spaces_mem`, `augAct_wf` — augmented spaces as shape facts;
* `C20_trace` — the trace of the model passes the judge `specC20` (no domain hypothesis: calls outside
  the domain end the obligation inside `specC20`);
* `comm_lawful`, `comm_WF`, `C01_applies_to_comm` — the functor lemma: a wrapped simulation again
  satisfies the managers' frame conditions, so the manager theorems apply to it;
* `c20_*`, `expRow_*`, `c20Loop_at` — readings of the judge (its two expectations are read in
  `Lemmas/Comm.lean`: `expBuffer_iff`, `expFuse_iff`);
* `C20_stub` and four evaluated examples (send then receive / receive without send / send without
  receive / a tampered trace that the judge refuses).
-/
namespace Abmarl
variable {σ α ω ι : Type}

theorem c20Loop_sound [DecidableEq α] (S : CommIface σ α ω ι) :
    ∀ (ops : List (COp α)) (c : CState σ) (st : Bool) (past : List (COp α)), LInv S.n c st past →
      c20Loop S.n st past (commRun S c ops) = true := by
  intro ops
  induction ops with
  | nil => intro c st past _; simp [commRun, c20Loop]
  | cons op ops ih =>
    intro c st past hI
    simp only [commRun, c20Loop, commRunOp_op]
    by_cases hwf : opWF S.n st past op = true
    · obtain ⟨h1, h2⟩ := commOp_sound S c st past op hI hwf
      simp [hwf, h1, ih _ _ _ h2]
    · simp [hwf]

/-- **C20** on traces: for every wrapped simulation, every (not yet reset) wrapper state and every
history of calls, the model's trace satisfies `specC20`. -/
theorem C20_trace [DecidableEq α] (S : CommIface σ α ω ι) (c0 : CState σ) (h0 : c0.started = false)
    (ops : List (COp α)) : specC20 S.n (commRun S c0 ops) = true :=
  c20Loop_sound S ops c0 false [] ⟨h0, fun h => by cases h⟩

/-- `st = true ∨ ops ≠ []`: `CInv` is known only once a reset has happened, and after one call inside
the domain one has (`started_of_opWF`) -/
theorem commFinal_cinv (S : CommIface σ α ω ι) :
    ∀ (ops : List (COp α)) (c : CState σ) (st : Bool) (past : List (COp α)), LInv S.n c st past →
      histWF S.n st past ops = true → (st = true ∨ ops ≠ []) →
      CInv S.n (commFinal S c ops) (ops.reverse ++ past)
  | [], _, _, _, hI, _, h => hI.live (h.resolve_right (· rfl))
  | op :: ops, c, st, past, hI, hwf, _ => by
    simp only [histWF, Bool.and_eq_true] at hwf
    have := commFinal_cinv S ops _ _ _ (commRunOp_inv S c st past op hI hwf.1) hwf.2
      (Or.inl (started_of_opWF hwf.1))
    simpa [commFinal] using this

/-- the wrapper's matrices after a history, in terms of the history alone -/
theorem matrices_after_history (S : CommIface σ α ω ι) (c0 : CState σ) (h0 : c0.started = false)
    (ops : List (COp α)) (hwf : histWF S.n false [] ops = true) (hne : ops ≠ []) :
    CInv S.n (commFinal S c0 ops) ops.reverse := by
  simpa using commFinal_cinv S ops c0 false [] ⟨h0, nofun⟩ hwf (Or.inr hne)

/-- `buffer_iff` of DESIGN.md §5 C20: after any history, `buffer[x][y]` holds iff the most recent call that is not a
`get_obs` is a step in which `y` acted and chose to send to `x` (in particular: not after a reset). -/
theorem buffer_iff (S : CommIface σ α ω ι) (c0 : CState σ) (h0 : c0.started = false)
    (ops : List (COp α)) (hwf : histWF S.n false [] ops = true) (hne : ops ≠ [])
    (x y : Aid) (hx : x < S.n) (hy : y < S.n) (hxy : x ≠ y) :
    mget (commFinal S c0 ops).buffer x y = true ↔
      ∃ gs acts rest a, ops.reverse = gs ++ .step acts :: rest ∧ (∀ o ∈ gs, isGetObs o) ∧
        acts.lookup y = some a ∧ a.send.lookup x = some true := by
  rw [(matrices_after_history S c0 h0 ops hwf hne).buf x y hx hy hxy]
  exact expBuffer_iff _ x y

/-- the literal form: immediately after a step, `buffer[x][y]` is true iff `y` acted in *that* step
and chose to send to `x` -/
theorem buffer_after_step (S : CommIface σ α ω ι) (c0 : CState σ) (h0 : c0.started = false)
    (pre : List (COp α)) (acts : List (Aid × CAct α))
    (hwf : histWF S.n false [] (pre ++ [.step acts]) = true)
    (x y : Aid) (hx : x < S.n) (hy : y < S.n) (hxy : x ≠ y) :
    mget (commFinal S c0 (pre ++ [.step acts])).buffer x y = true ↔
      ∃ a, acts.lookup y = some a ∧ a.send.lookup x = some true := by
  rw [(matrices_after_history S c0 h0 _ hwf (by simp)).buf x y hx hy hxy, List.reverse_append]
  exact sentTo_iff acts y x

/-- `fuse_iff` of DESIGN.md §5 C20: after any history, `fuse[x][y]` (the fusion matrix handed to the wrapped `get_obs`)
holds iff at `x`'s most recent action since the last reset the message from `y` was pending — i.e.
`y` acted in the step just before it (only `get_obs` calls in between) and chose to send to `x` —
and `x` chose to receive it.  In particular it is false before `x`'s first action of the episode and
an agent that does not act keeps its row. -/
theorem fuse_iff (S : CommIface σ α ω ι) (c0 : CState σ) (h0 : c0.started = false)
    (ops : List (COp α)) (hwf : histWF S.n false [] ops = true) (hne : ops ≠ [])
    (x y : Aid) (hx : x < S.n) (hy : y < S.n) (hxy : x ≠ y) :
    mget (commFinal S c0 ops).received x y = true ↔
      ∃ pre acts rest a, ops.reverse = pre ++ .step acts :: rest ∧ (∀ o ∈ pre, idleFor x o) ∧
        acts.lookup x = some a ∧ a.receive.lookup y = some true ∧
        ∃ gs acts' rest' b, rest = gs ++ .step acts' :: rest' ∧ (∀ o ∈ gs, isGetObs o) ∧
          acts'.lookup y = some b ∧ b.send.lookup x = some true := by
  rw [(matrices_after_history S c0 h0 ops hwf hne).rcv x y hx hy hxy, expFuse_iff]
  simp only [expBuffer_iff]

/-- the expected fusion row of an agent that does not act in a step is unchanged -/
theorem fuse_kept_when_idle (past : List (COp α)) (acts : List (Aid × CAct α)) (x y : Aid)
    (h : acts.lookup x = none) : expFuse (.step acts :: past) x y = expFuse past x y := by
  simp [expFuse, h]

/-- nothing is expected to be fused for an agent before its first action of the episode -/
theorem fuse_false_before_first_action (pre rest : List (COp α)) (x y : Aid)
    (h : ∀ o ∈ pre, idleFor x o) : expFuse (pre ++ .reset :: rest) x y = false := by
  rw [expFuse_skip x y pre _ h]
  rfl

/-- `reset` leaves both matrices empty; after a step the buffer
holds nothing from a sender that did not act in this step, and it does not depend on what the
buffer (or anything else in the wrapper) held before the step. -/
theorem cleared_each_step_and_reset (S : CommIface σ α ω ι) (c : CState σ) :
    (∀ x y, mget (commReset S c).buffer x y = false ∧ mget (commReset S c).received x y = false) ∧
    (∀ (past : List (COp α)) acts, c.started = true → CInv S.n c past → actsWF S.n past acts = true →
      ∀ x y, acts.lookup y = none → mget (commStep S c acts).st.buffer x y = false) ∧
    (∀ (past past' : List (COp α)) acts (c' : CState σ), c.started = true → CInv S.n c past →
      actsWF S.n past acts = true → c'.started = true → CInv S.n c' past' → actsWF S.n past' acts = true →
      (commStep S c acts).st.buffer = (commStep S c' acts).st.buffer) := by
  refine ⟨fun x y => ⟨mget_mzero S.n x y, mget_mzero S.n x y⟩, ?_, ?_⟩
  · intro past acts hs hI hwf x y hl
    have hp := stepPre_of_wf hs hI hwf
    rw [commStep_eq S c acts hp]
    exact (procSends_mzero S.n acts hp.sends x y).trans (by simp [sentTo, hl])
  · intro past past' acts c' hs hI hwf hs' hI' hwf'
    rw [commStep_eq S c acts (stepPre_of_wf hs hI hwf),
      commStep_eq S c' acts (stepPre_of_wf hs' hI' hwf')]

/-- a step inside the domain raises nothing and the wrapped simulation
is stepped exactly once, with exactly the original `action` entries of the acting agents, same keys,
same order (`simOnly acts = acts.map fun p => (p.1, p.2.action)`). -/
theorem inner_gets_original_actions (S : CommIface σ α ω ι) (c : CState σ) (past : List (COp α))
    (acts : List (Aid × CAct α)) (hs : c.started = true) (hI : CInv S.n c past)
    (hwf : actsWF S.n past acts = true) :
    (commStep S c acts).err = none ∧
    (commStep S c acts).args = some (acts.map fun p => (p.1, p.2.action)) ∧
    (commStep S c acts).st.sim = S.step c.sim (acts.map fun p => (p.1, p.2.action)) := by
  rw [commStep_eq S c acts (stepPre_of_wf hs hI hwf)]
  exact ⟨rfl, rfl, rfl⟩

/-! ## The augmented spaces, as shape facts

`Dict({'obs': inner, 'message_buffer': Dict({other: Discrete(2)})})` and
`Dict({'action': inner, 'send': Dict({other: Discrete(2)}), 'receive': Dict({other: Discrete(2)})})`:
a dictionary is in `Dict({other: Discrete(2) …})` iff its keys are exactly the other agents (bits are
`Bool`, i.e. in `Discrete(2)`, by type). -/

def augObsMem (n : Nat) (innerObs : Aid → ω → Prop) (x : Aid) (o : CObs ω) : Prop :=
  innerObs x o.obs ∧ o.buffer.map (·.1) = others n x

def augActMem (n : Nat) (innerAct : Aid → α → Prop) (x : Aid) (a : CAct α) : Prop :=
  innerAct x a.action ∧ a.send.map (·.1) = others n x ∧ a.receive.map (·.1) = others n x

theorem rowDict_keys (n : Nat) (m : Matrix) (x : Aid) : (rowDict n m x).map (·.1) = others n x := by
  simp [rowDict, Function.comp_def]

theorem others_length (n a : Nat) : (others n a).length = n - (if a < n then 1 else 0) := by
  -- the other agents are all agents with `a` taken out
  unfold others
  rw [← List.nodup_range.erase_eq_filter, List.length_erase]
  simp only [List.mem_range, List.length_range]
  split <;> rfl

/-- every wrapped observation lies in the augmented observation space (its `obs`
entry is an observation of the wrapped simulation, its message buffer has exactly one bit per *other*
agent), the fusion row handed to the wrapped simulation has the same shape, and the actions that
reach the wrapped simulation are the `action` entries of actions of the augmented action space,
hence in the original action space. -/
theorem comm_spaces_mem (S : CommIface σ α ω ι) (innerObs : Aid → ω → Prop) (innerAct : Aid → α → Prop)
    (hobs : ∀ s a row, a < S.n → innerObs a (S.obsF s a row).1) :
    (∀ c a, a < S.n → augObsMem S.n innerObs a ((commSim S).obs c a).1) ∧
    (∀ (c : CState σ) a, (rowDict S.n c.received a).map (·.1) = others S.n a ∧ a ∉ others S.n a ∧
      (others S.n a).length = S.n - (if a < S.n then 1 else 0)) ∧
    (∀ acts : List (Aid × CAct α), (∀ p ∈ acts, augActMem S.n innerAct p.1 p.2) →
      ∀ q ∈ simOnly acts, innerAct q.1 q.2) := by
  refine ⟨fun c a ha => ⟨hobs _ _ _ ha, rowDict_keys _ _ _⟩, fun c a => ⟨rowDict_keys _ _ _, ?_, ?_⟩, ?_⟩
  · intro h; exact (mem_others.mp h).2 rfl
  · exact others_length S.n a
  · intro acts h q hq
    obtain ⟨p, hp, rfl⟩ := List.mem_map.mp hq
    exact (h p hp).1

/-- every action dictionary over known agents whose actions lie in the augmented action space is
inside the domain of the theorems, whatever happened before -/
theorem augAct_wf (n : Nat) (innerAct : Aid → α → Prop) (past : List (COp α))
    (acts : List (Aid × CAct α)) (hd : (acts.map (·.1)).Nodup) (hk : ∀ p ∈ acts, p.1 < n)
    (h : ∀ p ∈ acts, augActMem n innerAct p.1 p.2) : actsWF n past acts = true := by
  simp only [actsWF, isDict, Bool.and_eq_true, decide_eq_true_eq, List.all_eq_true, actWF]
  refine ⟨hd, fun p hp => ⟨hk p hp, ⟨?_, ?_⟩, ?_⟩⟩
  · rw [(h p hp).2.1]; exact others_nodup n p.1
  · intro q hq
    have : q.1 ∈ others n p.1 := by rw [← (h p hp).2.1]; exact List.mem_map_of_mem hq
    obtain ⟨h1, h2⟩ := mem_others.mp this
    simp [h1, h2]
  · intro y hy
    have : y ∈ p.2.receive.map (·.1) := by rw [(h p hp).2.2]; exact hy
    simp [(lookup_isSome_iff_mem_keys _ _).mpr this]

/-- if the wrapped simulation satisfies a manager's well-formedness conditions for every fusion row it
may be handed, so does the wrapper -/
theorem comm_WF (S : CommIface σ α ω ι) (k : MKind) (h : ∀ rows, Lawful (S.toSim rows))
    (hk : WF (S.toSim fun _ => []) k) : WF (commSim S) k where
  lawful := comm_lawful S h
  turn := hk.turn
  dyn := fun e => ⟨(hk.dyn e).1, fun c => (hk.dyn e).2 c.sim⟩

/-- C01 (the done protocol) for every manager over every wrapped simulation -/
theorem C01_applies_to_comm [DecidableEq α] (S : CommIface σ α ω ι) (k : MKind)
    (h : ∀ rows, Lawful (S.toSim rows)) (hk : WF (S.toSim fun _ => []) k)
    (m0 : MState (CState σ)) (ops : List (Op (CAct α))) :
    specC01 k S.n S.learning m0.shuffle (runOps (commSim S) k m0 ops) = true :=
  C01_managers_honour_done_protocol (commSim S) k (comm_WF S k h hk) m0 ops

theorem expRow_keys (n : Nat) (f : Aid → Aid → Bool) (x : Aid) : (expRow n f x).map (·.1) = others n x := by
  simp [expRow, Function.comp_def]

theorem expRow_lookup (n : Nat) (f : Aid → Aid → Bool) (x y : Aid) :
    (expRow n f x).lookup y = if y < n ∧ y ≠ x then some (f x y) else none := by
  unfold expRow
  rw [lookup_map_self (f x)]
  simp only [mem_others]

/-- position `i` of a trace: the calls before it (most recent first) and whether a reset is among them -/
def pastAt (tr : List (CEntry α ω)) (i : Nat) : List (COp α) := ((tr.take i).map (·.op)).reverse
def startedAt (tr : List (CEntry α ω)) (i : Nat) : Bool := (tr.take i).any fun e => isReset e.op

/-- every call up to and including entry `i` is inside the domain -/
def DomainOK (n : Nat) (tr : List (CEntry α ω)) (i : Nat) : Prop :=
  ∀ j ≤ i, ∀ e, tr[j]? = some e → opWF n (startedAt tr j) (pastAt tr j) e.op = true

/-- the judge's ghost state: (a reset has happened, the calls so far) -/
theorem foldl_c20Ghost (tr : List (CEntry α ω)) : ∀ (st : Bool) (past : List (COp α)),
    tr.foldl (fun g e => (g.1 || isReset e.op, e.op :: g.2)) (st, past) =
      (st || tr.any (fun e => isReset e.op), (tr.map (·.op)).reverse ++ past) := by
  induction tr with
  | nil => intro st past; simp
  | cons e es ih => intro st past; simp [ih, Bool.or_assoc]

/-- `specC20` means: the per-call check holds at every call reached inside the domain -/
theorem c20Loop_at [DecidableEq α] (n : Nat) (tr : List (CEntry α ω)) (h : specC20 n tr = true)
    (i : Nat) (e : CEntry α ω) (hi : tr[i]? = some e) (hd : DomainOK n tr i) :
    c20Entry n (pastAt tr i) e = true := by
  have key := guardedLoop_at (loop := fun g tr => c20Loop n g.1 g.2 tr)
    (next := fun g e => (g.1 || isReset e.op, e.op :: g.2))
    (skip := fun g e => !opWF n g.1 g.2 e.op) (chk := fun g e => c20Entry n g.2 e)
    (fun g e es => by simp only [c20Loop]) tr (false, []) h i e hi fun j hj e' he' => by
      have := hd j hj e' he'
      simpa [foldl_c20Ghost, startedAt, pastAt] using this
  simpa [foldl_c20Ghost, pastAt] using key

section readings
variable [DecidableEq α] {n : Nat} {past : List (COp α)} {e : CEntry α ω}

/-- after every call the wrapper's two dictionaries are exactly the expected ones: by `expRow_lookup`,
`expBuffer_iff` and `expFuse_iff` this is the property's statement about the message buffer and about
fusion, for every pair of distinct agents -/
theorem c20_matrices (h : c20Entry n past e = true) :
    e.buffer = expRows n (expBuffer (e.op :: past)) ∧ e.received = expRows n (expFuse (e.op :: past)) := by
  simp only [c20Entry, Bool.and_eq_true, decide_eq_true_eq] at h
  exact ⟨h.1.1, h.1.2⟩

/-- a reset succeeds, reaches neither the wrapped `step` nor `get_obs`, and clears both dictionaries -/
theorem c20_reset_clears (h : c20Entry n past e = true) (hop : e.op = .reset) :
    e.res = .resetOk ∧ e.simArgs = none ∧ e.fusion = none ∧ allClear e.buffer = true ∧
      allClear e.received = true := by
  simp only [c20Entry, hop, Bool.and_eq_true] at h
  cases hr : e.res with
  | resetOk =>
    simp only [hr, Bool.and_eq_true, Option.isNone_iff_eq_none] at h
    exact ⟨rfl, h.2.1.1.1, h.2.1.1.2, h.2.1.2, h.2.2⟩
  | stepOk => simp [hr] at h
  | obsOk o => simp [hr] at h
  | err er => simp [hr] at h

/-- a step inside the domain succeeds and the wrapped simulation receives only the original actions -/
theorem c20_step_inner_args (h : c20Entry n past e = true) {acts : List (Aid × CAct α)}
    (hop : e.op = .step acts) :
    e.res = .stepOk ∧ e.simArgs = some (acts.map fun p => (p.1, p.2.action)) ∧ e.fusion = none := by
  simp only [c20Entry, hop, Bool.and_eq_true] at h
  cases hr : e.res with
  | stepOk =>
    simp only [hr, Bool.and_eq_true, decide_eq_true_eq, Option.isNone_iff_eq_none] at h
    exact ⟨rfl, h.2.1, h.2.2⟩
  | resetOk => simp [hr] at h
  | obsOk o => simp [hr] at h
  | err er => simp [hr] at h

/-- `get_obs(a)` succeeds, does not step the wrapped simulation, hands it the expected fusion row of
`a`, and returns as message buffer the expected row, which is the wrapper's own row for `a` -/
theorem c20_obs (h : c20Entry n past e = true) {a : Aid} (hop : e.op = .getObs a) :
    ∃ o, e.res = .obsOk o ∧ e.simArgs = none ∧ e.fusion = some (expRow n (expFuse past) a) ∧
      o.buffer = expRow n (expBuffer past) a ∧ e.buffer[a]? = some o.buffer := by
  simp only [c20Entry, hop, Bool.and_eq_true] at h
  cases hr : e.res with
  | obsOk o =>
    simp only [hr, Bool.and_eq_true, decide_eq_true_eq, Option.isNone_iff_eq_none] at h
    exact ⟨o, rfl, h.2.1.1.1, h.2.1.1.2, h.2.1.2, h.2.2⟩
  | resetOk => simp [hr] at h
  | stepOk => simp [hr] at h
  | err er => simp [hr] at h

end readings

theorem stubComm_lawful (sc : Script) (rows : Aid → Row) : Lawful ((stubComm sc).toSim rows) :=
  (stub_lawful sc).of_getters (fun _ _ => rfl) rfl rfl rfl rfl rfl

theorem C20_stub (sc : Script) (s0 : StubSt) (ops : List (COp Int)) :
    specC20 sc.n (commRun (stubComm sc) (commInit s0) ops) = true :=
  C20_trace (stubComm sc) (commInit s0) rfl ops

/-- the manager model over the wrapper model over the scripted stub passes the judge of C01 -/
theorem C01_comm_stub (sc : Script) (k : MKind) (m0 : MState (CState StubSt)) (ops : List (Op (CAct Int)))
    (hl : k = .turnBased → ∃ a < sc.n, sc.learning.getD a false = true)
    (hd : k = .dynamic → ScriptWF sc) :
    specC01 k sc.n (stubSim sc).learning m0.shuffle (runOps (commSim (stubComm sc)) k m0 ops) = true :=
  C01_applies_to_comm (stubComm sc) k (stubComm_lawful sc)
    { lawful := stubComm_lawful sc _, turn := (stub_WF sc k hl hd).turn, dyn := (stub_WF sc k hl hd).dyn } m0 ops

/-! ## Non-vacuity (two agents) -/

def ex2 : Script := { n := 2, learning := [true, true], doneAt := [9, 9], finishAt := 9, noms := [] }

/-- agent 0 acts with the given bit towards agent 1, agent 1 acts with the given receive bit -/
def exStep (send01 recv10 : Bool) : COp Int :=
  .step [(0, ⟨1, [(1, send01)], [(1, false)]⟩), (1, ⟨2, [(0, false)], [(0, recv10)]⟩)]

def fusionSeen (tr : List (CEntry Int (List Int))) : List (Option Row) := tr.map (·.fusion)
def bufferSeen (tr : List (CEntry Int (List Int))) : List (Option Row) :=
  tr.map fun e => match e.res with | .obsOk o => some o.buffer | _ => none

/-- send, then receive: the message is pending after the first step and fused after the second -/
example :
    let ops := [.reset, exStep true false, .getObs 1, exStep false true, .getObs 1]
    let tr := commRun (stubComm ex2) (commInit {}) ops
    histWF 2 false [] ops = true ∧ specC20 2 tr = true ∧
    bufferSeen tr = [none, none, some [(0, true)], none, some [(0, false)]] ∧
    fusionSeen tr = [none, none, some [(0, false)], none, some [(0, true)]] ∧
    (tr.map (·.simArgs)) = [none, some [(0, 1), (1, 2)], none, some [(0, 1), (1, 2)], none] := by
  decide +kernel

/-- receive without a send: nothing is fused -/
example :
    let ops := [.reset, exStep false true, .getObs 1, exStep false true, .getObs 1]
    let tr := commRun (stubComm ex2) (commInit {}) ops
    histWF 2 false [] ops = true ∧ specC20 2 tr = true ∧
    bufferSeen tr = [none, none, some [(0, false)], none, some [(0, false)]] ∧
    fusionSeen tr = [none, none, some [(0, false)], none, some [(0, false)]] := by
  decide +kernel

/-- send without a receive: the message is seen in the buffer, nothing is fused, and the buffer is
cleared by the next step -/
example :
    let ops := [.reset, exStep true false, .getObs 1, exStep false false, .getObs 1]
    let tr := commRun (stubComm ex2) (commInit {}) ops
    histWF 2 false [] ops = true ∧ specC20 2 tr = true ∧
    bufferSeen tr = [none, none, some [(0, true)], none, some [(0, false)]] ∧
    fusionSeen tr = [none, none, some [(0, false)], none, some [(0, false)]] := by
  decide +kernel

/-- the judge is not vacuous: a trace in which the fused bit arrives although nothing was sent fails -/
example :
    let ops := [.reset, exStep false true, .getObs 1]
    let tr := commRun (stubComm ex2) (commInit {}) ops
    let bad := tr.map fun e => { e with fusion := e.fusion.map fun r => r.map fun p => (p.1, true) }
    specC20 2 bad = false := by
  decide +kernel

end Abmarl
