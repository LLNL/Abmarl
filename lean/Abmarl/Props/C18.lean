import Abmarl.Lemmas.BuildersText
import Abmarl.Lemmas.BuildersGrid
/-!
# C18 — All simulation builders produce the same simulation for the same layout

The property theorems, the domain `WF` they are stated on, and a few steps between them
(`buildSim_ok`, `fromArray_ok`, `specBuild_merged`, `built_agents`, `specBuild_same`); the other
lemmas are in `Lemmas/Builders*.lean`.  The model is `Model/Builders.lean` (the four builders and
the placement of `PositionState.reset`), the decidable specification is `specBuild` / `specSame` /
`specReset` / `specC18` in `Spec/Builders.lean`.  Within the domain below the theorems are for
**all** shapes `rows × cols`, arrangements of characters and extra-agent dictionaries (including id
clashes); each says in its hypotheses whether it needs a registry without reserved key
(`reservedInRegistry reg = false`) — `C18_all_builders_agree` treats both kinds of registry.

The array builder yields exactly the prescribed simulation (`fromArray_spec`); parsing the text
rendering, building from the grid that holds the layout's agents and building directly from the
prescribed agents give the same (`fromFile_eq_fromArray`, `fromGrid_eq`, `direct_spec`).  Extra
agents are merged, the layout's agent winning an id clash; after a successful reset the pair
(layout agent, its layout cell) is among the placements, and a layout on its own can always be
reset.  `C18_all_builders_agree` puts the five model outcomes under `specC18`; the `…_reading`
theorems say what the Bool-valued predicates mean.

Domain.  `WF`: positive shape, `cells.length = rows * cols` (a numpy array), extra agents form a
dictionary (distinct ids).  For the file, and hence for `C18_all_builders_agree`: every entry is a
character that can stand in a file cell (`CellOk`: not a space, not a line boundary —
alphanumerics and the empty markers are).

## Finding B1 (known_findings.json)
The documentation reserves "zeros, periods, and underscores" for empty space.  Checking the
*integer* 0 (`0 in object_registry`) alone does not do that: a file or a string array never holds
the integer 0, so every `'0'` entry of a registry with the key `'0'` would produce an agent.  The
specification says what the property says (clause 0 of `specClauses`: such a registry must be
rejected); the model says what the code does (`reservedInRegistry` covers `'0'`, `'.'` and `'_'`),
so `C18_all_builders_agree` needs no hypothesis about the registry;
`zero_marker_registered_is_rejected` is the finding's witness.
-/
namespace Abmarl
namespace Builders

/-- well-formed input of the builders -/
structure WF (rows cols : Nat) (cells : List Nat) (extras : List Agent) : Prop where
  rows_pos    : 0 < rows
  cols_pos    : 0 < cols
  shape       : cells.length = rows * cols
  extras_dict : (extras.map (·.id)).Nodup

variable {rows cols : Nat} {cells : List Nat} {reg : Registry} {extras : List Agent}

theorem buildSim_ok (hr : 0 < rows) (hc : 0 < cols) (D : List Agent) :
    buildSim rows cols D = .ok { rows := rows, cols := cols, agents := D } := by
  unfold buildSim
  rw [if_neg (by omega)]

theorem fromArray_ok (h : WF rows cols cells extras) (hres : reservedInRegistry reg = false) :
    fromArray rows cols cells reg extras =
      .ok { rows := rows, cols := cols, agents := (layoutAgents reg cols cells).foldl dictSet extras } := by
  rw [fromArray_eq rows cols cells reg extras h.shape hres, buildSim_ok h.rows_pos h.cols_pos]

theorem specBuild_merged (h : WF rows cols cells extras) :
    specBuild rows cols cells reg extras
      (.ok { rows := rows, cols := cols, agents := (layoutAgents reg cols cells).foldl dictSet extras }) = true :=
  specBuild_iff.mpr ⟨rfl, rfl, nodup_foldl_dictSet _ _ h.extras_dict, fun x =>
    mem_foldl_dictSet _ extras x h.extras_dict (layoutAgents_ids_nodup reg cols cells)⟩

/-- the array builder yields the prescribed simulation: one agent per registered character in
row-major reading order, the k-th occurrence of a character numbered k (from 0), initial position =
coordinates, reserved and unregistered entries ignored, grid size = array shape, extras merged. -/
theorem fromArray_spec (h : WF rows cols cells extras) (hres : reservedInRegistry reg = false) :
    specBuild rows cols cells reg extras (fromArray rows cols cells reg extras) = true := by
  rw [fromArray_ok h hres]
  exact specBuild_merged h

/-- a text file holding the same characters (one line per row, entries separated by one space, with
or without a final newline) builds the same simulation, for every registry and every extra agents
(and is rejected exactly when the array is). -/
theorem fromFile_eq_fromArray (h : WF rows cols cells extras) (hok : ∀ c ∈ cells, CellOk c) :
    fromFile (render rows cols cells) reg extras = fromArray rows cols cells reg extras ∧
    fromFile (render rows cols cells ++ [10]) reg extras = fromArray rows cols cells reg extras := by
  have ht := tokens_render h.rows_pos h.cols_pos (Nat.le_of_eq h.shape.symm) hok
  have h0 := ht [] (.inl rfl)
  rw [List.append_nil] at h0
  exact ⟨fromFile_of_tokens rows cols cells reg extras _ h.rows_pos h.shape h0,
    fromFile_of_tokens rows cols cells reg extras _ h.rows_pos h.shape (ht [10] (.inr rfl))⟩

/-- the round trip on its own: splitting the rendering gives the rows' characters back -/
theorem parse_render (h : WF rows cols cells extras) (hok : ∀ c ∈ cells, CellOk c) :
    (splitLines (normCRLF (render rows cols cells))).map splitSp =
      (rowsOf cols rows cells).map (fun row => row.map (fun c => [c])) := by
  have := tokens_render h.rows_pos h.cols_pos (Nat.le_of_eq h.shape.symm) hok [] (.inl rfl)
  rwa [List.append_nil] at this

/-- building from the grid that holds exactly the layout's agents (each placed on its initial
position, in reading order) gives the array builder's simulation: same size, same agents, same
dictionary order. -/
theorem fromGrid_eq (h : WF rows cols cells extras) (hres : reservedInRegistry reg = false) :
    fromGrid rows cols (gridOfAgents rows cols (layoutAgents reg cols cells)) extras =
      fromArray rows cols cells reg extras := by
  rw [fromGrid_gridOfAgents rows cols cells reg extras h.shape,
    fromArray_eq rows cols cells reg extras h.shape hres]

theorem fromGrid_spec (h : WF rows cols cells extras) :
    specBuild rows cols cells reg extras
      (fromGrid rows cols (gridOfAgents rows cols (layoutAgents reg cols cells)) extras) = true := by
  rw [fromGrid_gridOfAgents rows cols cells reg extras h.shape, buildSim_ok h.rows_pos h.cols_pos]
  exact specBuild_merged h

/-- `build_sim` with the prescribed agents given explicitly -/
theorem direct_spec (h : WF rows cols cells extras) :
    specBuild rows cols cells reg extras
      (direct rows cols (expectedAgents reg cols cells extras)) = true := by
  rw [direct, buildSim_ok h.rows_pos h.cols_pos]
  refine specBuild_iff.mpr ⟨rfl, rfl, ?_, fun _ => mem_expectedAgents⟩
  rw [expectedAgents, List.map_append, List.nodup_append]
  refine ⟨layoutAgents_ids_nodup reg cols cells,
    h.extras_dict.sublist (List.Sublist.map _ List.filter_sublist), ?_⟩
  rintro _ hi _ hj rfl
  obtain ⟨l, hl, e⟩ := List.mem_map.mp hi
  obtain ⟨x, hx, rfl⟩ := List.mem_map.mp hj
  exact (mem_keptExtras.mp hx).2 l hl e

theorem built_agents (h : WF rows cols cells extras) (hres : reservedInRegistry reg = false)
    {sim : Sim} (hs : fromArray rows cols cells reg extras = .ok sim) :
    sim.rows = rows ∧ sim.cols = cols ∧ (sim.agents.map (·.id)).Nodup ∧
      ∀ x, x ∈ sim.agents ↔
        x ∈ layoutAgents reg cols cells ∨ (x ∈ extras ∧ ∀ l ∈ layoutAgents reg cols cells, l.id ≠ x.id) :=
  specBuild_iff.mp (hs ▸ fromArray_spec h hres)

/-- the built simulation holds every layout agent, every extra agent whose id no layout agent has,
and nothing else; ids stay unique. -/
theorem extra_agents_merge (h : WF rows cols cells extras) (hres : reservedInRegistry reg = false) :
    ∃ sim, fromArray rows cols cells reg extras = .ok sim ∧ sim.rows = rows ∧ sim.cols = cols ∧
      (sim.agents.map (·.id)).Nodup ∧
      ∀ x, x ∈ sim.agents ↔
        x ∈ layoutAgents reg cols cells ∨
          (x ∈ extras ∧ ∀ l ∈ layoutAgents reg cols cells, l.id ≠ x.id) :=
  ⟨_, fromArray_ok h hres, built_agents h hres (fromArray_ok h hres)⟩

/-- **the layout's agent wins**: on an id clash the agent found under that id in the built
simulation is the layout's, whatever the extra agent looked like. -/
theorem layout_wins (h : WF rows cols cells extras) (hres : reservedInRegistry reg = false)
    {sim : Sim} (hs : fromArray rows cols cells reg extras = .ok sim)
    {l x : Agent} (hl : l ∈ layoutAgents reg cols cells) (hx : x ∈ sim.agents) (hid : x.id = l.id) :
    x = l := by
  obtain ⟨_, _, hnd, hmem⟩ := built_agents h hres hs
  exact eq_of_id_eq hnd hx ((hmem l).mpr (.inl hl)) hid

/-- whenever `reset` of the built simulation succeeds, the placements it returns contain, for
every layout agent, the pair (its id, the cell the layout put it on) — whatever the extra agents
are.  (That the list holds no second entry for the same agent is not part of the statement;
`resetPositions_ok` and `placeInitial_ok` give the whole list: one entry, in dictionary order, for
every agent of the simulation that has an initial position.) -/
theorem layout_reset_positions (h : WF rows cols cells extras) (hres : reservedInRegistry reg = false)
    {sim : Sim} (hs : fromArray rows cols cells reg extras = .ok sim)
    {placed : List (AId × Pos)} (hp : resetPositions sim = .ok placed) :
    ∀ j ch enc, cells[j]? = some ch → reg.lookup ch = some enc →
      (AId.gen ch ((cells.take j).count ch), (j / cols, j % cols)) ∈ placed := by
  intro j ch enc hj hl
  have hin := ((built_agents h hres hs).2.2.2 _).mpr
    (.inl (mem_layoutAgents.mpr ⟨j, ch, enc, hj, hl, rfl⟩))
  rw [placeInitial_ok _ _ _ _ _ (resetPositions_ok hp)]
  exact List.mem_filterMap.mpr ⟨_, hin, rfl⟩

/-- a layout on its own (at least one agent, every extra agent replaced by a layout agent or absent)
can always be reset: its agents claim distinct cells inside the grid. -/
theorem layout_reset_succeeds (h : WF rows cols cells extras) (hres : reservedInRegistry reg = false)
    {sim : Sim} (hs : fromArray rows cols cells reg extras = .ok sim)
    (hne : layoutAgents reg cols cells ≠ [])
    (hk : keptExtras (layoutAgents reg cols cells) extras = []) :
    ∃ placed, resetPositions sim = .ok placed := by
  obtain ⟨hr, hc, hnd, hmem⟩ := built_agents h hres hs
  have hall : ∀ x ∈ sim.agents, x ∈ layoutAgents reg cols cells := fun x hx =>
    ((hmem x).mp hx).resolve_right fun hx' => by simpa [hk] using mem_keptExtras.mpr hx'
  obtain ⟨l, hl⟩ := List.exists_mem_of_ne_nil _ hne
  refine resetPositions_succeeds (List.ne_nil_of_mem ((hmem l).mpr (.inl hl))) ?_ ?_
  · intro a ha
    obtain ⟨j, ch, enc, hj, _, rfl⟩ := mem_layoutAgents.mp (hall a ha)
    rw [hr, hc]
    exact ⟨_, rfl, div_mod_lt (h.shape ▸ (List.getElem?_eq_some_iff.mp hj).1)⟩
  · rw [List.Nodup, List.pairwise_map] at hnd ⊢
    exact hnd.imp_of_mem fun ha hb hab e =>
      hab (congrArg Agent.id (layoutAgents_ipos_inj (hall _ ha) (hall _ hb) e))

/-- a registry with the key `'0'`, `'.'` or `'_'` is rejected by the array and the file builder
before anything is read -/
theorem reserved_rejected (hres : reservedInRegistry reg = true) (text : List Nat) :
    fromArray rows cols cells reg extras = .error .reservedKey ∧
      fromFile text reg extras = .error .reservedKey := by
  simp [fromArray, fromFile, hres]

theorem specBuild_same {o1 o2 : Except Err Sim}
    (h1 : specBuild rows cols cells reg extras o1 = true)
    (h2 : specBuild rows cols cells reg extras o2 = true) : specSame o1 o2 = true := by
  cases o1 with
  | error _ => cases h1
  | ok a =>
    cases o2 with
    | error _ => cases h2
    | ok b =>
      obtain ⟨r1, c1, n1, m1⟩ := specBuild_iff.mp h1
      obtain ⟨r2, c2, n2, m2⟩ := specBuild_iff.mp h2
      exact specSame_iff.mpr ⟨r1.trans r2.symm, c1.trans c2.symm, n1, n2, fun x => (m1 x).trans (m2 x).symm⟩

/-- the specification's reserved characters are the ones the code checks -/
theorem regReserved_eq : regReserved reg = reservedInRegistry reg := rfl

theorem isReservedErr_iff {o : Except Err Sim} : isReservedErr o = true ↔ o = .error .reservedKey := by
  unfold isReservedErr
  split
  · simp
  · rename_i h
    simpa using h

/-- **C18** for every shape, arrangement of file-cell characters (`hok`), registry and extra-agent
dictionary: the outcomes of the four builders (array; file holding the rendering; grid holding the
layout's agents; direct build from the prescribed agents) and the reset of the built simulation
satisfy `specC18`. -/
theorem C18_all_builders_agree (h : WF rows cols cells extras) (hok : ∀ c ∈ cells, CellOk c) :
    specC18 rows cols cells reg extras (render rows cols cells)
      (runAll rows cols cells reg extras (render rows cols cells)
        (gridOfAgents rows cols (layoutAgents reg cols cells))
        (expectedAgents reg cols cells extras)) = true := by
  have hg := fromGrid_spec (reg := reg) h
  have hd := direct_spec (reg := reg) h
  have hf := (fromFile_eq_fromArray (reg := reg) h hok).1
  cases hres : reservedInRegistry reg with
  | true =>
    have hR : regReserved reg = true := by rw [regReserved_eq, hres]
    obtain ⟨ha, _⟩ := reserved_rejected (rows := rows) (cols := cols) (cells := cells)
      (extras := extras) hres []
    -- clause 0: both builders reject (`ha`; `hf` carries it to the file); clauses 1, 2, 5 are
    -- excused by the rejection; 3 and 4 are `hg`, `hd`; 6 asks nothing of a failed build
    simp only [specC18, specClauses, runAll, hf, ha, hR, hg, hd, isReservedErr]
    simp
  | false =>
    have hR : regReserved reg = false := by rw [regReserved_eq, hres]
    have ha := fromArray_spec h hres
    have hsg := specBuild_same ha hg
    have hsd := specBuild_same ha hd
    have hsa := specBuild_same ha ha
    have hreset : specReset reg cols cells extras (resetPositions
        { rows := rows, cols := cols, agents := (layoutAgents reg cols cells).foldl dictSet extras }) = true := by
      cases hrp : resetPositions
          { rows := rows, cols := cols, agents := (layoutAgents reg cols cells).foldl dictSet extras } with
      | ok placed =>
        simp only [specReset, List.all_eq_true]
        intro l hl
        obtain ⟨j, ch, enc, hj, hlk, rfl⟩ := mem_layoutAgents.mp hl
        simp only [decide_eq_true_eq]
        exact layout_reset_positions h hres (fromArray_ok h hres) hrp j ch enc hj hlk
      | error e =>
        -- a failed reset is excused by contraposition with `layout_reset_succeeds`
        simp only [specReset, Bool.or_eq_true, Bool.not_eq_true', List.isEmpty_iff, List.isEmpty_eq_false_iff]
        refine Decidable.or_iff_not_imp_left.mpr fun hne hk => ?_
        obtain ⟨placed, hpl⟩ := layout_reset_succeeds h hres (fromArray_ok h hres) hne hk
        cases hrp.symm.trans hpl
    -- with `hR` no clause is excused: 0 is void, 1–4 are `ha`, `hf`, `hg`, `hd`, 5 is `hsg`, `hsd`,
    -- `hsa`; what remains is clause 6, `hreset`, once the array outcome is known
    simp only [specC18, specClauses, runAll, hf, hR, hg, hd, ha, hsg, hsd, hsa]
    rw [fromArray_ok h hres]
    simpa using hreset

/-! ## What the predicates say (readings) -/

/-- `specBuild` on a successful outcome: the grid has the layout's shape; ids are unique; entry
`j` of the layout, if its character `ch` is registered with encoding `enc`, yields the agent
`ch`-number-(occurrences of `ch` before `j`) with that encoding and the initial position
`(j / cols, j % cols)`; an extra agent is present iff no layout agent has its id; and there is
nothing else (so reserved and unregistered entries yield nothing). -/
theorem specBuild_reading {sim : Sim}
    (h : specBuild rows cols cells reg extras (.ok sim) = true) :
    sim.rows = rows ∧ sim.cols = cols ∧ (sim.agents.map (·.id)).Nodup ∧
    (∀ j ch enc, cells[j]? = some ch → reg.lookup ch = some enc →
      ({ id := .gen ch ((cells.take j).count ch), enc := enc, ipos := some (j / cols, j % cols) } : Agent)
        ∈ sim.agents) ∧
    (∀ e ∈ extras, (∀ l ∈ layoutAgents reg cols cells, l.id ≠ e.id) → e ∈ sim.agents) ∧
    (∀ x ∈ sim.agents,
      (∃ j ch enc, cells[j]? = some ch ∧ reg.lookup ch = some enc ∧
        x = { id := .gen ch ((cells.take j).count ch), enc := enc, ipos := some (j / cols, j % cols) }) ∨
      (x ∈ extras ∧ ∀ l ∈ layoutAgents reg cols cells, l.id ≠ x.id)) := by
  obtain ⟨hr, hc, hnd, hmem⟩ := specBuild_iff.mp h
  exact ⟨hr, hc, hnd,
    fun j ch enc hj hl => (hmem _).mpr (.inl (mem_layoutAgents.mpr ⟨j, ch, enc, hj, hl, rfl⟩)),
    fun e he hn => (hmem e).mpr (.inr ⟨he, hn⟩),
    fun x hx => ((hmem x).mp hx).imp_left mem_layoutAgents.mp⟩

/-- the same in row/column coordinates: the entry in row `r`, column `c` (flat index
`r * cols + c` of the row-major listing) yields an agent with initial position `(r, c)` — not
`(c, r)`, not any other cell. -/
theorem specBuild_reading_rc {sim : Sim}
    (h : specBuild rows cols cells reg extras (.ok sim) = true)
    {r c ch enc : Nat} (hc : c < cols) (hj : cells[r * cols + c]? = some ch)
    (hl : reg.lookup ch = some enc) :
    ({ id := .gen ch ((cells.take (r * cols + c)).count ch), enc := enc, ipos := some (r, c) } : Agent)
      ∈ sim.agents := by
  have := (specBuild_reading h).2.2.2.1 (r * cols + c) ch enc hj hl
  obtain ⟨hd, hm⟩ := mul_add_div_mod (a := r) (b := c) (c := cols) hc
  rwa [hd, hm] at this

/-- the first occurrence of a character gets number 0 (that later occurrences get larger numbers is
`numbering_monotone` in `Lemmas/Builders.lean`, where the layout's distinct ids rest on it) -/
theorem numbering_starts_at_zero {j ch : Nat} (hfirst : ∀ i < j, cells[i]? ≠ some ch) :
    (cells.take j).count ch = 0 := by
  rw [List.count_eq_zero, List.mem_take_iff_getElem]
  rintro ⟨i, hi, he⟩
  exact hfirst i (by omega) (by rw [List.getElem?_eq_getElem (by omega), he])

/-- `specSame`: same grid size, and an agent (id, encoding, initial position) is in one
simulation iff it is in the other; ids are unique on both sides -/
theorem specSame_reading {a b : Sim} (h : specSame (.ok a) (.ok b) = true) :
    a.rows = b.rows ∧ a.cols = b.cols ∧ (a.agents.map (·.id)).Nodup ∧ (b.agents.map (·.id)).Nodup ∧
      ∀ x, x ∈ a.agents ↔ x ∈ b.agents :=
  specSame_iff.mp h

/-- `specReset` on a successful reset: the placements contain the pair (id of the agent made for
entry `j`, `(j / cols, j % cols)`) -/
theorem specReset_reading {placed : List (AId × Pos)}
    (h : specReset reg cols cells extras (.ok placed) = true) :
    ∀ j ch enc, cells[j]? = some ch → reg.lookup ch = some enc →
      (AId.gen ch ((cells.take j).count ch), (j / cols, j % cols)) ∈ placed := by
  intro j ch enc hj hl
  simp only [specReset, List.all_eq_true] at h
  have := h _ (mem_layoutAgents.mpr ⟨j, ch, enc, hj, hl, rfl⟩)
  simpa using this

/-- `specC18` in the domain of the property (no empty marker registered, the file holds the
rendering): every builder's outcome is the prescribed simulation, the four agree, and `specReset`
holds of the reset (see `specReset_reading`) -/
theorem specC18_reading {text : List Nat} {o : Outcomes}
    (h : specC18 rows cols cells reg extras text o = true)
    (hR : regReserved reg = false) (hT : isRendering rows cols cells text = true) :
    specBuild rows cols cells reg extras o.array = true ∧
    specBuild rows cols cells reg extras o.file = true ∧
    specBuild rows cols cells reg extras o.grid = true ∧
    specBuild rows cols cells reg extras o.direct = true ∧
    specSame o.array o.file = true ∧ specSame o.array o.grid = true ∧
    specSame o.array o.direct = true ∧
    (∀ sim, o.array = .ok sim → specReset reg cols cells extras o.reset = true) := by
  simp only [specC18, specClauses, hR, hT, List.all_cons, List.all_nil, id, Bool.and_eq_true,
    Bool.not_false, Bool.not_true, Bool.false_and, Bool.false_or, Bool.true_or, Bool.and_true] at h
  obtain ⟨_, ha, hf, hg, hd, ⟨⟨hsg, hsd⟩, hsf⟩, hr⟩ := h
  refine ⟨ha, hf, hg, hd, hsf, hsg, hsd, fun sim hs => ?_⟩
  rw [hs] at hr
  exact hr

/-- with an empty marker registered the only acceptable outcome of the array and file builders
is the rejection -/
theorem specC18_reserved {text : List Nat} {o : Outcomes}
    (h : specC18 rows cols cells reg extras text o = true) (hR : regReserved reg = true) :
    o.array = .error .reservedKey ∧ o.file = .error .reservedKey := by
  simp only [specC18, specClauses, hR, List.all_cons, id, Bool.and_eq_true, Bool.not_true,
    Bool.false_or, isReservedErr_iff] at h
  exact h.1

/-! ## Non-vacuity: an asymmetric 2×3 layout with a repeated character (`A`, three times, in
both directions), an unregistered one (`X`) and a reserved one (`_`); extra agents: one without
a position, one whose id clashes with the layout's second `A` (other encoding, other position),
one with a free initial position.
```
A _ B
X A A
``` -/

def exCells : List Nat := [65, 95, 66, 88, 65, 65]
def exReg : Registry := [(65, 1), (66, 2)]
def exExtras : List Agent :=
  [ { id := .other 0, enc := 5, ipos := none },
    { id := .gen 65 1, enc := 7, ipos := some (0, 1) },
    { id := .other 1, enc := 6, ipos := some (1, 0) } ]

example : WF 2 3 exCells exExtras := ⟨by decide, by decide, by decide, by decide⟩
example : ∀ c ∈ exCells, CellOk c := by decide
example : ∀ p ∈ exReg, p.1 ≠ 48 := by decide

/-- what the array builder returns on it: extras first, the clashing one replaced in place by the
layout's agent (encoding 1 at (1, 1), not encoding 7 at (0, 1)) -/
example : fromArray 2 3 exCells exReg exExtras = .ok { rows := 2, cols := 3, agents :=
    [ { id := .other 0, enc := 5, ipos := none },
      { id := .gen 65 1, enc := 1, ipos := some (1, 1) },
      { id := .other 1, enc := 6, ipos := some (1, 0) },
      { id := .gen 65 0, enc := 1, ipos := some (0, 0) },
      { id := .gen 66 0, enc := 2, ipos := some (0, 2) },
      { id := .gen 65 2, enc := 1, ipos := some (1, 2) } ] } := by decide

example : render 2 3 exCells = [65, 32, 95, 32, 66, 10, 88, 32, 65, 32, 65] := by decide

example :
    let o := runAll 2 3 exCells exReg exExtras (render 2 3 exCells)
      (gridOfAgents 2 3 (layoutAgents exReg 3 exCells)) (expectedAgents exReg 3 exCells exExtras)
    o.file = o.array ∧ o.grid = o.array ∧
    o.reset = .ok [(.gen 65 1, (1, 1)), (.other 1, (1, 0)), (.gen 65 0, (0, 0)), (.gen 66 0, (0, 2)),
      (.gen 65 2, (1, 2))] ∧
    specC18 2 3 exCells exReg exExtras (render 2 3 exCells) o = true := by decide

/-- the specification is not trivially true: a transposed position, a wrong number, an extra
agent winning the clash, a missing agent each falsify it -/
example : specBuild 2 3 exCells exReg [] (.ok { rows := 2, cols := 3, agents :=
    [ { id := .gen 65 0, enc := 1, ipos := some (0, 0) }, { id := .gen 66 0, enc := 2, ipos := some (2, 0) },
      { id := .gen 65 1, enc := 1, ipos := some (1, 1) }, { id := .gen 65 2, enc := 1, ipos := some (1, 2) } ] })
    = false := by decide
example : specBuild 2 3 exCells exReg [] (.ok { rows := 2, cols := 3, agents :=
    [ { id := .gen 65 0, enc := 1, ipos := some (0, 0) }, { id := .gen 66 1, enc := 2, ipos := some (0, 2) },
      { id := .gen 65 2, enc := 1, ipos := some (1, 1) }, { id := .gen 65 3, enc := 1, ipos := some (1, 2) } ] })
    = false := by decide
example : specBuild 2 3 exCells exReg exExtras (.ok { rows := 2, cols := 3, agents :=
    [ { id := .other 0, enc := 5, ipos := none }, { id := .gen 65 1, enc := 7, ipos := some (0, 1) },
      { id := .other 1, enc := 6, ipos := some (1, 0) }, { id := .gen 65 0, enc := 1, ipos := some (0, 0) },
      { id := .gen 66 0, enc := 2, ipos := some (0, 2) }, { id := .gen 65 2, enc := 1, ipos := some (1, 2) } ] })
    = false := by decide
example : specBuild 2 3 exCells exReg [] (.ok { rows := 2, cols := 3, agents :=
    [ { id := .gen 65 0, enc := 1, ipos := some (0, 0) }, { id := .gen 66 0, enc := 2, ipos := some (0, 2) },
      { id := .gen 65 1, enc := 1, ipos := some (1, 1) } ] }) = false := by decide

/-- **the witness of finding B1**: with the character `'0'` (48) registered the builders reject the
registry, as they do for `'.'` and `'_'`; every clause of the specification holds -/
theorem zero_marker_registered_is_rejected :
    let cells := [65, 48, 48]
    let reg : Registry := [(65, 1), (48, 2)]
    let o := runAll 1 3 cells reg [] (render 1 3 cells)
      (gridOfAgents 1 3 (layoutAgents reg 3 cells)) (expectedAgents reg 3 cells [])
    specC18 1 3 cells reg [] (render 1 3 cells) o = true ∧ o.array = .error .reservedKey := by decide

end Builders
end Abmarl
