import Abmarl.Lemmas.AdaptersX
import Abmarl.Props.C01
/-!
# C15 — Gym and OpenSpiel adapters preserve the episode and let it finish

* `C15_gym_projection` — `GymWrapper.reset/step` return exactly the single learning agent's entries
  of the manager's output of the one manager call they make (or pass the manager's rejection on).
* `C15_openspiel` — for every simulation satisfying `WF` with at least one learning agent, for the
  turn-based and the simultaneous (all-step) manager and for **every** sequence of adapter calls
  (explicit resets and steps with well-formed action lists), the model's play-through satisfies
  `specC15`: every learning agent is present in every time step's observations, legal actions and
  rewards; only actions of agents not yet done are forwarded, unchanged; a time step is LAST exactly
  when the manager reports `__all__`; the call after LAST starts a new episode; in turn-based play the
  current player can still act; **every step call forwards exactly one manager call** (no fake step,
  no rejection), so a play-through reaches LAST exactly when the underlying episode ends.
* `c15_*` / `c15x_*` — readings of the per-call checks `c15Call` / `c15XItem` that `specC15` / `specC15X`
  evaluate at every call.
* `C15_openspiel_with_setter` — the same over the richer call alphabet `OSIn` (resets, steps with
  **any** action list, and the public setter `current_player = a` for **any** `a`, learning agent or not,
  anywhere in the history): the model's play-through satisfies `specC15X` — all learning agents present,
  **never an action forwarded for an agent already reported done** (`osRunX_never_forwards_done`,
  `c15x_never_forwards_done`), LAST iff `__all__`, restart after LAST, the setter accepts exactly the
  learning agents, an action for a done agent is answered by the fake MID step that forwards nothing,
  and in turn-based play **every** time step, the fake step's included, names a current player who can
  still act.  `osRunX_of_plain`: without setter calls `osRunX` is `osRun`; `specC15_of_specC15X`:
  `specC15X` contains `specC15`.
-/
namespace Abmarl
variable {σ α ω ι : Type}

/-- one gym call under the manager invariant: it returns the single learning agent's entries of the
manager's output (or passes the rejection on) — never a `KeyError` -/
theorem gymCall_sound [DecidableEq α] [DecidableEq ω] [DecidableEq ι] {S : SimIface σ α ω ι} {k : MKind}
    (hW : WF S k) (hk : k ≠ .dynamic) {ag : Aid} (hag : S.learners = [ag]) (m : MState σ) (g : GSt)
    (c : Option α) (hI : g.started = true → g.over = false → Inv S k m g)
    (hp : c.isSome = true → g.started = true ∧ g.over = false) :
    specGym ag c (gymCall S k ag m c).1 (gymCall S k ag m c).2.1 = true ∧
    ((gNext g (gymCall S k ag m c).2.1).started = true → (gNext g (gymCall S k ag m c).2.1).over = false →
      Inv S k (gymCall S k ag m c).2.2 (gNext g (gymCall S k ag m c).2.1)) := by
  have hagL : ag ∈ S.learners := by rw [hag]; simp
  have hpart := participating_eq_learners (S := S) hk
  cases c with
  | none =>
    obtain ⟨_, _, hinv'⟩ := reset_sound (α := α) hW m g
    obtain ⟨obs, _, hobs, _, _, hin⟩ := reset_reports_learners (α := α) hW hk (hag ▸ List.cons_ne_nil _ _) m
    obtain ⟨rs, hrs⟩ : ∃ rs, rs = runOp (α := α) S k m .reset := ⟨_, rfl⟩
    rw [← hrs] at hinv' hobs
    obtain ⟨o, ho⟩ := lookup_of_mem_keys obs ag (hin ag (by simp [hag]))
    have hE : gymCall (α := α) S k ag m none = (.ok ⟨o, none, none, none⟩, rs.1, rs.2) := by
      simp only [gymCall, ← hrs, hobs, ho]
    rw [hE]
    exact ⟨by simp [specGym, hobs, ho], hinv'⟩
  | some a =>
    obtain ⟨hst, hov⟩ := hp rfl
    have hInv := hI hst hov
    obtain ⟨h01, h07, hinv'⟩ :=
      op_sound hW m g (.step [(ag, a)]) (fun _ _ => hInv) (fun _ _ => ⟨hst, hov⟩)
    obtain ⟨r, hr⟩ : ∃ r, r = runOp S k m (.step [(ag, a)]) := ⟨_, rfl⟩
    rw [← hr] at h01 h07 hinv'
    have hop : r.1.op = .step [(ag, a)] := by rw [hr]; exact runOp_op S k m _
    have h01' : c01Step k S.n S.learning m.shuffle g [(ag, a)] r.1 = true := by
      simpa [c01Entry, hop] using h01
    cases hres : r.1.res with
    | resetOk o => simp [c01Step, hres] at h01'
    | err er =>
      have hE : gymCall S k ag m (some a) = (.error er, r.1, r.2) := by
        simp only [gymCall, ← hr, hres]
      rw [hE]
      exact ⟨by simp [specGym, hres], hinv'⟩
    | stepOk out =>
      have u := c01Step_unpack h01' hres
      have hnR : ag ∉ g.R := by simpa using u.notBlocked
      -- somebody is reported, and only learning agents are: the single learning agent
      have hin : ag ∈ keys out.obs := by
        obtain ⟨b, hb⟩ := u.reported_ne_nil
          (fun hAD => c07Entry_progress h07 hop hres hAD (fun h => absurd h hk)) ⟨ag, hpart ▸ hagL, hnR⟩
        have hbL : b ∈ S.learners := hpart ▸ u.part b hb
        rw [hag] at hbL
        exact List.mem_singleton.mp hbL ▸ hb
      obtain ⟨o, ho⟩ := lookup_of_mem_keys out.obs ag hin
      obtain ⟨rw', hrw⟩ := lookup_of_mem_keys out.rewards ag (by rw [← keys, u.keysR]; exact hin)
      obtain ⟨d, hd⟩ := lookup_of_mem_keys out.dones ag (by rw [← keys, u.keysD]; exact hin)
      obtain ⟨i, hi⟩ := lookup_of_mem_keys out.infos ag (by rw [← keys, u.keysI]; exact hin)
      have hE : gymCall S k ag m (some a) = (.ok ⟨o, some rw', some d, some i⟩, r.1, r.2) := by
        simp only [gymCall, ← hr, hres, ho, hrw, hd, hi]
      rw [hE]
      exact ⟨by simp [specGym, hres, ho, hrw, hd, hi], hinv'⟩

/-- **C15 (gym)** for every simulation with a single learning agent, both manager kinds and every
sequence of gym calls. -/
theorem C15_gym_projection [DecidableEq α] [DecidableEq ω] [DecidableEq ι] (S : SimIface σ α ω ι)
    (k : MKind) (hW : WF S k) (hk : k ≠ .dynamic) (ag : Aid) (hag : S.learners = [ag]) :
    ∀ (calls : List (Option α)) (m : MState σ) (g : GSt),
      (g.started = true → g.over = false → Inv S k m g) →
      gymLoop ag g calls (gymRun S k ag m calls) = true :=
  judged_run (f := fun m c => (((gymCall S k ag m c).1, (gymCall S k ag m c).2.1), (gymCall S k ag m c).2.2))
    (skip := fun g c _ => c.isSome && (!g.started || g.over)) (chk := fun _ c o => specGym ag c o.1 o.2)
    (next := fun g _ o => gNext g o.2) (I := fun m g => g.started = true → g.over = false → Inv S k m g)
    -- the unfolding equations of `gymRun` and `gymLoop`, in the order of `judged_run`'s binders
    (fun _ => rfl) (fun _ _ _ => rfl) (fun _ => rfl) (fun _ _ _ _ _ => rfl)
    fun m g c hI hs => gymCall_sound hW hk hag m g c hI fun hc => by
      -- no guard fired: a step comes under the caller protocol
      rw [hc] at hs
      cases h1 : g.started <;> cases h2 : g.over <;> simp [h1, h2] at hs ⊢

/-- a script with a learning agent, under a manager other than the dynamic one, meets the hypotheses of
`C15_openspiel` and `C15_openspiel_with_setter`, and those of `C15_gym_projection` apart from
`S.learners = [ag]` (a single learning agent) -/
theorem stub_openspiel_hyps (sc : Script) (k : MKind) (hk : k ≠ .dynamic)
    (hl : ∃ a < sc.n, sc.learning.getD a false = true) :
    WF (stubSim sc) k ∧ (stubSim sc).learners ≠ [] :=
  let ⟨_, ha, hla⟩ := hl
  ⟨stub_WF sc k (fun _ => hl) (fun h => absurd h hk), learners_ne_nil (S := stubSim sc) ha hla⟩

theorem C15_gym_stub (sc : Script) (k : MKind) (hk : k ≠ .dynamic) (ag : Aid)
    (hag : (stubSim sc).learners = [ag]) (m : MState StubSt) (calls : List (Option Int)) :
    gymLoop ag {} calls (gymRun (stubSim sc) k ag m calls) = true :=
  have hm := (mem_learners (stubSim sc) ag).mp (hag ▸ List.mem_singleton_self ag)
  C15_gym_projection _ k (stub_openspiel_hyps sc k hk ⟨ag, hm⟩).1 hk ag hag calls m {} (by intro h; simp at h)

theorem osRunX_of_plain (S : SimIface σ α ω ι) (k : MKind) :
    ∀ (calls : List (Option (List α))) (st : OSState σ),
      osRunX S k st (calls.map OSIn.ofPlain) = (osRun S k st calls).map OSOut.ts := by
  intro calls
  induction calls with
  | nil => intro st; simp [osRunX, osRun]
  | cons c cs ih =>
    intro st
    cases c with
    | none => simp [OSIn.ofPlain, osRunX, osRun, ih]
    | some acts => simp [OSIn.ofPlain, osRunX, osRun, ih]

theorem osRunX_sound [DecidableEq α] [DecidableEq ω] {S : SimIface σ α ω ι} {k : MKind} (hW : WF S k)
    (hk : k ≠ .dynamic) (hl : S.learners ≠ []) :
    ∀ (calls : List (OSIn α)) (st : OSState σ) (gh : OSGhost), OSInvX S k st gh →
      c15XLoop k S.n S.learning gh calls (osRunX S k st calls) = true :=
  judged_run
    (f := fun st c => match c with
      | .reset => ((.ts (osReset S k st).1 : OSOut α ω ι), (osReset S k st).2)
      | .step acts => (.ts (osStep S k st acts).1, (osStep S k st acts).2)
      | .setCurrent a => (.set (osSetCurrent S st a).1, (osSetCurrent S st a).2))
    (skip := fun _ _ _ => false) (chk := c15XItem k S.n S.learning) (next := osGhostNextX)
    -- the unfolding equations of `osRunX` and `c15XLoop`, in the order of `judged_run`'s binders
    (fun _ => rfl) (fun st c cs => by cases c <;> rfl) (fun _ => rfl) (fun _ _ _ _ _ => rfl)
    fun st gh c hI _ => by
      cases c with
      | reset => exact osResetX_sound (α := α) hW hk hl st gh
      | step acts => exact osStepX_sound hW hk hl st gh hI acts
      | setCurrent a => exact osSetCurrent_sound (α := α) (ω := ω) (ι := ι) st gh hI a

/-- a history without setter calls is one of the richer alphabet, and there `specC15X` contains `specC15`
(`c15Loop_of_X`) -/
theorem osRun_sound [DecidableEq α] [DecidableEq ω] {S : SimIface σ α ω ι} {k : MKind} (hW : WF S k)
    (hk : k ≠ .dynamic) (hl : S.learners ≠ []) :
    ∀ (calls : List (Option (List α))) (st : OSState σ) (gh : OSGhost), OSInv S k st gh →
      c15Loop k S.n S.learning gh calls (osRun S k st calls) = true := by
  intro calls st gh hI
  refine c15Loop_of_X calls _ gh (fun hkt hsr => ?_) ?_
  · rw [hI.cur]
    exact ((hI.live (hI.sr ▸ hsr)).2.2.2.1 hkt).2
  · rw [← osRunX_of_plain]
    exact osRunX_sound hW hk hl _ st gh hI.toX

/-- **C15 (OpenSpiel)** for every simulation, both manager kinds and every call sequence. -/
theorem C15_openspiel [DecidableEq α] [DecidableEq ω] (S : SimIface σ α ω ι) (k : MKind) (hW : WF S k)
    (hk : k ≠ .dynamic) (hl : S.learners ≠ []) (m0 : MState σ) (calls : List (Option (List α))) :
    specC15 k S.n S.learning calls (osRun S k { m := m0 } calls) = true :=
  osRun_sound hW hk hl calls { m := m0 } {} ⟨rfl, rfl, fun h => by cases h⟩

section readings
variable [DecidableEq α] [DecidableEq ω] {k : MKind} {n : Nat} {learning : Aid → Bool} {gh : OSGhost}
  {call : Option (List α)} {c : OSCall α ω ι} {ts : TimeStep ω}

/-- every learning agent is in every time step's observations, legal actions and rewards -/
theorem c15_all_learning_present (h : c15Call k n learning gh call c = true) (hr : c.res = .ok ts) :
    (∀ a, a ∈ keys ts.infoState ↔ a ∈ (List.range n).filter learning) ∧
    ts.legal = (List.range n).filter learning ∧
    (∀ r, ts.rewards = some r → ∀ a, a ∈ keys r ↔ a ∈ (List.range n).filter learning) := by
  simp only [c15Call, hr, Bool.and_eq_true, decide_eq_true_eq, sameSet_iff] at h
  refine ⟨h.1.1.1.1, h.1.1.1.2, fun r hrw => ?_⟩
  have h3 := h.1.1.2
  rwa [hrw, sameSet_iff] at h3

/-- a step that is not a restart forwards exactly one accepted manager step; outside turn-based play
its actions are for agents not yet reported done (for turn-based play this reading says nothing about
them); the time step is LAST exactly when the manager reported `__all__` -/
theorem c15_one_manager_step (h : c15Call k n learning gh call c = true) (hr : c.res = .ok ts)
    (hns : gh.shouldReset = false) {acts : List α} (hcall : call = some acts) :
    ∃ e sent out, c.mgrCalls = [e] ∧ e.op = .step sent ∧ e.res = .stepOk out ∧
      (∀ p ∈ sent, p.1 ∉ gh.g.R ∨ k = .turnBased) ∧
      (ts.stepType = .last ↔ out.allDone = true) := by
  subst hcall
  simp only [c15Call, hr, hns, Option.isNone_some, Bool.or_self, Bool.false_eq_true, if_false,
    Bool.and_eq_true] at h
  -- the clause on the manager calls of a step that is not a restart
  have h4 := h.1.2
  split at h4
  · rename_i acts' e hc hm
    split at h4
    · rename_i sent out hop hres
      simp only [Bool.and_eq_true, decide_eq_true_eq] at h4
      refine ⟨e, sent, out, hm, hop, hres, fun p hp => ?_, by rw [h4.1.1.2]; cases out.allDone <;> simp⟩
      by_cases hkt : k = .turnBased
      · exact Or.inr hkt
      · have hs := h4.1.1.1
        have hkt' : (k == MKind.turnBased) = false := by simpa using hkt
        simp only [hkt', Bool.false_eq_true, if_false, decide_eq_true_eq] at hs
        rw [hs] at hp
        exact Or.inl (by simpa using (List.mem_filter.mp hp).2)
    · cases h4
  · cases h4

/-- in turn-based play the current player of a non-final time step has not been reported done -/
theorem c15_current_player_live (h : c15Call .turnBased n learning gh call c = true) (hr : c.res = .ok ts)
    (hnl : ts.stepType ≠ .last) :
    ts.current < n ∧ learning ts.current = true ∧ ts.current ∉ (foldG gh.g c.mgrCalls).R := by
  obtain ⟨h1, h2⟩ := c15Call_current_live h hr rfl hnl
  simp only [isLearner, Bool.and_eq_true, decide_eq_true_eq] at h1
  exact ⟨h1.1, h1.2, h2⟩

end readings

theorem C15_stub (sc : Script) (k : MKind) (hk : k ≠ .dynamic) (m0 : MState StubSt)
    (hl : ∃ a < sc.n, sc.learning.getD a false = true) (calls : List (Option (List Int))) :
    specC15 k sc.n (stubSim sc).learning calls (osRun (stubSim sc) k { m := m0 } calls) = true := by
  obtain ⟨hW, hne⟩ := stub_openspiel_hyps sc k hk hl
  exact C15_openspiel _ k hW hk hne m0 calls

/-- non-vacuity: a turn-based play-through in which an agent finishes on its first move (the
situation of finding F5) reaches LAST, with one manager call per adapter call -/
example :
    let sc : Script := { n := 3, learning := [true, true, true], doneAt := [1, 9, 9], finishAt := 4, noms := [] }
    let calls : List (Option (List Int)) := List.replicate 6 (some [1])
    let tr := osRun (stubSim sc) .turnBased { m := mgrInit {} false [] } calls
    (tr.map fun c => c.mgrCalls.length) = [1, 1, 1, 1, 1, 1] ∧
    (tr.any fun c => match c.res with | .ok ts => decide (ts.stepType = .last) | _ => false) = true ∧
    specC15 .turnBased 3 (stubSim sc).learning calls tr = true := by decide +kernel

/-- **C15 (OpenSpiel, with the `current_player` setter)** for every simulation, both manager kinds and
every history of resets, steps (any action list) and setter calls (any agent, anywhere). -/
theorem C15_openspiel_with_setter [DecidableEq α] [DecidableEq ω] (S : SimIface σ α ω ι) (k : MKind)
    (hW : WF S k) (hk : k ≠ .dynamic) (hl : S.learners ≠ []) (m0 : MState σ) (calls : List (OSIn α)) :
    specC15X k S.n S.learning calls (osRunX S k { m := m0 } calls) = true :=
  osRunX_sound hW hk hl calls { m := m0 } {} ⟨rfl, rfl, fun h => by cases h⟩

/-- **never forwards an action for an already-done agent**, for every history of the richer alphabet:
whichever manager call `e` of the whole play-through is a step, none of the actions it was handed is
for an agent reported done since the latest manager reset before it -/
theorem osRunX_never_forwards_done [DecidableEq α] [DecidableEq ω] (S : SimIface σ α ω ι) (k : MKind)
    (hW : WF S k) (hk : k ≠ .dynamic) (hl : S.learners ≠ []) (m0 : MState σ) (calls : List (OSIn α))
    (pre post : List (Entry α ω ι)) (e : Entry α ω ι) (sent : List (Aid × α))
    (hsplit : mgrCallsOf (osRunX S k { m := m0 } calls) = pre ++ e :: post) (hop : e.op = .step sent) :
    ∀ p ∈ sent, p.1 ∉ (foldG {} pre).R :=
  noFwdDone_split
    (noFwdDone_of_loop calls _ {} (C15_openspiel_with_setter S k hW hk hl m0 calls)) hsplit hop

/-- what the never-forwards clause of `specC15X` means, for any play-through that satisfies the
specification: no manager step carries an action for an agent the manager has reported done earlier in
the episode (`(foldG {} pre).R`: the agents output with `done = true` by the manager calls `pre` made
so far since the latest manager reset) -/
theorem c15x_never_forwards_done [DecidableEq α] [DecidableEq ω] {k : MKind} {n : Nat} {learning : Aid → Bool}
    {calls : List (OSIn α)} {tr : List (OSOut α ω ι)} (h : specC15X k n learning calls tr = true)
    {pre post : List (Entry α ω ι)} {e : Entry α ω ι} {sent : List (Aid × α)}
    (hsplit : mgrCallsOf tr = pre ++ e :: post) (hop : e.op = .step sent) :
    ∀ p ∈ sent, p.1 ∉ (foldG {} pre).R :=
  noFwdDone_split (noFwdDone_of_loop calls tr {} h) hsplit hop

/-- a turn-based step whose action is for an agent reported done (only possible after the caller named
it through the setter) forwards nothing, is MID, and names a current player who can still act -/
theorem c15x_fake_step [DecidableEq α] [DecidableEq ω] {n : Nat} {learning : Aid → Bool} {gh : OSGhost}
    {acts : List α} {c : OSCall α ω ι}
    (h : c15XItem .turnBased n learning gh (.step acts) (.ts c) = true) (hne : acts ≠ [])
    (hns : gh.shouldReset = false) (hd : gh.current ∈ gh.g.R) :
    ∃ ts, c.res = .ok ts ∧ c.mgrCalls = [] ∧ ts.stepType = .mid ∧
      ts.current < n ∧ learning ts.current = true ∧ ts.current ∉ gh.g.R := by
  have hfd : fakeDue .turnBased gh = true := by simp [fakeDue, hns, hd]
  have hco : callOK .turnBased ((List.range n).filter learning).length (some acts) = true := by
    cases acts with
    | nil => exact absurd rfl hne
    | cons a as => simp [callOK]
  simp only [c15XItem, hfd, hco, if_true, Bool.not_true, Bool.false_or, Bool.and_eq_true] at h
  have h2 := h.2
  cases hr : c.res with
  | error e => simp [c15Fake, hr] at h2
  | ok ts =>
    simp only [c15Fake, hr, Bool.and_eq_true, decide_eq_true_eq, isLearner,
      List.isEmpty_iff] at h2
    exact ⟨ts, rfl, h2.1.1.1.1.1.1, h2.1.1.2, h2.1.2.1, h2.1.2.2, h2.2⟩

/-- `specC15X` contains `specC15`: a play-through without setter calls that satisfies the former
satisfies the latter -/
theorem specC15_of_specC15X [DecidableEq α] [DecidableEq ω] {k : MKind} {n : Nat} {learning : Aid → Bool}
    {calls : List (Option (List α))} {tr : List (OSCall α ω ι)}
    (h : specC15X k n learning (calls.map OSIn.ofPlain) (tr.map OSOut.ts) = true) :
    specC15 k n learning calls tr = true :=
  c15Loop_of_X calls tr {} (fun _ h => by cases h) h

/-- the setter accepts exactly the learning agents and refuses everything else with its assertion -/
theorem c15x_setter_accepts_learners [DecidableEq α] [DecidableEq ω] {k : MKind} {n : Nat}
    {learning : Aid → Bool} {gh : OSGhost} {a : Aid} {r : Except Err Unit}
    (h : c15XItem (α := α) (ω := ω) (ι := ι) k n learning gh (.setCurrent a) (.set r) = true) :
    (a < n ∧ learning a = true → r = .ok ()) ∧ (¬(a < n ∧ learning a = true) → r = .error .rejected) := by
  cases r with
  | ok u =>
    simp only [c15XItem, isLearner, Bool.and_eq_true, decide_eq_true_eq] at h
    exact ⟨fun _ => rfl, fun hn => absurd h hn⟩
  | error e =>
    simp only [c15XItem, isLearner, Bool.and_eq_true, Bool.not_eq_true', decide_eq_true_eq] at h
    refine ⟨fun hl => ?_, fun _ => by rw [h.2]⟩
    have := h.1
    simp [hl.1, hl.2] at this

theorem C15X_stub (sc : Script) (k : MKind) (hk : k ≠ .dynamic) (m0 : MState StubSt)
    (hl : ∃ a < sc.n, sc.learning.getD a false = true) (calls : List (OSIn Int)) :
    specC15X k sc.n (stubSim sc).learning calls (osRunX (stubSim sc) k { m := m0 } calls) = true := by
  obtain ⟨hW, hne⟩ := stub_openspiel_hyps sc k hk hl
  exact C15_openspiel_with_setter _ k hW hk hne m0 calls

/-- non-vacuity: turn-based play, `a1` finishes at its first move and is reported done; the caller then
names it through the setter (`.setCurrent 1`), also tries a non-learning agent and an unknown id (both refused):
the step is a fake step (no manager call), the first learning agent `a0` is live and takes over, and
the play-through reaches LAST; the full `specC15X` holds -/
example :
    let sc : Script := { n := 4, learning := [true, true, true, false], doneAt := [9, 1, 9, 9], finishAt := 4, noms := [] }
    let calls : List (OSIn Int) :=
      [.step [1], .step [1], .step [1], .step [1], .setCurrent 3, .setCurrent 7, .setCurrent 1, .step [1],
       .step [1], .step [1], .step [1]]
    let tr := osRunX (stubSim sc) .turnBased { m := mgrInit {} false [] } calls
    (tr.map fun o => match o with | .ts c => c.mgrCalls.length | .set (.ok _) => 7 | .set (.error _) => 9)
      = [1, 1, 1, 1, 9, 9, 7, 0, 1, 1, 1] ∧
    (tr.any fun o => match o with
      | .ts c => (match c.res with | .ok ts => decide (ts.stepType = .last) | _ => false)
      | _ => false) = true ∧
    specC15X .turnBased 4 (stubSim sc).learning calls tr = true := by decide +kernel

/-- **finding C15-K1** (DESIGN.md §11.3), the history: `a0` finishes at its first move; once it has been
reported done the caller names it through the setter.  The fake step that answers the next action
names `a1`, the first learning agent that can still act (`pickFake`; `next(iter(obs))` would be `a0`,
who is done), the play-through goes on with one manager call per step and reaches LAST; `specC15X`
holds. -/
def c15K1 : Script × List (OSIn Int) :=
  ({ n := 3, learning := [true, true, true], doneAt := [1, 9, 9], finishAt := 7, noms := [] },
   [.step [1], .step [1], .step [1], .step [1], .setCurrent 0, .step [1], .step [1], .step [1], .step [1],
    .step [1]])

example :
    let tr := osRunX (stubSim c15K1.1) .turnBased { m := mgrInit {} false [] } c15K1.2
    (tr.map fun o => match o with | .ts c => c.mgrCalls.length | _ => 7) = [1, 1, 1, 1, 7, 0, 1, 1, 1, 1] ∧
    (tr.map fun o => match o with
      | .ts c => (match c.res with | .ok ts => ts.current | _ => 9)
      | _ => 7) = [0, 1, 2, 1, 7, 1, 2, 1, 2, 1] ∧
    (tr.any fun o => match o with
      | .ts c => (match c.res with | .ok ts => decide (ts.stepType = .last) | _ => false)
      | _ => false) = true ∧
    specC15X .turnBased 3 (stubSim c15K1.1).learning c15K1.2 tr = true := by decide +kernel

end Abmarl
