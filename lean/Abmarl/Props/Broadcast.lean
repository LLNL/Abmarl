import Abmarl.Lemmas.Broadcast
import Abmarl.Lemmas.ExamplesJudge
import Abmarl.Props.C08Grid
/-!
# `BroadcastSim` (`abmarl/examples/sim/comms_blocking.py`) inside the model: C02, C03, C08

Model `Model/Broadcast.lean` (the class and its hand-written components, exact rationals), judge `Spec/Broadcast.lean`,
tied to the real class by `gexample` with configuration `(broadcast …)` (per-call refinement for the float64 messages,
`Model/BroadcastDriver.lean`).  Every theorem is for every grid, overlap table, agent mix, broadcast mapping, ranges,
initial messages, tolerance, tape and history.

* the invariant of every reachable state (C03, messages): `broadcast_reachable_inv`, read by `broadcast_messages_in_unit`;
* observations (C02): `broadcast_observations_in_space`, `broadcast_obs_reads_and_resets`;
* actions (C02): `broadcast_step_noRaise` under the configuration hypothesis `BC.cfgHypb`, which is needed
  (`broadcast_cfgHyp_needed`);
* delivery: one scan of `determine_broadcast` returns exactly the agents the broadcast reaches, once each
  (`broadcast_delivery`, its halves `broadcast_delivery_partial`, `broadcast_delivery_complete`); one `step` leaves
  `BC.recvAfter` in the receiving lists (`broadcast_delivery_step`); the judge's whole `step` clause
  (`broadcast_hist_step_partial`);
* C08: `broadcast_reset_forgets`, `broadcast_fresh_twin`.

The model's whole trace passes the judge: `broadcast_hist` (`Props/BroadcastHist.lean`).  The driver evaluates `specBC`
on the model's own exact run of every request (reply field `specOnModel`); by the theorem a `0` there can only come from
a request outside `bcPre`.
-/
namespace Abmarl
open World

/-- **C03, messages: every reachable state satisfies the invariant.**  After ANY history of resets (any covered
placement state), steps (any action dicts whose items are for agents of the simulation with moves of the declared
spaces; any `broadcast` values) and getter calls, once a reset has returned: the world satisfies `WInv`, has the
constructed static part, everybody is active; broadcasters have a message in `[-1, 1]`, nobody else has one; the
receiving state has exactly the broadcasters as keys and every pending entry is `(a broadcaster, a number in [-1, 1])`;
the reward dict has an entry for every agent (the clauses of `BC.Good` in the judge's Bool form). -/
theorem broadcast_reachable_inv (cfg : BC.Cfg) (w0 : World) (hcfg : CfgOK w0) (hfresh : w0.vitalsAlive = true)
    (t0 : Tape) (ops : List BC.BOp) (hops : ∀ op ∈ ops, BC.OpOK w0 op) :
    let s := (BC.runOps cfg { BC.init w0 with tape := t0 } ops).2
    s.rewards.isSome = true →
      s.w.WInv = true ∧ SFrame w0 s.w ∧ HealthC s.w ∧ BC.msgsOKb cfg s.w.n s.msgs = true ∧
      (∃ rv, s.recv = some rv ∧ BC.recvOKb cfg s.w.n rv = true) ∧
      (∃ r, s.rewards = some r ∧ BC.ledgerAllb s.w.n r = true) := by
  intro s hs
  have hI : BC.Inv cfg w0 s := BC.runOps_inv hcfg hfresh ops _ hops (Or.inr ⟨rfl, rfl⟩)
  rcases hI with hG | hG
  · obtain ⟨rv, hrv, hR⟩ := hG.recv
    obtain ⟨r, hr, hk⟩ := hG.led
    exact ⟨hG.x.inv, hG.x.frame, hG.x.alive, (BC.msgsOK_iff _ _ _).mpr hG.msgs,
      ⟨rv, hrv, (BC.recvOK_iff _ _ _).mpr hR⟩, ⟨r, hr, by simp [BC.ledgerAllb, hk]⟩⟩
  · rw [hG.2] at hs; cases hs

/-- reading of `msgsOKb`: every stored message lies in `[-1, 1]`, and exactly the broadcasters have one -/
theorem broadcast_messages_in_unit (cfg : BC.Cfg) (n : Nat) (msgs : List (Option Rat))
    (h : BC.msgsOKb cfg n msgs = true) (a : Aid) (ha : a < n) :
    (cfg.isB a = true → ∃ m, msgs.getD a none = some m ∧ -1 ≤ m ∧ m ≤ 1) ∧
    (cfg.isB a = false → msgs.getD a none = none) := by
  obtain ⟨_, h2⟩ := (BC.msgsOK_iff _ _ _).mp h
  refine ⟨fun hb => ?_, (h2 a ha).2⟩
  obtain ⟨m, hm, hu⟩ := (h2 a ha).1 hb
  exact ⟨m, hm, (BC.inUnit_iff m).mp hu⟩

/-- **C02: observations lie in the declared space, with exactly the declared keys.**  In a state of the invariant
(`BC.Good`: what `BC.runOps_inv` gives of every reachable state after a reset), for an agent of the simulation and every
tape, when encodings are positive and no initial ammunition is negative (`henc`, `hammo`: asked by the Box of the grid
observer), `get_obs` returns; the grid part has exactly the declared keys with values in the declared Box; a
broadcaster's `message` part has exactly the broadcasters as keys, every entry in `[-1, 1]`, the own slot carries the new
message, a foreign slot the last pending entry of that sender or exactly 0 (`BC.slotsOK`, the clause of the judge: the
"only if" half of delivery); an agent that is not a broadcaster has no `message` key -/
theorem broadcast_observations_in_space (cfg : BC.Cfg) (w0 : World) (s : BC.St) (hG : BC.Good cfg w0 s) (a : Aid)
    (ha : a < s.w.n) (henc : ∀ b < s.w.n, 0 < s.w.encOf b) (hammo : ∀ b < s.w.n, 0 ≤ (s.w.cfgOf b).initAmmo) :
    ∃ o s', BC.getObs cfg s a = .ok (o, s') ∧
      Ex.obsInSpace s.w a [.centered cfg.observeSelf] o.grid = true ∧
      (cfg.isB a = false → o.msg = none) ∧
      (cfg.isB a = true → ∃ slots rv rf, o.msg = some slots ∧ s.recv = some rv ∧ rv.lookup a = some rf ∧
        BC.slotsOK cfg s.w.n a rf slots = true) := by
  obtain ⟨g, t', hg, hgrid⟩ := BC.getObs_grid hG ha henc hammo
  obtain ⟨hno, hyes⟩ := BC.getObs_eq hG ha hg
  cases hb : cfg.isB a with
  | false => exact ⟨_, _, hno hb, hgrid, (fun _ => rfl), (fun h => by cases h)⟩
  | true =>
    obtain ⟨rv, rf, own, hrv, hrf, _, hall, hget⟩ := hyes hb
    exact ⟨_, _, hget, hgrid, (fun h => by cases h),
      (fun _ => ⟨_, rv, rf, rfl, hrv, hrf, BC.slots_ok cfg _ a _ rf (BC.clamp_inUnit _) hall⟩)⟩

/-- **a read averages and resets**: a broadcaster's `get_obs` stores the clamped exact average of the pending messages
and its old message, empties its own receiving list and touches nothing else (world, rewards, the other agents' messages
and lists); so a second read finds an empty list -/
theorem broadcast_obs_reads_and_resets (cfg : BC.Cfg) (w0 : World) (s : BC.St) (hG : BC.Good cfg w0 s) (a : Aid)
    (ha : a < s.w.n) (hb : cfg.isB a = true) (henc : ∀ b < s.w.n, 0 < s.w.encOf b)
    (hammo : ∀ b < s.w.n, 0 ≤ (s.w.cfgOf b).initAmmo) :
    ∃ o s' rv rf own, BC.getObs cfg s a = .ok (o, s') ∧ s.recv = some rv ∧ rv.lookup a = some rf ∧
      s.msgs.getD a none = some own ∧
      s'.w = s.w ∧ s'.rewards = s.rewards ∧
      s'.msgs = s.msgs.set a (some (BC.clamp (BC.average (rf.map (·.2) ++ [own])))) ∧
      s'.recv = some (dictSet rv a []) := by
  obtain ⟨g, t', hg, _⟩ := BC.getObs_grid hG ha henc hammo
  obtain ⟨rv, rf, own, hrv, hrf, hown, _, hget⟩ := (BC.getObs_eq hG ha hg).2 hb
  exact ⟨_, _, rv, rf, own, hget, hrv, hrf, hown, rfl, rfl, rfl, rfl⟩

/-- **C02: a step with in-space actions does not raise** in a state of the invariant, under the configuration
hypothesis: every agent `determine_broadcast` returns has a receiving list.  Of `BC.actInSpace` only "an agent of the
simulation with a move of the declared space" is used (`BC.step_spec` asks `BC.ActsOK`): `step` tests `broadcast` for
truth only, so its value need not lie in `Discrete(2)` -/
theorem broadcast_step_noRaise (cfg : BC.Cfg) (w0 : World) (hcfg : CfgOK w0) (s : BC.St) (hG : BC.Good cfg w0 s)
    (hH : BC.cfgHypb cfg s.w = true) (acts : List (Aid × BC.Act))
    (hA : ∀ x ∈ acts, BC.actInSpace cfg s.w x = true) : ∃ s', BC.step cfg s acts = .ok s' := by
  obtain ⟨_, _, _, _, hs⟩ := BC.step_spec hG hH (BC.actsOK_of_inSpace hG.x.frame hA)
  exact ⟨_, hs⟩

/-- **delivery, soundness half**: in a world of the invariant, for a broadcaster standing on the grid whose encoding is
a key of the mapping, `determine_broadcast` returns and every agent it returns is reached (`BC.reaches`) -/
theorem broadcast_delivery_partial (cfg : BC.Cfg) (w : World) (a : Aid) (l : List Int) (hI : w.WInv = true)
    (hl : cfg.mapping.lookup (w.encOf a) = some l) (hp : w.inGrid (w.stOf a).pos = true) :
    ∃ tos, BC.determine cfg w a = .ok tos ∧ ∀ b ∈ tos, BC.reaches cfg w a b = true :=
  ⟨_, BC.determine_eq hl hp, fun b => (BC.mem_scan_iff hI hl hp b).mp⟩

/-- **delivery, completeness half**: every agent the broadcast reaches in the sense of the specification (`BC.reaches`:
in range, encoding allowed by the mapping, not hidden by a blocking agent per `Mask.hiddenSpec`, not the sender) IS in
the list `determine_broadcast` returns — the converse of `broadcast_delivery_partial` -/
theorem broadcast_delivery_complete (cfg : BC.Cfg) (w : World) (a : Aid) (l : List Int) (hI : w.WInv = true)
    (hl : cfg.mapping.lookup (w.encOf a) = some l) (hp : w.inGrid (w.stOf a).pos = true) :
    ∃ tos, BC.determine cfg w a = .ok tos ∧ ∀ b, BC.reaches cfg w a b = true → b ∈ tos :=
  ⟨_, BC.determine_eq hl hp, fun b => (BC.mem_scan_iff hI hl hp b).mpr⟩

/-- **delivery, one scan**: `determine_broadcast` returns a list without repetitions whose members are EXACTLY the
agents the broadcast reaches -/
theorem broadcast_delivery (cfg : BC.Cfg) (w : World) (a : Aid) (l : List Int) (hI : w.WInv = true)
    (hl : cfg.mapping.lookup (w.encOf a) = some l) (hp : w.inGrid (w.stOf a).pos = true) :
    ∃ tos, BC.determine cfg w a = .ok tos ∧ tos.Nodup ∧ ∀ b, b ∈ tos ↔ BC.reaches cfg w a b = true :=
  ⟨_, BC.determine_eq hl hp, BC.determine_nodup hI hp, BC.mem_scan_iff hI hl hp⟩

/-- **delivery, one step**: a `step` that returns appends to every receiving list exactly what the specification says
(`BC.recvAfter`: one entry `(sender, sender's message)` per item of the action dict, in its order, whose sender is a
broadcaster that chose to broadcast and reaches the receiver), and changes no message -/
theorem broadcast_delivery_step (cfg : BC.Cfg) (w0 : World) (s s' : BC.St) (hG : BC.Good cfg w0 s)
    (hH : BC.cfgHypb cfg s.w = true) (acts : List (Aid × BC.Act)) (h : BC.step cfg s acts = .ok s') :
    ∃ rv, s.recv = some rv ∧ s'.recv = some (BC.recvAfter cfg s.w s.msgs acts rv) ∧ s'.msgs = s.msgs := by
  obtain ⟨r, hr, _⟩ := hG.led
  obtain ⟨rv, hrv, hR⟩ := hG.recv
  have hP := Ex.allInGrid_of_alive hG.x.inv hG.x.alive
  refine ⟨rv, hrv, ?_⟩
  simp only [BC.step, hr, hrv] at h
  cases h1 : Ex.foldE (BC.bcast1 cfg s.w s.msgs) rv acts with
  | error e => rw [h1] at h; cases h
  | ok rv' =>
    rw [h1] at h
    -- a first loop that returned has seen only agents of the simulation, so it is `recvAfter` whatever the items
    have hlt := BC.foldE_bcast1_lt acts rv rv' h1
    rw [BC.foldE_bcast1_map hG.x.inv hP hH hG.msgs acts rv hlt hR.1] at h1
    simp only [Except.ok.injEq] at h1
    subst h1
    simp only at h
    split at h
    · cases h
    · split at h
      · cases h
      · simp only [Except.ok.injEq] at h
        subst h
        exact ⟨rfl, rfl⟩

/-- **the `step` entry of the judge holds on the model's own run** (`broadcast_hist` for one `step`): in a state of the
invariant, on a configuration satisfying `cfgHypb`, for items for agents of the simulation with moves of the declared
spaces and ANY `broadcast` values, the clause `BC.judge1` of the judge for the call `step` — world invariant, frame,
everybody active, messages unchanged, `receiving_state` equal to `BC.recvAfter`, reward keys kept — is true of the entry
the model produces.  Under these hypotheses the call returns (`BC.step_spec`), so the clause for a call that raised
is not met here; `BC.judge1_step'` has it, from the constructed object -/
theorem broadcast_hist_step_partial (cfg : BC.Cfg) (w0 : World) (hcfg : CfgOK w0) (s : BC.St) (hG : BC.Good cfg w0 s)
    (hH : BC.cfgHypb cfg s.w = true) (acts : List (Aid × BC.Act)) (t : Tape) (hA : BC.ActsOK w0 acts) (res0 : BC.BRes) :
    BC.judge1 cfg w0 (BC.see res0 s) (.step acts t) (BC.runOp cfg s (.step acts t)).1 = true := by
  obtain ⟨rv, p3, hrv, ⟨hX, hk⟩, hs⟩ := BC.step_spec (BC.good_tape t hG) hH hA
  obtain ⟨r, hr, hkr⟩ := hG.led
  have hal := BC.aliveb_of_healthC hX.alive
  simp only at hrv
  simp only [BC.runOp, hs]
  simp [BC.judge1, BC.see, hX.inv, Ex.frameb_of_sframe hX.frame, hal, hrv, hr, hk, hkr, hG.x.frame.sameG.n]

/-- **`reset` forgets**: two objects of the same configuration — whatever messages, pending receiving lists, rewards,
cells and positions either has — whose worlds agree on what `PositionState` does not own (`Ex.SameBut`: health,
ammunition, orientation, which nothing in this class ever writes), reset under the same tape, end in the same state or
raise the same error -/
theorem broadcast_reset_forgets (cfg : BC.Cfg) (c : StateComp) (s1 s2 : BC.St) (hw : Ex.SameBut [c] s1.w s2.w)
    (ht : s1.tape = s2.tape) (hp : c.resetsPos = true) : BC.reset cfg c s1 = BC.reset cfg c s2 := by
  unfold BC.reset
  rw [Ex.comps_reset_forgets [c] s1.w s2.w s1.tape hw (by simp [hp]), ht]

/-- **used versus fresh**: if the reset returns, the trace of `reset` followed by ANY calls is the same on a used object
and on the newly built one (a reset that raises — no cell left — raises on both: `broadcast_reset_forgets`) -/
theorem broadcast_fresh_twin (cfg : BC.Cfg) (c : StateComp) (w0 : World) (used : BC.St)
    (hw : Ex.SameBut [c] used.w w0) (hp : c.resetsPos = true) (t : Tape) (follow : List BC.BOp)
    (hok : ∃ s', BC.reset cfg c { BC.init w0 with tape := t } = .ok s') :
    BC.runOps cfg used (.reset c t :: follow) = BC.runOps cfg (BC.init w0) (.reset c t :: follow) := by
  have h := broadcast_reset_forgets cfg c { used with tape := t } { BC.init w0 with tape := t } hw rfl hp
  obtain ⟨s', hs'⟩ := hok
  rw [hs'] at h
  simp only [BC.runOps, BC.runOp, h, hs']

/-- a broadcaster (encoding 1, range 1) at `(0, 0)` and a plain agent (encoding 2, no receiving list) at `(0, 1)` -/
def exBCWorld : World :=
  { rows := 1, cols := 2, overlap := [], cells := [[0], [1]],
    cfg := [{ enc := 1 }, { enc := 2 }], st := [{ pos := (0, 0) }, { pos := (0, 1) }] }

def exBCCfg (mapping : List (Int × List Int)) : BC.Cfg :=
  { bcast := [true, false], range := [1, 0], initMsg := [some (1/2), none], mapping := mapping, tol := 1/4 }

/-- the state after a reset: message 1/2, an empty receiving list, zero rewards -/
def exBCSt : BC.St :=
  { w := exBCWorld, msgs := [some (1/2), none], recv := some [(0, [])], rewards := some [(0, 0), (1, 0)] }

/-- the broadcaster broadcasts: a point of its action space `Dict(broadcast: Discrete(2))` -/
def exBCActs : List (Aid × BC.Act) := [(0, { broadcast := 1 })]

/-- **the configuration hypothesis `cfgHypb` is needed for "in-space actions are processed without exception"**: the
state satisfies every other clause of `BC.goodb`, the action is in space, and
* with the mapping `{1: [2]}` (the row allows the encoding of an agent that is not a `BroadcastingAgent`)
  `update_receipients` indexes `receiving_state` with that agent's id: `KeyError`;
* with the mapping `{}` (the broadcaster's encoding is not a key) `determine_broadcast` raises `KeyError` as soon as
  another agent stands on a visible cell of the window;
* with `{1: [1]}` (`cfgHypb` holds) the same step returns and delivers nothing. -/
theorem broadcast_cfgHyp_needed :
    (exBCWorld.WInv && BC.aliveb exBCWorld && BC.encPosb exBCWorld &&
      BC.msgsOKb (exBCCfg []) 2 exBCSt.msgs && BC.recvOKb (exBCCfg []) 2 [(0, [])] &&
      BC.ledgerAllb 2 [(0, 0), (1, 0)] && exBCActs.all (BC.actInSpace (exBCCfg []) exBCWorld)) = true ∧
    BC.cfgHypb (exBCCfg [(1, [2])]) exBCWorld = false ∧
    (match BC.step (exBCCfg [(1, [2])]) exBCSt exBCActs with | .error .keyError => true | _ => false) = true ∧
    BC.cfgHypb (exBCCfg []) exBCWorld = false ∧
    (match BC.step (exBCCfg []) exBCSt exBCActs with | .error .keyError => true | _ => false) = true ∧
    BC.cfgHypb (exBCCfg [(1, [1])]) exBCWorld = true ∧
    (match BC.step (exBCCfg [(1, [1])]) exBCSt exBCActs with
     | .ok s' => s'.recv == some [(0, [])] && s'.rewards == some [(0, -11), (1, 0)]
     | .error _ => false) = true := by
  refine ⟨by decide +kernel, by decide +kernel, by decide +kernel, by decide +kernel, by decide +kernel,
    by decide +kernel, by decide +kernel⟩

/-- two broadcasters in a row with a blocking wall between them, and a third broadcaster beside the first -/
def exBCWorld3 : World :=
  { rows := 1, cols := 4, overlap := [], cells := [[2], [0], [3], [1]],
    cfg := [{ enc := 1 }, { enc := 1 }, { enc := 1 }, { enc := 2, blocking := true }],
    st := [{ pos := (0, 1) }, { pos := (0, 3) }, { pos := (0, 0) }, { pos := (0, 2) }] }

def exBCCfg3 : BC.Cfg :=
  { bcast := [true, true, true, false], range := [3, 3, 3, 0], initMsg := [none, none, none, none],
    mapping := [(1, [1])], tol := 1/4 }

def exBCSt3 : BC.St :=
  { w := exBCWorld3, msgs := [some 1, some (-1), some (1/2), none], recv := some [(0, []), (1, []), (2, [])],
    rewards := some [(0, 0), (1, 0), (2, 0), (3, 0)] }

/-- non-vacuity of the delivery clause and of the observation theorems: agent 0 broadcasts; the wall at `(0, 2)` hides
agent 1 at `(0, 3)`, agent 2 at `(0, 0)` is reached (`BC.reaches`, the specification, and the model's scan agree); agent 2
then reads: its slot for agent 0 carries entry 0, its own message becomes `(1 + 1/2)/2 = 3/4`, the list is emptied; a
second read shows zero in the foreign slots and the same message. -/
example :
    BC.cfgHypb exBCCfg3 exBCWorld3 = true ∧
    BC.reaches exBCCfg3 exBCWorld3 0 2 = true ∧ BC.reaches exBCCfg3 exBCWorld3 0 1 = false ∧
    (match BC.step exBCCfg3 exBCSt3 [(0, { broadcast := 1 })] with
     | .ok s' =>
       (s'.recv == some (BC.recvAfter exBCCfg3 exBCWorld3 exBCSt3.msgs [(0, { broadcast := 1 })]
                          [(0, []), (1, []), (2, [])])) &&
       (s'.recv == some [(0, []), (1, []), (2, [(0, 1)])]) &&
       (match BC.getObs exBCCfg3 s' 2 with
        | .ok (o, s'') =>
          (o.msg == some [(0, [.entry 0], 1), (1, [.zero], 0), (2, [.own], 3/4)]) &&
          (s''.msgs == [some 1, some (-1), some (3/4), none]) && (s''.recv == some [(0, []), (1, []), (2, [])]) &&
          (match BC.getObs exBCCfg3 s'' 2 with
           | .ok (o2, _) => o2.msg == some [(0, [.zero], 0), (1, [.zero], 0), (2, [.own], 3/4)]
           | .error _ => false)
        | .error _ => false)
     | .error _ => false) = true := by
  refine ⟨by decide +kernel, by decide +kernel, by decide +kernel, by decide +kernel⟩

/-- the hypotheses of `broadcast_reachable_inv` on the constructed world are inhabited, and the placement state is a
covered one (`BC.compOKb`) -/
example : cfgOKb exBCWorld3 = true ∧ exBCWorld3.vitalsAlive = true ∧
    BC.compOKb exBCWorld3 (.position .position {}) = true := by
  refine ⟨by decide +kernel, by decide +kernel, by decide +kernel⟩

/-- non-vacuity of `broadcast_delivery` on the world with the blocker: the hypotheses hold for sender 0, the scan
returns exactly `[2]` (agent 1 is behind the wall, agent 3 is the wall: its encoding is not allowed), and `BC.reaches`
says the same of every agent -/
example :
    exBCWorld3.WInv = true ∧ exBCCfg3.mapping.lookup (exBCWorld3.encOf 0) = some [1] ∧
    exBCWorld3.inGrid (exBCWorld3.stOf 0).pos = true ∧
    (match BC.determine exBCCfg3 exBCWorld3 0 with | .ok tos => tos == [2] | .error _ => false) = true ∧
    (List.range 4).map (BC.reaches exBCCfg3 exBCWorld3 0) = [false, false, true, false] := by
  refine ⟨by decide +kernel, by decide +kernel, by decide +kernel, by decide +kernel, by decide +kernel⟩

end Abmarl
