import Abmarl.Lemmas.Mask
/-!
# C10 — Blocking agents hide exactly the cells in their shadow

The property theorems and the readings of the specification's predicates (the case analysis and
the table lemmas are in `Lemmas/Mask.lean`).  The model is
`Model/Mask.lean` (`hidden1`: the eight direction cases of `create_grid_and_mask`, `maskOf`: the
loop over the agents), the decidable specification is `hiddenSpec` / `specMask` in
`Spec/Mask.lean` (the documented rule, written once for all orientations).

Every theorem is for **all** ranges `R`, **all** offsets of the agents (inside or outside the window)
and **all** lists of agents with any mix of blocking / non-blocking / inactive flags.  Those about the
rule are for all cells; those that read the table at an offset (`mask_iff_exists_blocker`,
`out_of_range_ignored`, `mask_dihedral`, `specMask_visibleAt`) are for the cells of the window.

The model's mask passes the judge `specMask`, so evaluating `specMask` on the implementation's
mask is evaluating the proved predicate (`C10_model_satisfies_spec`).  The readings show that the
Bool predicates say what the property says.

Not a Lean theorem (paper argument, DESIGN.md §5 C10, supported by the exhaustive
correspondence): the real code compares a float `p·t/q` (one correctly rounded division of
small exact integers) with an integer; the model compares `x·q` with `p·t` exactly.
-/
namespace Abmarl
namespace Mask

/-- **C10, core.**  For every range, every offset of the blocker and every cell: the model of
the eight direction cases zeroes the cell iff blocker and cell are inside the range window and
the cell is in the blocker's shadow by the orientation-free rule. -/
theorem hidden1_iff_spec (R : Nat) (rd cd r c : Int) :
    hidden1 R rd cd r c = true ↔
      (inWin R rd = true ∧ inWin R cd = true) ∧ (inWin R r = true ∧ inWin R c = true) ∧
        hiddenSpec rd cd r c = true := by
  rw [hidden1_eq]
  simp only [Bool.and_eq_true, and_assoc]

/-! ## What `hiddenSpec` says -/

theorem oppSigns_iff_mul_neg (x y : Int) : oppSigns x y = true ↔ x * y < 0 := by
  rw [oppSigns_iff, Opp]
  refine ⟨fun h => h.elim (fun h => Int.mul_neg_of_neg_of_pos h.1 h.2) fun h => Int.mul_neg_of_pos_of_neg h.1 h.2,
    fun h => ?_⟩
  rcases Int.lt_trichotomy x 0 with hx | rfl | hx
  · exact .inl ⟨hx, Int.pos_of_mul_neg_right h hx⟩
  · omega
  · exact .inr ⟨hx, Int.neg_of_mul_neg_right h hx⟩

/-- `cross a b r c = 0` says that the centre `(2r, 2c)` of the cell, the viewer's centre (the
origin) and the corner `(a, b)` are collinear: the centre is on the ray (or on its extension) -/
theorem cross_zero_iff_on_ray (a b r c : Int) : cross a b r c = 0 ↔ a * (2*c) = b * (2*r) := by
  unfold cross
  rw [Int.mul_left_comm a, Int.mul_left_comm b]
  omega

theorem hiddenSpec_reading (rd cd r c : Int) :
    hiddenSpec rd cd r c = true ↔
      ¬(rd = 0 ∧ cd = 0) ∧ ¬(r = rd ∧ c = cd) ∧
      rd.sign * rd ≤ rd.sign * r ∧ cd.sign * cd ≤ cd.sign * c ∧
      cross (corners rd cd).1.1 (corners rd cd).1.2 r c *
        cross (corners rd cd).2.1 (corners rd cd).2.2 r c < 0 := by
  rw [hiddenSpec_iff, HiddenP, ← oppSigns_iff, oppSigns_iff_mul_neg]

/-- diagonal blocker: the rays go through the outermost corners `(2rd+sr, 2cd−sc)`, `(2rd−sr, 2cd+sc)` -/
theorem hiddenSpec_reading_diagonal (rd cd r c : Int) (hr : rd ≠ 0) (hc : cd ≠ 0) :
    hiddenSpec rd cd r c = true ↔
      ¬(r = rd ∧ c = cd) ∧ rd.sign * rd ≤ rd.sign * r ∧ cd.sign * cd ≤ cd.sign * c ∧
      ((2*rd+rd.sign)*c - (2*cd-cd.sign)*r) * ((2*rd-rd.sign)*c - (2*cd+cd.sign)*r) < 0 := by
  rw [hiddenSpec_reading, corners_diag hr hc]
  exact and_iff_right fun h0 => hr h0.1

/-- blocker in the viewer's row: the rays go through the two near corners `(±1, 2cd−sc)` -/
theorem hiddenSpec_reading_row (cd r c : Int) (hc : cd ≠ 0) :
    hiddenSpec 0 cd r c = true ↔
      ¬(r = 0 ∧ c = cd) ∧ cd.sign * cd ≤ cd.sign * c ∧
      (c - (2*cd-cd.sign)*r) * (-c - (2*cd-cd.sign)*r) < 0 := by
  rw [hiddenSpec_reading, corners_row, and_iff_right fun h0 : (0 : Int) = 0 ∧ cd = 0 => hc h0.2]
  simp only [cross, Int.sign_zero, Int.zero_mul, Int.le_refl, true_and, Int.mul_zero, Int.zero_add, Int.zero_sub,
    Int.one_mul, Int.neg_mul]

/-- blocker in the viewer's column: the rays go through the two near corners `(2rd−sr, ±1)` -/
theorem hiddenSpec_reading_col (rd r c : Int) (hr : rd ≠ 0) :
    hiddenSpec rd 0 r c = true ↔
      ¬(r = rd ∧ c = 0) ∧ rd.sign * rd ≤ rd.sign * r ∧
      ((2*rd-rd.sign)*c - r) * ((2*rd-rd.sign)*c + r) < 0 := by
  rw [hiddenSpec_reading, corners_col hr, and_iff_right fun h0 : rd = 0 ∧ (0 : Int) = 0 => hr h0.1]
  simp only [cross, Int.sign_zero, Int.zero_mul, Int.le_refl, true_and, Int.mul_zero, Int.zero_add, Int.zero_sub,
    Int.one_mul, Int.neg_mul, Int.sub_neg]

/-! ## The exceptions named by the property -/

/-- the blocker's own cell stays visible -/
theorem own_cell_visible (rd cd : Int) : hiddenSpec rd cd rd cd = false := by
  rw [← Bool.not_eq_true, hiddenSpec_iff, HiddenP]
  intro h; exact h.2.1 ⟨rfl, rfl⟩

/-- cells nearer than the blocker along one of its non-zero directions stay visible -/
theorem nearer_cells_visible (rd cd r c : Int)
    (h : rd.sign * r < rd.sign * rd ∨ cd.sign * c < cd.sign * cd) : hiddenSpec rd cd r c = false := by
  rw [← Bool.not_eq_true, hiddenSpec_iff, HiddenP]
  rintro ⟨_, _, h3, h4, _⟩
  rcases h with h | h <;> omega

/-- a cell whose centre lies exactly on one of the two rays stays visible -/
theorem on_ray_visible (rd cd r c : Int)
    (h : cross (corners rd cd).1.1 (corners rd cd).1.2 r c = 0 ∨
         cross (corners rd cd).2.1 (corners rd cd).2.2 r c = 0) : hiddenSpec rd cd r c = false := by
  rw [← Bool.not_eq_true, hiddenSpec_iff, HiddenP, Opp]
  rintro ⟨_, _, _, _, h5⟩
  rcases h with h | h <;> rw [h] at h5 <;> omega

/-- a blocking agent standing on the viewer's own cell (the viewer itself included) hides nothing -/
theorem blocker_on_viewer_ignored (r c : Int) : hiddenSpec 0 0 r c = false := by
  rw [← Bool.not_eq_true, hiddenSpec_iff, HiddenP]
  intro h; exact h.1 ⟨rfl, rfl⟩

theorem hiddenBySpec_iff (R : Nat) (bs : List Blocker) (r c : Int) :
    hiddenBySpec R bs r c = true ↔
      ∃ b ∈ bs, b.2.2.1 = true ∧ b.2.2.2 = true ∧ (inWin R b.1 = true ∧ inWin R b.2.1 = true) ∧
        hiddenSpec b.1 b.2.1 r c = true := by
  unfold hiddenBySpec
  rw [List.any_eq_true]
  simp only [Bool.and_eq_true, and_assoc]

/-- **C10, whole mask.**  For every range, every list of agents (any flags, any offsets) and
every cell of the window: the model's mask has a 0 there iff some blocking, active agent within
range has the cell in its shadow — and a 1 otherwise. -/
theorem mask_iff_exists_blocker (R : Nat) (bs : List Blocker) (r c : Int)
    (hr : inWin R r = true) (hc : inWin R c = true) :
    (visibleAt R (maskOf R bs) r c = some false ↔
      ∃ b ∈ bs, b.2.2.1 = true ∧ b.2.2.2 = true ∧ (inWin R b.1 = true ∧ inWin R b.2.1 = true) ∧
        hiddenSpec b.1 b.2.1 r c = true) ∧
    (visibleAt R (maskOf R bs) r c = some true ↔
      ¬∃ b ∈ bs, b.2.2.1 = true ∧ b.2.2.2 = true ∧ (inWin R b.1 = true ∧ inWin R b.2.1 = true) ∧
        hiddenSpec b.1 b.2.1 r c = true) := by
  rw [visibleAt_maskOf R bs r c hr hc, ← hiddenBySpec_iff]
  cases hiddenBySpec R bs r c <;> simp

theorem maskStep_ignored (R : Nat) (m : List (List Bool)) (b : Blocker)
    (h : (b.2.2.1 && b.2.2.2) = false) : maskStep R m b = m := by
  unfold maskStep
  rw [Bool.and_comm, h]; rfl

/-- non-blocking agents and inactive agents do not influence the mask at all: removing them
from the agent dictionary gives the identical table -/
theorem nonblocking_inactive_ignored (R : Nat) (bs : List Blocker) :
    maskOf R bs = maskOf R (bs.filter fun b => b.2.2.1 && b.2.2.2) := by
  unfold maskOf
  rw [List.foldl_filter]
  congr 1
  funext m b
  cases hb : (b.2.2.1 && b.2.2.2)
  · exact maskStep_ignored R m b hb
  · rfl

/-- agents outside the range window do not influence any cell -/
theorem out_of_range_ignored (R : Nat) (bs : List Blocker) (r c : Int)
    (hr : inWin R r = true) (hc : inWin R c = true) :
    visibleAt R (maskOf R bs) r c =
      visibleAt R (maskOf R (bs.filter fun b => inWin R b.1 && inWin R b.2.1)) r c := by
  rw [visibleAt_maskOf R bs r c hr hc, visibleAt_maskOf R _ r c hr hc]
  unfold hiddenBySpec
  rw [List.any_filter]
  congr 3
  funext b
  cases inWin R b.1 <;> cases inWin R b.2.1 <;> simp

/-! ## Symmetry -/

/-- reflecting blocker and cell in the viewer's row -/
theorem hidden_flip_rows (rd cd r c : Int) : hiddenSpec (-rd) cd (-r) c = hiddenSpec rd cd r c := by
  rw [Bool.eq_iff_iff, hiddenSpec_iff, hiddenSpec_iff]; exact HiddenP_flip_rows rd cd r c

/-- reflecting blocker and cell in the viewer's column -/
theorem hidden_flip_cols (rd cd r c : Int) : hiddenSpec rd (-cd) r (-c) = hiddenSpec rd cd r c := by
  rw [Bool.eq_iff_iff, hiddenSpec_iff, hiddenSpec_iff]; exact HiddenP_flip_cols rd cd r c

/-- exchanging rows and columns -/
theorem hidden_transpose (rd cd r c : Int) : hiddenSpec cd rd c r = hiddenSpec rd cd r c := by
  rw [Bool.eq_iff_iff, hiddenSpec_iff, hiddenSpec_iff]; exact HiddenP_transpose rd cd r c

/-- the same three facts for the *model* of the eight cases: it is the rule restricted to the
window (`hidden1_eq`), and rule and window are symmetric -/
theorem hidden1_flip_rows (R : Nat) (rd cd r c : Int) :
    hidden1 R (-rd) cd (-r) c = hidden1 R rd cd r c := by
  rw [hidden1_eq, hidden1_eq, hidden_flip_rows, inWin_neg, inWin_neg]

theorem hidden1_flip_cols (R : Nat) (rd cd r c : Int) :
    hidden1 R rd (-cd) r (-c) = hidden1 R rd cd r c := by
  rw [hidden1_eq, hidden1_eq, hidden_flip_cols, inWin_neg, inWin_neg]

theorem hidden1_transpose (R : Nat) (rd cd r c : Int) :
    hidden1 R cd rd c r = hidden1 R rd cd r c := by
  rw [hidden1_eq, hidden1_eq, hidden_transpose, Bool.and_comm (inWin R cd), Bool.and_comm (inWin R c)]

/-- the eight symmetries of the square -/
def allSyms : List Sym :=
  [⟨false, false, false⟩, ⟨false, true, false⟩, ⟨false, false, true⟩, ⟨false, true, true⟩,
   ⟨true, false, false⟩, ⟨true, true, false⟩, ⟨true, false, true⟩, ⟨true, true, true⟩]

/-- they really are eight different maps (the images of one generic offset are pairwise distinct)
and every `Sym` is one of them -/
theorem allSyms_distinct : (allSyms.map fun s => s.act (1, 2)).Nodup := by decide

theorem allSyms_complete (s : Sym) : s ∈ allSyms := by
  obtain ⟨a, b, c⟩ := s
  cases a <;> cases b <;> cases c <;> decide

/-- **C10, symmetry.**  Rotating or reflecting the whole layout (every agent's offset, flags
unchanged) rotates or reflects the set of hidden cells: the transformed layout's mask at the
transformed cell is the original mask at the original cell — for every one of the eight
symmetries, every range, every list of agents, every cell of the window. -/
theorem mask_dihedral (R : Nat) (s : Sym) (bs : List Blocker) (r c : Int)
    (hr : inWin R r = true) (hc : inWin R c = true) :
    visibleAt R (maskOf R (bs.map s.onBlocker)) (s.act (r, c)).1 (s.act (r, c)).2 =
      visibleAt R (maskOf R bs) r c := by
  have hw := inWin_act R s r c
  rw [hr, hc] at hw
  simp only [Bool.and_true, Bool.and_eq_true] at hw
  rw [visibleAt_maskOf R bs r c hr hc, visibleAt_maskOf R _ _ _ hw.1 hw.2, hiddenBySpec_act]

/-- what `specMask` says: right shape, and every cell of the window is `false` (hidden) exactly
when some active blocking agent within range has it in its shadow -/
theorem specMask_reading (R : Nat) (bs : List Blocker) (out : List (List Bool)) :
    specMask R bs out = true ↔
      (out.length = 2*R+1 ∧ ∀ row ∈ out, row.length = 2*R+1) ∧
      ∀ i < 2*R+1, ∀ j < 2*R+1,
        cellAt out i j = some (!hiddenBySpec R bs ((i : Int) - (R : Int)) ((j : Int) - (R : Int))) := by
  unfold specMask
  simp only [Bool.and_eq_true, beq_iff_eq, List.all_eq_true, List.mem_range]

theorem specMask_visibleAt (R : Nat) (bs : List Blocker) (out : List (List Bool))
    (h : specMask R bs out = true) (r c : Int) (hr : inWin R r = true) (hc : inWin R c = true) :
    visibleAt R out r c = some (!hiddenBySpec R bs r c) :=
  visibleAt_of_cells R out (fun r c => !hiddenBySpec R bs r c) ((specMask_reading R bs out).mp h).2 r c hr hc

/-- **the model's outcome satisfies the judge**, for every range and every list of agents -/
theorem C10_model_satisfies_spec (R : Nat) (bs : List Blocker) : specMask R bs (maskOf R bs) = true := by
  rw [specMask_reading]
  exact ⟨shape_maskOf R bs, fun i hi j hj => cellAt_maskOf_spec R bs i j hi hj⟩

/-- two tables that both pass the judge are equal cell by cell (the judge determines the mask) -/
theorem specMask_unique (R : Nat) (bs : List Blocker) (o1 o2 : List (List Bool))
    (h1 : specMask R bs o1 = true) (h2 : specMask R bs o2 = true) :
    ∀ i < 2*R+1, ∀ j < 2*R+1, cellAt o1 i j = cellAt o2 i j := by
  rw [specMask_reading] at h1 h2
  intro i hi j hj
  rw [h1.2 i hi j hj, h2.2 i hi j hj]

/-! ## Non-vacuity -/

/-- blocker one step below-right of the viewer (numpy index (4, 4)): the cone behind it is hidden;
the blocker's own cell and the two cells whose centres are exactly on a ray — offsets (1, 3) and
(3, 1) — stay visible -/
example : maskOf 3 [(1, 1, true, true)] =
    [[true, true, true, true, true,  true,  true],
     [true, true, true, true, true,  true,  true],
     [true, true, true, true, true,  true,  true],
     [true, true, true, true, true,  true,  true],
     [true, true, true, true, true,  false, true],
     [true, true, true, true, false, false, false],
     [true, true, true, true, true,  false, false]] := by decide +kernel

example : specMask 3 [(1, 1, true, true)] (maskOf 3 [(1, 1, true, true)]) = true := by decide +kernel

/-- a knight's-move blocker at (1, 2): cells behind it and strictly between the rays are hidden,
its own cell (1, 2) and the cell (3, 3), whose centre is exactly on the ray through the corner
(3, 3)/2, are visible -/
example : hidden1 3 1 2 2 3 = true ∧ hidden1 3 1 2 1 2 = false ∧ hidden1 3 1 2 1 3 = true ∧
    hidden1 3 1 2 3 3 = false ∧ hiddenSpec 1 2 2 3 = true ∧ hiddenSpec 1 2 3 3 = false := by decide +kernel

/-- the F7 layout: range 16, blocker at (8, 5); the centre of (15, 11) is exactly on the ray
through the corner (15, 11)/2, so it is visible — and so is its transpose -/
example : hidden1 16 8 5 15 11 = false ∧ hidden1 16 5 8 11 15 = false ∧
    cross 15 11 15 11 = 0 ∧ hidden1 16 8 5 14 9 = true := by decide +kernel

/-- flags matter: the same blocker, non-blocking or inactive, hides nothing; the judge rejects a
mask that hides a cell without cause -/
example : maskOf 1 [(0, 1, false, true), (1, 0, true, false)] = blankMask 1 ∧
    specMask 1 [(0, 1, false, true)] [[true, true, true], [true, true, false], [true, true, true]] = false := by
  decide +kernel

end Mask
end Abmarl
