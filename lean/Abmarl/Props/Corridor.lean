import Abmarl.Props.C07
import Abmarl.Lemmas.Corridor
import Abmarl.Props.C08Base
import Abmarl.Lemmas.Hist
/-!
# `MultiCorridor` as an instance of the general theorems (C01, C02, C03-style invariant, C07, C08)

Model: `Model/Corridor.lean` (transcribed from `abmarl/examples/sim/multi_corridor.py`), tied to the
real class by the driver ops `gexample` (direct calls, configuration `(corridor end n)`) and `mgrx`
(real managers over the real object).  Every theorem is for **every** corridor length `end`, every
number of agents, every tape and every history — histories of direct calls may contain ANY action
dicts (unknown agents, agents that are already done, values outside `Discrete(3)`) and calls that
raise.

C01 / C07: `Cor.cor_lawful`, `Cor.cor_WF` (Lemmas/Corridor.lean) and their instances here; the invariant:
`corridor_reachable_inv`, `corridor_simIface_reachable`, read by `corridor_inv_reading`; C02:
`corridor_observations_in_space`, `corridor_step_noRaise`; C08: `corridor_reset_forgets`, `corridor_fresh_twin`; the judge
the driver evaluates: `corridor_hist`; then a concrete history with a bump, a finish, a revival and an exception.
-/
namespace Abmarl
open Cor

theorem C01_MultiCorridor (cfg : Cor.Cfg) (k : MKind) (hk : k ≠ .dynamic) (hl : k = .turnBased → 0 < cfg.n)
    (m0 : MState Cor.St) (ops : List (Op Int)) :
    specC01 k cfg.n (fun _ => true) m0.shuffle (runOps (Cor.toSimIface cfg) k m0 ops) = true :=
  C01_managers_honour_done_protocol (Cor.toSimIface cfg) k (Cor.cor_WF cfg k hk hl) m0 ops

theorem C07_MultiCorridor (cfg : Cor.Cfg) (k : MKind) (hk : k ≠ .dynamic) (hl : k = .turnBased → 0 < cfg.n)
    (m0 : MState Cor.St) (ops : List (Op Int)) :
    specC07 k cfg.n (fun _ => true) (runOps (Cor.toSimIface cfg) k m0 ops) = true :=
  C07_fair_turns_and_progress (Cor.toSimIface cfg) k (Cor.cor_WF cfg k hk hl) m0 ops

theorem C07_MultiCorridor_every_call_returns (cfg : Cor.Cfg) (k : MKind) (hk : k ≠ .dynamic)
    (hl : k = .turnBased → 0 < cfg.n) (m0 : MState Cor.St) (ops : List (Op Int)) (i : Nat)
    (e : Entry Int Cor.ObsOut Unit) (hi : (runOps (Cor.toSimIface cfg) k m0 ops)[i]? = some e)
    (hp : ProtocolOK {} (runOps (Cor.toSimIface cfg) k m0 ops) i) :
    ∀ er, e.res = .err er → er = .rejected :=
  C07_every_call_returns (Cor.toSimIface cfg) k (Cor.cor_WF cfg k hk hl) m0 ops i e hi hp

/-- once the object has been reset, the invariant holds -/
def Cor.Good (cfg : Cor.Cfg) (s : Cor.St) : Prop := ∀ d, s.dyn = some d → Cor.Inv cfg d

theorem Cor.obsOf_inSpace {cfg : Cor.Cfg} {d : Cor.Dyn} (h : Cor.Inv cfg d) {a : Aid} (ha : a < cfg.n) :
    Cor.obsInSpace cfg (Cor.obsOf cfg d a) = true := by
  have := h.inb a ha
  simp only [Cor.obsInSpace, Cor.obsOf, Bool.and_true]
  exact decide_eq_true (by omega : d.pos.getD a 0 + 1 ≤ cfg.endp)

theorem Cor.dumpOK_iff {cfg : Cor.Cfg} {s : Cor.St} : Cor.dumpOK cfg s.dyn = true ↔ Cor.Good cfg s := by
  unfold Cor.Good
  cases s.dyn with
  | none => exact ⟨fun _ _ h => (by cases h), fun _ => rfl⟩
  | some d => exact (Cor.invb_iff cfg d).trans ⟨fun h _ e => (by cases e; exact h), fun h => h d rfl⟩

theorem Cor.frameb_loop {cfg : Cor.Cfg} {d : Cor.Dyn} (h : Cor.Inv cfg d) (acts : List (Aid × Int)) :
    Cor.frameb cfg d (Cor.stepLoop cfg d acts).1 acts = true := by
  simp only [Cor.frameb, List.all_eq_true, List.mem_range, Bool.or_eq_true, List.contains_iff_mem, beq_iff_eq]
  intro b _
  by_cases hb : b ∈ acts.map (·.1)
  · exact Or.inl hb
  · exact Or.inr ((Cor.stepLoop_shape acts h).2.1 b hb)

theorem Cor.judge1_model {cfg : Cor.Cfg} {s : Cor.St} (h : Cor.Good cfg s) (op : Cor.COp) :
    Cor.judge1 cfg s.dyn op (Cor.runOp cfg s op).1 = true ∧ (Cor.runOp cfg s op).1.dyn = (Cor.runOp cfg s op).2.dyn := by
  have hd := Cor.dumpOK_iff.mpr h
  unfold Cor.judge1
  cases op with
  | reset tape =>
    simp only [Cor.runOp]
    rcases Cor.reset_cases cfg { s with tape := tape } with ⟨hc, hr⟩ | ⟨hc, d, t', hr, hI, hrew, hnd⟩
    · simp [hr, hd, hc]
    · have := (Cor.invb_iff cfg d).mpr hI
      simp only [hr, hc, Cor.dumpOK, this, hrew, Bool.true_and, and_true, Bool.and_eq_true, List.all_eq_true,
        List.mem_range, Bool.not_eq_true', beq_iff_eq]
      exact ⟨fun x hx => (List.mem_replicate.mp hx).2, hnd⟩
  | step acts =>
    simp only [Cor.runOp, Cor.step, and_true]
    cases hs : s.dyn with
    | none => cases Cor.stepPre cfg acts <;> simp [hs, Cor.dumpOK]
    | some d =>
      have hI := h d hs
      have hL := Cor.stepLoop_shape acts hI
      simp only [Cor.dumpOK, (Cor.invb_iff cfg _).mpr hL.1, Bool.true_and]
      cases hr : (Cor.stepLoop cfg d acts).2 with
      | none => exact Cor.frameb_loop hI acts
      | some e =>
        simp only [Cor.frameb_loop hI acts, Bool.and_true, Bool.not_eq_true']
        -- the judge's "must not raise" is the hypothesis of `stepLoop_shape`
        cases hm : Cor.stepMustNotRaise cfg d acts with
        | false => rfl
        | true =>
          simp only [Cor.stepMustNotRaise, Cor.keysNodup, Bool.and_eq_true, decide_eq_true_eq, List.all_eq_true,
            Bool.not_eq_true'] at hm
          rw [hL.2.2 hm.1.2 hm.2] at hr
          cases hr
  | obs a =>
    simp only [Cor.runOp, Cor.getObs, hd, and_true]
    cases hs : s.dyn with
    | none => by_cases hn : cfg.n ≤ a <;> simp [hn]
    | some d =>
      by_cases hn : cfg.n ≤ a
      · simp [hn]
      · simp [hn, Nat.lt_of_not_le hn, Cor.obsOf_inSpace (h d hs) (Nat.lt_of_not_le hn)]
  | rew a =>
    simp only [Cor.runOp, Cor.getReward]
    cases hs : s.dyn with
    | none => simp [hs, Cor.dumpOK]
    | some d =>
      by_cases hn : cfg.n ≤ a
      · simp [hn, hs, Cor.dumpOK, (Cor.invb_iff cfg d).mpr (h d hs)]
      · have hI : Cor.Inv cfg { d with rew := d.rew.set a 0 } := (h d hs).withRew (by simp)
        simp [hn, Nat.lt_of_not_le hn, Cor.dumpOK, (Cor.invb_iff cfg _).mpr hI]
  | done a => simp only [Cor.runOp, hd, beq_self_eq_true, Bool.true_and, beq_iff_eq, and_true]; rfl
  | allDone => simp only [Cor.runOp, hd, beq_self_eq_true, Bool.true_and, beq_iff_eq, and_true]; rfl

/-- from `Cor.judge1_model` and not the other way round: `Cor.judge1` begins with `dumpOK` of the entry's dump, and the
dump is the state the call left -/
theorem Cor.runOp_good {cfg : Cor.Cfg} {s : Cor.St} (h : Cor.Good cfg s) (op : Cor.COp) :
    Cor.Good cfg (Cor.runOp cfg s op).2 := by
  obtain ⟨hj, hdump⟩ := Cor.judge1_model h op
  rw [Cor.judge1.eq_def, Bool.and_eq_true, hdump] at hj
  exact Cor.dumpOK_iff.mp hj.1

theorem Cor.runOps_good {cfg : Cor.Cfg} (ops : List Cor.COp) : ∀ {s : Cor.St}, Cor.Good cfg s →
    Cor.Good cfg (Cor.runOps cfg s ops).2 :=
  fun {s} h =>
    hist_inv (f := Cor.runOp cfg) (stop := fun _ _ => false) (run := Cor.runOps cfg) (P := Cor.Good cfg)
      (Q := fun _ => True) (fun _ _ _ => rfl) (fun _ => rfl) (fun _ op _ h => Cor.runOp_good h op) ops s (fun _ _ => trivial) h

/-- **every reachable state satisfies the invariant**: from the constructed object, after ANY
history of resets (any tapes), steps (ANY action dicts: unknown agents, agents already done, values
outside the action space; also steps that raise), observations, reward reads and done queries — once
the object has been reset successfully, the invariant `Cor.Inv` holds. -/
theorem corridor_reachable_inv (cfg : Cor.Cfg) (t0 : Tape) (ops : List Cor.COp) :
    ∀ d, (Cor.runOps cfg { tape := t0 } ops).2.dyn = some d → Cor.Inv cfg d :=
  Cor.runOps_good ops (fun d hd => by cases hd)

/-- **what the invariant says**: every position is within `0 .. end-1`; two agents that are not done do
not share a cell; a corridor cell stores `a` exactly when `a` is an agent that is not done and stands
there (so the corridor holds exactly the agents that are not done, at exactly their positions) -/
theorem corridor_inv_reading {cfg : Cor.Cfg} {d : Cor.Dyn} (h : Cor.Inv cfg d) :
    (∀ a < cfg.n, d.pos.getD a 0 ≤ cfg.endp - 1) ∧
    (∀ a < cfg.n, ∀ b < cfg.n, Cor.doneOf cfg d a = false → Cor.doneOf cfg d b = false →
      d.pos.getD a 0 = d.pos.getD b 0 → a = b) ∧
    (∀ q < cfg.endp, ∀ a, d.cor.getD q none = some a ↔
      (a < cfg.n ∧ d.pos.getD a 0 = q ∧ Cor.doneOf cfg d a = false)) := by
  have hdone : ∀ a, Cor.doneOf cfg d a = false ↔ d.pos.getD a 0 + 1 ≠ cfg.endp := fun a => by simp [Cor.doneOf]
  refine ⟨fun a ha => Nat.le_sub_one_of_lt (h.inb a ha), fun a ha b hb hda hdb hab => ?_, fun q hq a => ?_⟩
  · have h1 := (h.cell (h.inb a ha) a).mpr ⟨ha, rfl, (hdone a).mp hda⟩
    rw [hab, (h.cell (h.inb b hb) b).mpr ⟨hb, rfl, (hdone b).mp hdb⟩] at h1
    exact (Option.some.inj h1).symm
  · rw [h.cell hq a, hdone]
    exact ⟨fun ⟨h1, h2, h3⟩ => ⟨h1, h2, h2 ▸ h3⟩, fun ⟨h1, h2, h3⟩ => ⟨h1, h2, h2 ▸ h3⟩⟩

/-- the states a manager can drive the `SimIface` instance into -/
inductive Cor.Reach (cfg : Cor.Cfg) : Cor.St → Prop where
  | init (t : Tape) : Cor.Reach cfg { tape := t }
  | reset {s} : Cor.Reach cfg s → Cor.Reach cfg ((Cor.toSimIface cfg).reset s)
  | step {s} (acts) : Cor.Reach cfg s → Cor.Reach cfg ((Cor.toSimIface cfg).step s acts)
  | obs {s} (a) : Cor.Reach cfg s → Cor.Reach cfg ((Cor.toSimIface cfg).obs s a).2
  | reward {s} (a) : Cor.Reach cfg s → Cor.Reach cfg ((Cor.toSimIface cfg).reward s a).2

/-! the calls the managers make through the `SimIface` instance are calls of a history (for `step` and `get_obs`
by `rfl`) -/

theorem Cor.simIface_reset_eq (cfg : Cor.Cfg) (s : Cor.St) :
    (Cor.toSimIface cfg).reset s = (Cor.runOp cfg s (.reset s.tape)).2 := by
  simp only [Cor.toSimIface, Cor.runOp]
  cases Cor.reset cfg s <;> rfl

theorem Cor.simIface_reward_eq (cfg : Cor.Cfg) (s : Cor.St) (a : Aid) :
    ((Cor.toSimIface cfg).reward s a).2 = (Cor.runOp cfg s (.rew a)).2 := by
  simp only [Cor.toSimIface, Cor.runOp]
  cases Cor.getReward cfg s a <;> rfl

/-- every state the managers can reach satisfies the invariant (once reset) -/
theorem corridor_simIface_reachable (cfg : Cor.Cfg) {s : Cor.St} (h : Cor.Reach cfg s) : Cor.Good cfg s := by
  induction h with
  | init t => intro d hd; cases hd
  | @reset s _ ih =>
    rw [Cor.simIface_reset_eq]
    exact Cor.runOp_good ih _
  | @step s acts _ ih => exact Cor.runOp_good ih (.step acts)
  | @obs s a _ ih => exact ih
  | @reward s a _ ih =>
    rw [Cor.simIface_reward_eq]
    exact Cor.runOp_good ih _

/-- **observations lie in the declared space**: in every reachable state (after a successful
reset), for every agent of the simulation — done or not — `get_obs` returns and the position entry is a
point of `Box(0, end-1, (1,), int)`; `left` and `right` are single bits, members of `MultiBinary(1)` by
their type. -/
theorem corridor_observations_in_space (cfg : Cor.Cfg) (t0 : Tape) (ops : List Cor.COp) (a : Aid)
    (ha : a < cfg.n) :
    let s := (Cor.runOps cfg { tape := t0 } ops).2
    s.dyn.isSome = true → ∃ o, Cor.getObs cfg s a = .ok o ∧ Cor.obsInSpace cfg o = true := by
  intro s hs
  cases hd : s.dyn with
  | none => rw [hd] at hs; cases hs
  | some d =>
    have hI := corridor_reachable_inv cfg t0 ops d hd
    have hn : ¬ cfg.n ≤ a := Nat.not_le.mpr ha
    exact ⟨Cor.obsOf cfg d a, by simp [Cor.getObs, hn, hd], Cor.obsOf_inSpace hI ha⟩

/-- **a step with actions of agents that are not done never raises** (C02: "every action drawn
from an agent's declared action space is accepted and processed without error"): in every reachable
state, for every action dict whose keys are distinct agents of the simulation none of which is done —
whatever the action values — `step` returns normally.  (The managers hand on nothing else: C01.) -/
theorem corridor_step_noRaise (cfg : Cor.Cfg) (t0 : Tape) (ops : List Cor.COp) (acts : List (Aid × Int))
    (hnd : (acts.map (·.1)).Nodup) :
    let s := (Cor.runOps cfg { tape := t0 } ops).2
    ∀ d, s.dyn = some d → (∀ x ∈ acts, x.1 < cfg.n ∧ Cor.doneOf cfg d x.1 = false) →
      (Cor.step cfg s acts).2 = none := by
  intro s d hd hall
  have hI := corridor_reachable_inv cfg t0 ops d hd
  simp only [Cor.step, hd]
  exact Cor.stepLoop_ok acts hI hnd hall

/-- an item for an agent that IS done may raise: `RIGHT` reads `self.corridor[end]`
(`IndexError`) — the reason why the hypothesis "not done" of `corridor_step_noRaise` cannot be dropped -/
theorem corridor_done_agent_right_raises {cfg : Cor.Cfg} {d : Cor.Dyn} (h : Cor.Inv cfg d) {a : Aid}
    (ha : a < cfg.n) (hd : Cor.doneOf cfg d a = true) : Cor.step1 cfg d (a, 2) = .error .badIndex := by
  have hp : d.pos.getD a 0 + 1 = cfg.endp := by simpa [Cor.doneOf] using hd
  have hn : ¬ cfg.n ≤ a := Nat.not_le.mpr ha
  have hl : d.cor.length ≤ d.pos.getD a 0 + 1 := Nat.le_of_eq (h.lc.trans hp.symm)
  have h20 : ¬ ((2 : Int) = 0) := by decide
  unfold Cor.step1
  simp only [hn, if_false, h20, if_true, hl]

/-- **`reset` forgets** -/
theorem corridor_reset_forgets (cfg : Cor.Cfg) (s1 s2 : Cor.St) (ht : s1.tape = s2.tape) :
    Cor.reset cfg s1 = Cor.reset cfg s2 :=
  Cor.reset_forgets cfg s1 s2 ht

/-- what a `reset` that returns leaves: every reward 0, nobody done, the invariant -/
theorem corridor_reset_fresh (cfg : Cor.Cfg) (s s' : Cor.St) (h : Cor.reset cfg s = .ok s') :
    ∃ d, s'.dyn = some d ∧ Cor.Inv cfg d ∧ d.rew = List.replicate cfg.n 0 ∧
      ∀ a < cfg.n, Cor.doneOf cfg d a = false :=
  Cor.reset_inv h

/-- **C08, used versus fresh twin, under every manager**: a manager whose `MultiCorridor` went through
anything (`m1`) and a manager over a newly built one (`m2`), same kind, same `randomize_action_input`,
same seeds: if the reset returns, the episode after it — any follow-up history — has the same trace on
both.  No hypothesis on the used object. -/
theorem corridor_fresh_twin (cfg : Cor.Cfg) (k : MKind) (hl : k = .turnBased → 0 < cfg.n)
    (m1 m2 : MState Cor.St) (hseed : m1.sim.tape = m2.sim.tape)
    (hok : ∃ s', Cor.reset cfg m2.sim = .ok s') (hsh : m1.shuffle = m2.shuffle) (ht : m1.tape = m2.tape)
    (follow : List (Op Int)) :
    runOps (Cor.toSimIface cfg) k m1 (.reset :: follow) = runOps (Cor.toSimIface cfg) k m2 (.reset :: follow) := by
  apply runOps_reset_eq_of (Cor.toSimIface cfg) k ?_ m1 m2 ?_ hsh ht
  · intro hk he
    have : 0 ∈ (Cor.toSimIface cfg).learners := (mem_learners _ 0).mpr ⟨hl hk, rfl⟩
    rw [he] at this; cases this
  · obtain ⟨s', hs'⟩ := hok
    have := Cor.reset_forgets cfg m1.sim m2.sim hseed
    simp only [Cor.toSimIface, this, hs']

theorem Cor.specFrom_model {cfg : Cor.Cfg} (ops : List Cor.COp) : ∀ {s : Cor.St}, Cor.Good cfg s →
    Cor.specFrom cfg s.dyn (Cor.zipOps ops (Cor.runOps cfg s ops).1) = true :=
  fun {s} h =>
    -- first six positional arguments: the unfolding equations of `runOps`, `zipOps`, `specFrom`, in the order of the binders
    hist_spec (f := Cor.runOp cfg) (stop := fun _ _ => false) (run := Cor.runOps cfg) (spec := Cor.specFrom cfg)
      (zip := Cor.zipOps) (judge := Cor.judge1 cfg) (next := fun e => e.dyn) (V := fun j s => j = s.dyn)
      (P := Cor.Good cfg) (Q := fun _ => True)
      (fun _ _ _ => rfl) (fun _ => rfl) (fun _ _ _ _ => rfl) (fun ops => by cases ops <;> rfl)
      (fun _ _ _ _ => rfl) (fun _ => rfl)
      (fun _ op _ h => Cor.runOp_good h op)
      (fun j s op _ h hj => by rw [hj]; exact (Cor.judge1_model h op).1)
      (fun s op _ h _ => (Cor.judge1_model h op).2)
      ops s _ (fun _ _ => trivial) h rfl

/-- **the form the judge evaluates**: for every configuration, tape and history — ANY history, no
hypothesis — the model's own trace satisfies `specCor`: every dump satisfies the invariant (also after
a call that raised), `reset` leaves zero rewards and nobody done and raises exactly for a
configuration without placement, `step` moves only agents that have an item and does not raise when
the items are for distinct agents that are not done, every observation is in the declared space and
says what the dump says, `get_obs` / `get_done` / `get_all_done` change nothing, `get_reward` is
read-and-reset. -/
theorem corridor_hist (cfg : Cor.Cfg) (t0 : Tape) (ops : List Cor.COp) :
    Cor.specCor cfg (Cor.zipOps ops (Cor.runOps cfg { tape := t0 } ops).1) = true :=
  Cor.specFrom_model ops (s := { tape := t0 }) (fun d hd => by cases hd)

def exCorCfg : Cor.Cfg := { endp := 4, n := 2 }

/-- reset (tape `[2, 0]`: agent 0 on cell 2, agent 1 on cell 0); agent 1 moves right twice — the second
time it bumps into agent 0 (−5 / −2); agent 0 reaches the end (+16); it is done; `RIGHT` for the done
agent raises `IndexError` after agent 1's `STAY` was processed; `LEFT` walks it back (not done any
more); reward reads; a second episode -/
def exCorOps : List Cor.COp :=
  [.reset [2, 0], .step [(1, 2)], .step [(1, 2)], .rew 1, .rew 1, .step [(0, 2)], .done 0, .allDone, .obs 0,
   .step [(1, 1), (0, 2)], .step [(0, 0)], .done 0, .rew 0, .obs 1, .reset [0, 0], .allDone]

example :
    ((Cor.runOps exCorCfg {} exCorOps).1.map (·.res)) =
      [.unit, .unit, .unit, .int (-6), .int 0, .unit, .bool true, .bool false,
       .obs { position := 3, left := false, right := false },
       .err .badIndex, .unit, .bool false, .int 13, .obs { position := 1, left := false, right := true },
       .unit, .bool false] := by
  decide +kernel

/-- the state reached after the first eleven calls: a concrete reachable state meeting the hypotheses of
`corridor_inv_reading`, `corridor_observations_in_space`, `corridor_step_noRaise` -/
example :
    (Cor.runOps exCorCfg {} (exCorOps.take 11)).2.dyn =
      some { pos := [2, 1], cor := [none, some 1, some 0, none], rew := [13, -1] } := by
  decide +kernel

example : Cor.specCor exCorCfg (Cor.zipOps exCorOps (Cor.runOps exCorCfg {} exCorOps).1) = true :=
  corridor_hist _ _ _

/-- the judge rejects a trace in which the bump penalty of the offended agent went to the offender -/
example :
    let tr := (Cor.runOps exCorCfg {} exCorOps).1
    Cor.specCor exCorCfg (Cor.zipOps exCorOps
      (tr.modify 3 fun e => { e with res := .int (-8) })) = false := by
  decide +kernel

/-- a step for two agents that are not done does not raise (instance of `corridor_step_noRaise`) -/
example : (Cor.step exCorCfg (Cor.runOps exCorCfg {} (exCorOps.take 11)).2 [(0, 2), (1, 2)]).2 = none :=
  corridor_step_noRaise exCorCfg [] (exCorOps.take 11) [(0, 2), (1, 2)] (by decide +kernel)
    { pos := [2, 1], cor := [none, some 1, some 0, none], rew := [13, -1] } (by decide +kernel) (by decide +kernel)

/-- `RIGHT` for a done agent raises (what `corridor_done_agent_right_raises` states, here by evaluation) -/
example : Cor.step1 exCorCfg { pos := [3, 1], cor := [none, some 1, none, none], rew := [0, 0] } (0, 2) =
    .error .badIndex := by decide +kernel

/-- used versus fresh: the reset of the used object equals the reset of a new one (same tape) -/
example : Cor.reset exCorCfg { (Cor.runOps exCorCfg {} (exCorOps.take 11)).2 with tape := [1, 1] } =
    Cor.reset exCorCfg { tape := [1, 1] } :=
  corridor_reset_forgets _ _ _ rfl

example : ∃ s', Cor.reset exCorCfg { tape := [1, 1] } = .ok s' := ⟨_, rfl⟩

/-- the hypotheses of the manager theorems are inhabited: `C01_MultiCorridor` on a turn-based run -/
example : specC01 .turnBased 2 (fun _ => true) false
    (runOps (Cor.toSimIface exCorCfg) .turnBased (mgrInit ({ tape := [2, 0] } : Cor.St) false [])
      [.reset, .step [(0, 2)], .step [(1, 2)]]) = true :=
  C01_MultiCorridor exCorCfg .turnBased (by decide +kernel) (fun _ => by decide +kernel)
    (mgrInit ({ tape := [2, 0] } : Cor.St) false []) [.reset, .step [(0, 2)], .step [(1, 2)]]

end Abmarl
