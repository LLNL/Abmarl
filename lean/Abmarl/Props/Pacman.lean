import Abmarl.Spec.Pacman
import Abmarl.Lemmas.PacmanStep
import Abmarl.Props.C07
import Abmarl.Lemmas.ExamplesKept
import Abmarl.Lemmas.ExamplesJudge
/-!
# `PacmanSim` / `PacmanSimSimple` (`abmarl/examples/sim/pacman.py`): what is proved

Model: `Model/Pacman.lean`, tied to the real classes by `gexample` / `mgrx` with configuration `(pacman …)`
(harness/p_pacman.py; the object is dumped and compared after every call, raised or not).

For EVERY configuration (either class, any grid, agent mix, overlap table, reward scheme, ids), history and tape:

* **C01 / C07**: the getters are frame-correct and `get_reward` is read-and-reset, so the manager theorems hold under the
  all-step and the turn-based manager;
* **C03 / C08**: `reset` (placement, `HealthState`, `OrientationState` in any order) from ANY world with the constructed
  static part and legal ammunition fields gives a world satisfying the whole `WInv`, everybody alive, and the state after
  it does not depend on cells, positions, health, activity, orientation, the reward dict or `step_count` before it;
* **C03 / C02 in EVERY reachable state** — resets, steps with ANY action dict (returned or RAISED: the model carries the
  state a raising step leaves), getter calls: the constructed static part, legal vitals (`PM.VitC`), the cell structure
  `PM.WInvFloat`, every stored position a grid cell, `get_obs` of every agent in the declared space;
* **C02 / C03**: a step from a `PM.stepPre` state returns and leaves `WInv` and `teleSafe`.

The witnesses at the end are evaluated: what the classes do outside their documented domain (teleport target off the grid,
refused teleport, fewer than five baddies), `get_all_done` as it is, and that the hypotheses of the theorems are inhabited.
-/
namespace Abmarl
open World

theorem C01_Pacman (cfg : PM.Cfg) (n : Nat) (k : MKind) (hk : k ≠ .dynamic)
    (hl : k = .turnBased → ∃ a < n, cfg.isLearning a = true) (m0 : MState PM.St) (ops : List (Op Int)) :
    specC01 k n cfg.isLearning m0.shuffle (runOps (PM.toSimIface cfg n) k m0 ops) = true :=
  C01_managers_honour_done_protocol (PM.toSimIface cfg n) k (PM.pm_WF cfg n k hk hl) m0 ops

theorem C07_Pacman (cfg : PM.Cfg) (n : Nat) (k : MKind) (hk : k ≠ .dynamic)
    (hl : k = .turnBased → ∃ a < n, cfg.isLearning a = true) (m0 : MState PM.St) (ops : List (Op Int)) :
    specC07 k n cfg.isLearning (runOps (PM.toSimIface cfg n) k m0 ops) = true :=
  C07_fair_turns_and_progress (PM.toSimIface cfg n) k (PM.pm_WF cfg n k hk hl) m0 ops

theorem C07_Pacman_every_call_returns (cfg : PM.Cfg) (n : Nat) (k : MKind) (hk : k ≠ .dynamic)
    (hl : k = .turnBased → ∃ a < n, cfg.isLearning a = true) (m0 : MState PM.St) (ops : List (Op Int))
    (i : Nat) (e : Entry Int Ex.ObsOut Unit) (hi : (runOps (PM.toSimIface cfg n) k m0 ops)[i]? = some e)
    (hp : ProtocolOK {} (runOps (PM.toSimIface cfg n) k m0 ops) i) :
    ∀ er, e.res = .err er → er = .rejected :=
  C07_every_call_returns (PM.toSimIface cfg n) k (PM.pm_WF cfg n k hk hl) m0 ops i e hi hp

/-- a reset the class can make: a covered placement state, `HealthState` and `OrientationState`, in any order -/
structure PM.ResetOK (cfg : PM.Cfg) (w0 : World) (order : List StateComp) : Prop where
  ex : Ex.ResetOK cfg.toEx w0 order
  orient : StateComp.orient ∈ order

/-- **C03: `reset` establishes the whole invariant** from ANY world with the constructed static part whose ammunition fields
are legal (no component of the class writes them): floating agents, dead agents, a dead pacman left in its cell by a step
that raised, any orientation. -/
theorem pacman_reset_establishes (cfg : PM.Cfg) (w0 w w' : World) (order : List StateComp) (t t' : Tape)
    (hcfg : CfgOK w0) (hR : PM.ResetOK cfg w0 order) (hF : SFrame w0 w) (hA : AmmoC w) (hN : NoAmmoC w)
    (h : applyComps order w t = .ok (w', t')) : w'.WInv = true ∧ SFrame w0 w' ∧ HealthC w' := by
  -- `PM.Cfg.toEx` says `which := .teamBattle`, which is what makes `Ex.ResetOK` ask for `HealthState`
  have hX := Ex.reset_establishes_of hcfg hR.ex hF (Or.inl (hR.ex.health (Or.inl rfl))) hA (Or.inl hR.orient) hN h
  exact ⟨hX.inv, hX.frame, hX.alive⟩

/-- **C08: `reset` forgets**: two objects whose worlds agree on what the reset components do not overwrite (`Ex.SameBut`) and
whose oracle tapes agree are in the SAME state after `reset` — whatever their reward dicts and `step_count`s were -/
theorem pacman_reset_forgets (cfg : PM.Cfg) (order : List StateComp) (s1 s2 : PM.St)
    (hw : Ex.SameBut order s1.ex.w s2.ex.w) (ht : s1.ex.tape = s2.ex.tape) (hp : order.any StateComp.resetsPos = true) :
    PM.reset cfg order s1 = PM.reset cfg order s2 := by
  unfold PM.reset
  rw [Ex.reset_forgets cfg.toEx order s1.ex s2.ex hw ht hp]

/-- **C08, used versus fresh twin, under every manager** -/
theorem pacman_fresh_twin (cfg : PM.Cfg) (n : Nat) (k : MKind)
    (hl : k = .turnBased → (PM.toSimIface cfg n).learners ≠ []) (m1 m2 : MState PM.St)
    (hw : Ex.SameBut cfg.comps m1.sim.ex.w m2.sim.ex.w) (hp : cfg.comps.any StateComp.resetsPos = true)
    (hseed : m1.sim.ex.tape = m2.sim.ex.tape) (hok : ∃ s', PM.reset cfg cfg.comps m2.sim = .ok s')
    (hsh : m1.shuffle = m2.shuffle) (ht : m1.tape = m2.tape) (follow : List (Op Int)) :
    runOps (PM.toSimIface cfg n) k m1 (.reset :: follow) = runOps (PM.toSimIface cfg n) k m2 (.reset :: follow) := by
  apply runOps_reset_eq_of (PM.toSimIface cfg n) k hl m1 m2 ?_ hsh ht
  obtain ⟨s', hs'⟩ := hok
  have := pacman_reset_forgets cfg cfg.comps m1.sim m2.sim hw hseed hp
  simp only [PM.toSimIface, this, hs']

namespace PM

def HealthV (w : World) : Prop :=
  ∀ a < w.n, 0 ≤ (w.stOf a).health ∧ (w.stOf a).health ≤ 1 ∧ (w.stOf a).active = decide (0 < (w.stOf a).health)

/-- the vitals clauses of the C03 invariant -/
structure VitC (w : World) : Prop where
  health : HealthV w
  ammo : AmmoC w
  noAmmo : NoAmmoC w
  orient : OrientC w

theorem vitC_iff_vit (w : World) : VitC w ↔ Vit w := by
  constructor
  · intro h a ha
    obtain ⟨h0, h1, h2⟩ := h.health a ha
    rw [wAgentF_reading]
    refine ⟨h0, h1, h2, ?_, fun hA => (h.ammo a ha hA).2, h.orient a ha⟩
    cases hA : (w.cfgOf a).hasAmmo with
    | true => exact (h.ammo a ha hA).1
    | false => exact h.noAmmo a ha hA
  · intro h
    have hr := fun a ha => (wAgentF_reading w a).mp (h a ha)
    exact ⟨fun a ha => ⟨(hr a ha).1, (hr a ha).2.1, (hr a ha).2.2.1⟩,
      fun a ha hA => ⟨(hr a ha).2.2.2.1, (hr a ha).2.2.2.2.1 hA⟩,
      fun a ha _ => (hr a ha).2.2.2.1, fun a ha => (hr a ha).2.2.2.2.2⟩

theorem vitC_of_float {w : World} (h : WInvFloat w = true) : VitC w := (vitC_iff_vit w).mpr ((WInvFloat_iff w).mp h).2

/-- what one call of a history does to the state `s` and enters in the trace (`PM.runOp`), one constructor per outcome.
A `reset` or a getter that raises leaves the state as it was.  Before the first `reset` (no reward dict) every `step`
raises and changes nothing but the tape; after it a `step` leaves the state `PM.step` computes, whether it returns or
raises. -/
inductive Call (cfg : Cfg) (s : St) : Op → Entry → St → Prop
  | resetErr {order tape e} : Call cfg s (.reset order tape) (entryOf (.err e) s) s
  | reset {order tape s'} : reset cfg order (s.withTape tape) = .ok s' →
      Call cfg s (.reset order tape) (entryOf .unit s') s'
  | stepNone {acts tape} : s.ex.rewards = none →
      Call cfg s (.step acts tape) (entryOf (.err .other) (s.withTape tape)) (s.withTape tape)
  | step {acts tape r} : s.ex.rewards = some r →
      Call cfg s (.step acts tape)
        (entryOf (match (step cfg (s.withTape tape) acts).2 with | none => .unit | some e => .err e)
          (step cfg (s.withTape tape) acts).1)
        (step cfg (s.withTape tape) acts).1
  | obsErr {a tape e} : Call cfg s (.obs a tape) (entryOf (.err e) s) s
  | obs {a tape r ks outs t'} : s.ex.rewards = some r → cfg.observers = some ks → a < s.ex.w.n →
      Ex.obsOuts s.ex.w a ks tape = .ok (outs, t') →
      Call cfg s (.obs a tape) (entryOf (.obs (mergeObs outs)) (s.withTape t')) (s.withTape t')
  | rewErr {a e} : Call cfg s (.rew a) (entryOf (.err e) s) s
  | rew {a r x} : s.ex.rewards = some r → r.lookup a = some x →
      Call cfg s (.rew a) (entryOf (.int x) { s with ex := { s.ex with rewards := some (dictSet r a 0) } })
        { s with ex := { s.ex with rewards := some (dictSet r a 0) } }
  | done {a} : Call cfg s (.done a) (entryOf (Ex.resOfBool (getAllDone cfg s)) s) s
  | allDone : Call cfg s .allDone (entryOf (Ex.resOfBool (getAllDone cfg s)) s) s

theorem runOp_call (cfg : Cfg) (s : St) (op : Op) : Call cfg s op (runOp cfg s op).1 (runOp cfg s op).2 := by
  cases op with
  | reset order tape =>
    simp only [runOp]
    cases h : reset cfg order (s.withTape tape) with
    | error e => exact .resetErr
    | ok s' => exact .reset h
  | step acts tape =>
    simp only [runOp]
    cases hr : s.ex.rewards with
    | none =>
      have : step cfg (s.withTape tape) acts = (s.withTape tape, some .other) := by
        unfold step
        rw [show (s.withTape tape).ex.rewards = none from hr]
      rw [this]
      exact .stepNone hr
    | some r => exact .step hr
  | obs a tape =>
    simp only [runOp, getObs]
    cases h : Ex.getObs cfg.toEx (s.withTape tape).ex a with
    | error e => exact .obsErr
    | ok x =>
      obtain ⟨o, e'⟩ := x
      obtain ⟨r, ks, outs, t', hr, hks, ha, hout, rfl, rfl⟩ := Ex.getObs_ok h
      exact .obs hr hks ha hout
  | rew a =>
    simp only [runOp, getReward]
    cases h : Ex.getReward cfg.toEx s.ex a with
    | error e => exact .rewErr
    | ok x =>
      obtain ⟨v, e'⟩ := x
      obtain ⟨r, hr, hv, rfl⟩ := Ex.getReward_shape h
      exact .rew hr (Ex.rewardVal_ok.mp hv)
  | done a => exact .done
  | allDone => exact .allDone

theorem Call.entry {cfg : Cfg} {s s' : St} {op : Op} {e : Entry} (h : Call cfg s op e s') :
    e.w = s'.ex.w ∧ e.rewards = s'.ex.rewards ∧ e.count = s'.count := by
  cases h <;> exact ⟨rfl, rfl, rfl⟩

/-- the calls the theorems cover: a `reset` the class can make, any `step`, any getter call -/
def OpOK (cfg : Cfg) (w0 : World) : Op → Prop
  | .reset order _ => PM.ResetOK cfg w0 order
  | _ => True

/-- where a history ends can be read off the entry -/
theorem runOps_cons (cfg : Cfg) (s : St) (op : Op) (ops : List Op) :
    runOps cfg s (op :: ops) =
      if (runOp cfg s op).1.res.isErr && (op.isReset || (runOp cfg s op).1.rewards.isNone)
      then ([(runOp cfg s op).1], (runOp cfg s op).2)
      else ((runOp cfg s op).1 :: (runOps cfg (runOp cfg s op).2 ops).1, (runOps cfg (runOp cfg s op).2 ops).2) := by
  simp only [runOps]
  rw [(runOp_call cfg s op).entry.2.1]

theorem runOps_inv {cfg : Cfg} {w0 : World} {I : St → Prop}
    (hI : ∀ s op, OpOK cfg w0 op → I s → I (runOp cfg s op).2) :
    ∀ (ops : List Op) (s : St), (∀ op ∈ ops, OpOK cfg w0 op) → I s → I (runOps cfg s ops).2 :=
  hist_inv (stop := fun op e => e.res.isErr && (op.isReset || e.rewards.isNone)) (runOps_cons cfg) (fun _ => rfl) hI

def GoodV (w0 : World) (s : St) : Prop :=
  match s.ex.rewards with
  | none => s.ex.w = w0
  | some _ => SFrame w0 s.ex.w ∧ VitC s.ex.w

theorem reset_shape {cfg : Cfg} {order : List StateComp} {s s' : St} (h : reset cfg order s = .ok s') :
    ∃ t', applyComps order s.ex.w s.ex.tape = .ok (s'.ex.w, t') ∧
      s'.ex.rewards = some (Ex.zeroRewards cfg.toEx s'.ex.w.n) ∧ s'.count = 0 := by
  unfold reset at h
  cases he : Ex.reset cfg.toEx order s.ex with
  | error e => rw [he] at h; cases h
  | ok e =>
    rw [he] at h
    obtain ⟨w', t', ha, rfl⟩ := Ex.reset_ok he
    cases h
    exact ⟨t', ha, rfl, rfl⟩

theorem goodV_some {w0 : World} {s : St} (hs : s.ex.rewards.isSome = true) :
    GoodV w0 s ↔ SFrame w0 s.ex.w ∧ VitC s.ex.w := by
  obtain ⟨r, hr⟩ := Option.isSome_iff_exists.mp hs
  unfold GoodV
  rw [hr]

theorem GoodV.pre {w0 : World} {s : St} (hA0 : AmmoC w0) (hN0 : NoAmmoC w0) (hG : GoodV w0 s) :
    SFrame w0 s.ex.w ∧ AmmoC s.ex.w ∧ NoAmmoC s.ex.w := by
  unfold GoodV at hG
  cases hr : s.ex.rewards with
  | none =>
    rw [hr] at hG
    simp only at hG
    rw [hG]; exact ⟨SFrame.refl w0, hA0, hN0⟩
  | some r =>
    rw [hr] at hG
    exact ⟨hG.1, hG.2.ammo, hG.2.noAmmo⟩

def FloatS (s : St) : Prop := s.ex.rewards.isSome = true → WInvFloat s.ex.w = true ∧ Ex.AllInGrid s.ex.w

/-- what holds in every state a history can reach (`count`: `PacmanSim` never writes `step_count`) -/
structure HistInv (cfg : Cfg) (w0 : World) (s : St) : Prop where
  good : GoodV w0 s
  float : FloatS s
  count : cfg.simple = false → s.count = 0

theorem histInv_init (cfg : Cfg) (w0 : World) (t : Tape) : HistInv cfg w0 { ex := { w := w0, tape := t } } :=
  ⟨rfl, fun h => (by cases h), fun _ => rfl⟩

theorem reset_goodV {cfg : Cfg} {w0 : World} (hcfg : CfgOK w0) (hA0 : AmmoC w0) (hN0 : NoAmmoC w0)
    {order : List StateComp} (hR : PM.ResetOK cfg w0 order) {s s' : St} (hG : GoodV w0 s)
    (h : reset cfg order s = .ok s') :
    s'.ex.rewards.isSome = true ∧ s'.ex.w.WInv = true ∧ SFrame w0 s'.ex.w ∧ HealthC s'.ex.w ∧ s'.count = 0 := by
  obtain ⟨t', ha, hr, hc⟩ := reset_shape h
  obtain ⟨hF, hA, hN⟩ := hG.pre hA0 hN0
  obtain ⟨hI, hF', hH⟩ := pacman_reset_establishes cfg w0 s.ex.w _ order _ t' hcfg hR hF hA hN ha
  exact ⟨by rw [hr]; rfl, hI, hF', hH, hc⟩

theorem Call.histInv {cfg : Cfg} {w0 : World} {s s' : St} {op : Op} {e : Entry} (hcfg : CfgOK w0) (hA0 : AmmoC w0)
    (hN0 : NoAmmoC w0) (hc : Call cfg s op e s') (hop : OpOK cfg w0 op) (h : HistInv cfg w0 s) : HistInv cfg w0 s' := by
  have htape : ∀ t, HistInv cfg w0 (s.withTape t) := fun _ => ⟨h.good, h.float, h.count⟩
  cases hc with
  | @reset order tape s' hr =>
    obtain ⟨hs, hI, hF, hH, hc⟩ := reset_goodV hcfg hA0 hN0 hop (htape tape).good hr
    have hfl := WInvFloat_of_WInv hI
    exact ⟨(goodV_some hs).mpr ⟨hF, vitC_of_float hfl⟩, fun _ => ⟨hfl, Ex.allInGrid_of_alive hI hH⟩, fun _ => hc⟩
  | stepNone | obs => exact htape _
  | @step acts tape r hr =>
    have hs : s.ex.rewards.isSome = true := by rw [hr]; rfl
    have hfl := step_float cfg (s.withTape tape) acts (h.float hs).1
    refine ⟨(goodV_some (by rw [step_rewards_isSome]; exact hs)).mpr
        ⟨((goodV_some hs).mp h.good).1.trans (step_vsame cfg (s.withTape tape) acts).sframe, vitC_of_float hfl⟩,
      fun _ => ⟨hfl, step_prim prim_inG cfg (s.withTape tape) acts (h.float hs).2⟩, fun hc => ?_⟩
    rw [(step_count cfg _ acts).1 hc]
    exact h.count hc
  | @rew a r x hr _ =>
    have hs : s.ex.rewards.isSome = true := by rw [hr]; rfl
    exact ⟨(goodV_some (s := { s with ex := { s.ex with rewards := some (dictSet r a 0) } }) rfl).mpr
      ((goodV_some hs).mp h.good), fun _ => h.float hs, h.count⟩
  | _ => exact h

theorem runOp_histInv {cfg : Cfg} {w0 : World} (hcfg : CfgOK w0) (hA0 : AmmoC w0) (hN0 : NoAmmoC w0)
    (s : St) (op : Op) (hop : OpOK cfg w0 op) (h : HistInv cfg w0 s) : HistInv cfg w0 (runOp cfg s op).2 :=
  (runOp_call cfg s op).histInv hcfg hA0 hN0 hop h

theorem runOps_histInv {cfg : Cfg} {w0 : World} (hcfg : CfgOK w0) (hA0 : AmmoC w0) (hN0 : NoAmmoC w0) (t0 : Tape)
    (ops : List Op) (hops : ∀ op ∈ ops, OpOK cfg w0 op) :
    HistInv cfg w0 (runOps cfg { ex := { w := w0, tape := t0 } } ops).2 :=
  runOps_inv (runOp_histInv hcfg hA0 hN0) ops _ hops (histInv_init cfg w0 t0)

end PM

/-- **C03 for `PacmanSim` / `PacmanSimSimple`, the part that holds in EVERY reachable state.**  From the constructed world
`w0` (configuration facts `CfgOK`, legal ammunition fields), after ANY history of resets (placement, health and orientation
states in any order: `PM.OpOK`), steps — ANY action dicts: in the declared spaces or not, without pacman, for dead agents,
walls, food or ids that do not exist; steps that returned and steps that RAISED, the history goes on with the state the raising
step left —, observations, reward reads and done queries: once a reset has returned, the world has the static part it was
built with and legal vitals: health within [0,1], an agent is active exactly when its health is positive, ammunition
within its bounds, orientation one of the four directions. -/
theorem pacman_reachable_inv (cfg : PM.Cfg) (w0 : World) (hcfg : CfgOK w0) (hA0 : AmmoC w0) (hN0 : NoAmmoC w0)
    (t0 : Tape) (ops : List PM.Op) (hops : ∀ op ∈ ops, PM.OpOK cfg w0 op) :
    let s := (PM.runOps cfg { ex := { w := w0, tape := t0 } } ops).2
    s.ex.rewards.isSome = true → SFrame w0 s.ex.w ∧ PM.VitC s.ex.w := by
  intro s hs
  exact (PM.goodV_some hs).mp (PM.runOps_histInv hcfg hA0 hN0 t0 ops hops).good

/-- **… and whatever happened, the next `reset` re-establishes the whole `WInv`** and `step_count = 0` -/
theorem pacman_reset_after_anything (cfg : PM.Cfg) (w0 : World) (hcfg : CfgOK w0) (hA0 : AmmoC w0) (hN0 : NoAmmoC w0)
    (t0 : Tape) (ops : List PM.Op) (hops : ∀ op ∈ ops, PM.OpOK cfg w0 op) (order : List StateComp) (tape : Tape)
    (hR : PM.ResetOK cfg w0 order) (s' : PM.St)
    (h : PM.reset cfg order ((PM.runOps cfg { ex := { w := w0, tape := t0 } } ops).2.withTape tape) = .ok s') :
    s'.ex.w.WInv = true ∧ SFrame w0 s'.ex.w ∧ s'.count = 0 := by
  obtain ⟨_, hI, hF, _, hc⟩ := PM.reset_goodV hcfg hA0 hN0 hR (s := (PM.runOps cfg _ ops).2.withTape tape)
    (PM.runOps_histInv hcfg hA0 hN0 t0 ops hops).good h
  exact ⟨hI, hF, hc⟩

/-- the states a manager can drive the `SimIface` instance into -/
inductive PM.Reach (cfg : PM.Cfg) (w0 : World) (n : Nat) : PM.St → Prop where
  | init (t : Tape) : PM.Reach cfg w0 n { ex := { w := w0, tape := t } }
  | reset {s} : PM.Reach cfg w0 n s → PM.Reach cfg w0 n ((PM.toSimIface cfg n).reset s)
  | step {s} (acts) : PM.Reach cfg w0 n s → PM.Reach cfg w0 n ((PM.toSimIface cfg n).step s acts)
  | obs {s} (a) : PM.Reach cfg w0 n s → PM.Reach cfg w0 n ((PM.toSimIface cfg n).obs s a).2
  | reward {s} (a) : PM.Reach cfg w0 n s → PM.Reach cfg w0 n ((PM.toSimIface cfg n).reward s a).2

theorem PM.simIface_runOp (cfg : PM.Cfg) (n : Nat) (s : PM.St) :
    (PM.toSimIface cfg n).reset s = (PM.runOp cfg s (.reset cfg.comps s.ex.tape)).2 ∧
    (∀ acts, (PM.toSimIface cfg n).step s acts = (PM.runOp cfg s (.step acts s.ex.tape)).2) ∧
    (∀ a, ((PM.toSimIface cfg n).obs s a).2 = (PM.runOp cfg s (.obs a s.ex.tape)).2) ∧
    (∀ a, ((PM.toSimIface cfg n).reward s a).2 = (PM.runOp cfg s (.rew a)).2) := by
  have hW : s.withTape s.ex.tape = s := rfl
  refine ⟨?_, fun _ => rfl, fun a => ?_, fun a => ?_⟩
  · simp only [PM.toSimIface, PM.runOp, hW]
    cases PM.reset cfg cfg.comps s <;> rfl
  · simp only [PM.toSimIface, PM.runOp, hW]
    cases PM.getObs cfg s a <;> rfl
  · simp only [PM.toSimIface, PM.runOp]
    cases PM.getReward cfg s a <;> rfl

theorem PM.reach_inv {cfg : PM.Cfg} {w0 : World} {n : Nat} {I : PM.St → Prop} (hR : PM.ResetOK cfg w0 cfg.comps)
    (h0 : ∀ t, I { ex := { w := w0, tape := t } })
    (hI : ∀ s op, PM.OpOK cfg w0 op → I s → I (PM.runOp cfg s op).2) {s : PM.St} (h : PM.Reach cfg w0 n s) : I s := by
  induction h with
  | init t => exact h0 t
  | @reset s _ ih => rw [(PM.simIface_runOp cfg n s).1]; exact hI s _ hR ih
  | @step s acts _ ih => rw [(PM.simIface_runOp cfg n s).2.1]; exact hI s _ trivial ih
  | @obs s a _ ih => rw [(PM.simIface_runOp cfg n s).2.2.1]; exact hI s _ trivial ih
  | @reward s a _ ih => rw [(PM.simIface_runOp cfg n s).2.2.2]; exact hI s _ trivial ih

/-- every state the managers can reach through `PM.toSimIface` has the constructed static part and legal vitals
(`PM.GoodV`), as `pacman_reachable_inv` says of histories -/
theorem pacman_simIface_reachable (cfg : PM.Cfg) (w0 : World) (n : Nat) (hcfg : CfgOK w0) (hA0 : AmmoC w0)
    (hN0 : NoAmmoC w0) (hR : PM.ResetOK cfg w0 cfg.comps) {s : PM.St} (h : PM.Reach cfg w0 n s) : PM.GoodV w0 s :=
  (PM.reach_inv hR (PM.histInv_init cfg w0) (PM.runOp_histInv hcfg hA0 hN0) h).good

/-- **C03 for `PacmanSim` / `PacmanSimSimple`: the cell structure in EVERY reachable state.**  After any history as in
`pacman_reachable_inv` (steps that raised included), once a reset has returned, the world satisfies `PM.WInvFloat` — the
tables have their shape, no cell holds an id twice, whoever is stored in a cell is an agent of the simulation whose stored
position is that cell (inside the grid), no two occupants of a cell have encodings that may not overlap, the vitals are legal
and the overlap table is symmetric.  (`WInvFloat` is `WInv` without "stored ⇒ active" and "active ⇒ stored", the two clauses
the class does NOT keep: `pacman_refused_teleport_witness`, `pacman_teleport_outside_grid_raises`.) -/
theorem pacman_reachable_WInvFloat (cfg : PM.Cfg) (w0 : World) (hcfg : CfgOK w0) (hA0 : AmmoC w0) (hN0 : NoAmmoC w0)
    (t0 : Tape) (ops : List PM.Op) (hops : ∀ op ∈ ops, PM.OpOK cfg w0 op) :
    let s := (PM.runOps cfg { ex := { w := w0, tape := t0 } } ops).2
    s.ex.rewards.isSome = true → PM.WInvFloat s.ex.w = true := by
  intro s hs
  exact ((PM.runOps_histInv hcfg hA0 hN0 t0 ops hops).float hs).1

/-- … and the stored position of EVERY agent of the simulation — active, dead, floating after a refused teleport — is a
cell of the grid -/
theorem pacman_reachable_positions_in_grid (cfg : PM.Cfg) (w0 : World) (hcfg : CfgOK w0) (hA0 : AmmoC w0) (hN0 : NoAmmoC w0)
    (t0 : Tape) (ops : List PM.Op) (hops : ∀ op ∈ ops, PM.OpOK cfg w0 op) :
    let s := (PM.runOps cfg { ex := { w := w0, tape := t0 } } ops).2
    s.ex.rewards.isSome = true → ∀ a < w0.n, s.ex.w.inGrid (s.ex.w.stOf a).pos = true := by
  intro s hs a ha
  have hF := (pacman_reachable_inv cfg w0 hcfg hA0 hN0 t0 ops hops hs).1
  exact ((PM.runOps_histInv hcfg hA0 hN0 t0 ops hops).float hs).2 a (by rw [hF.sameG.n]; exact ha)

/-- **observations of `PacmanSim` / `PacmanSimSimple` lie in the declared space, in every reachable state**: after any
history as in `pacman_reachable_WInvFloat` (steps that raised included), once a reset has returned, for EVERY agent of the
simulation — active, dead and still stored in its cell, floating in no cell after a refused teleport — every observer list the
simulation was built with and every tape, `get_obs` returns, and `Ex.obsInSpace` holds: the key list of the observation dict is
exactly the declared one and every value lies in the space its observer declared.  (The world may violate `WInv`; no transport
to a `WInv` world exists — an active agent stored nowhere shades the masks from an empty cell —, so the observer theorems are
applied to `WInvFloat` worlds directly: Lemmas/PacmanFloat.lean.)  Hypotheses as in `examples_observations_in_space`: positive
encodings, non-negative initial ammunition. -/
theorem pacman_observations_in_space (cfg : PM.Cfg) (w0 : World) (hcfg : CfgOK w0) (hA0 : AmmoC w0) (hN0 : NoAmmoC w0)
    (t0 : Tape) (ops : List PM.Op) (hops : ∀ op ∈ ops, PM.OpOK cfg w0 op)
    (henc : ∀ b < w0.n, 0 < w0.encOf b) (hammo : ∀ b < w0.n, 0 ≤ (w0.cfgOf b).initAmmo)
    (ks : List Observers.Kind) (hks : cfg.observers = some ks) (a : Aid) (ha : a < w0.n) :
    let s := (PM.runOps cfg { ex := { w := w0, tape := t0 } } ops).2
    s.ex.rewards.isSome = true →
    ∀ t, ∃ o s', PM.getObs cfg (s.withTape t) a = .ok (o, s') ∧ Ex.obsInSpace s.ex.w a ks o = true := by
  intro s hs t
  have hF := (pacman_reachable_inv cfg w0 hcfg hA0 hN0 t0 ops hops hs).1
  have hW := (PM.runOps_histInv hcfg hA0 hN0 t0 ops hops).float hs
  have hn : s.ex.w.n = w0.n := hF.sameG.n
  exact PM.getObs_float cfg (s.withTape t) a ks hks hs hW.1 hW.2 (show a < s.ex.w.n by rw [hn]; exact ha)
    (sframe_encPos hF henc) (sframe_ammoNonneg hF hammo)

/-- every state the managers can reach through `PM.toSimIface` satisfies `PM.FloatS`: once a reset has returned, `WInvFloat`
holds and every stored position is a grid cell -/
theorem pacman_simIface_WInvFloat (cfg : PM.Cfg) (w0 : World) (n : Nat) (hcfg : CfgOK w0) (hA0 : AmmoC w0)
    (hN0 : NoAmmoC w0) (hR : PM.ResetOK cfg w0 cfg.comps) {s : PM.St} (h : PM.Reach cfg w0 n s) : PM.FloatS s :=
  (PM.reach_inv hR (PM.histInv_init cfg w0) (PM.runOp_histInv hcfg hA0 hN0) h).float

/-- **a `step` from a `PM.stepPre` state returns and leaves the whole invariant.**  `PM.stepPre` (Spec/Pacman.lean) is the
explicit decidable hypothesis of the judge.  For EVERY such configuration (either class), world, reward dict, action dict,
tape and `step_count`: `step` does not raise, the world it leaves satisfies `WInv` again — although in between it does not:
a pacman eaten in the first overlap loop of `PacmanSim` stays in its cell, dead, while the baddies move and until the last
statement takes it out —, and `teleSafe` still holds (so the next step from it is covered too, as long as pacman lives).
The clause "distinct keys" (`PM.keysNodup`) of `stepPre` is not used by the proof. -/
theorem pacman_step_keeps_WInv (cfg : PM.Cfg) (s : PM.St) (r : Ex.Ledger) (acts : List (Aid × Int))
    (hr : s.ex.rewards = some r) (hpre : PM.stepPre cfg s.ex.w r acts = true) :
    (PM.step cfg s acts).2 = none ∧ (PM.step cfg s acts).1.ex.w.WInv = true ∧
    PM.teleSafe cfg (PM.step cfg s acts).1.ex.w = true :=
  PM.step_of_stepPre cfg s r acts hr hpre

/-- **C02: every action drawn from the declared action spaces is processed without error** — `pacman_step_keeps_WInv`, the
clause the judge `PM.specPM` uses for a step that raised -/
theorem pacman_step_noRaise (cfg : PM.Cfg) (s : PM.St) (r : Ex.Ledger) (acts : List (Aid × Int))
    (hr : s.ex.rewards = some r) (hpre : PM.stepPre cfg s.ex.w r acts = true) : (PM.step cfg s acts).2 = none :=
  (pacman_step_keeps_WInv cfg s r acts hr hpre).1

/-- a world of 10 rows and `cols` columns (the 21 the teleport is hard-coded for, or fewer) with overlap table `ov`:
pacman (0, encoding 1) starts at `ppos`, a baddie (1, encoding 4) at `bpos`, a piece of food (2, encoding 3) at (8,0) -/
def exPMWorld (ov : List (Int × List Int)) (cols : Nat) (ppos bpos : Pos) : World :=
  { rows := 10, cols := cols, overlap := ov, cells := List.replicate (10 * cols) [],
    cfg := [{ enc := 1, initPos := some ppos, initHealth := some 1, moving := true, moveRange := 1, hasOrient := true,
              initOrient := some 1, observing := true, viewRange := 1 },
            { enc := 4, initPos := some bpos, initHealth := some 1, moving := true, moveRange := 1, hasOrient := true,
              initOrient := some 1, observing := true, viewRange := 0 },
            { enc := 3, initPos := some (8, 0), initHealth := some 1 }],
    st := [{}, {}, {}] }

def exPMCfg (simple : Bool) : PM.Cfg :=
  { simple := simple, learning := [true, true, false], comps := [.health, .orient, .position .position {}],
    observers := some [.absolute], pacman := 0, food := [2], baddies := [1] }

def exPMReset : PM.Op := .reset [.health, .orient, .position .position {}] []

/-- **the teleport works on a grid with the hard-coded 21 columns**: pacman at (9,1) facing left walks onto (9,0) and is
teleported to (9,20); the world satisfies `WInv`, the reward is the entropy −0.01 -/
example :
    let tr := (PM.runOps (exPMCfg false) { ex := { w := exPMWorld [(1, [3, 4]), (4, [1, 3, 4]), (3, [1, 4])] 21 (9, 1) (0, 5) } }
      [exPMReset, .step [(0, 1), (1, 0)] [], .rew 0]).1
    tr.map (fun e => (e.res, e.w.WInv, (e.w.stOf 0).pos)) =
      [(.unit, true, (9, 1)), (.unit, true, (9, 20)), (.int (-1), true, (9, 20))] := by
  simp only [WInv_scan]
  decide +kernel

/-- **teleport target outside the grid** (`PacmanSim` on a grid with fewer than 21 columns — here the 19 columns of
`PacmanSimSimple.example_grid`): `grid.place(pacman, (9, 20))` raises `IndexError` AFTER `grid.remove`: pacman is active,
keeps `position = (9, 0)` and is stored in no cell (`WInv` false, `WInvFloat` true); the next step raises `KeyError`.
Outside the documented domain ("we hardcode the corridor-teleportation feature"): modelled, not a finding. -/
theorem pacman_teleport_outside_grid_raises :
    let tr := (PM.runOps (exPMCfg false) { ex := { w := exPMWorld [(1, [3, 4]), (4, [1, 3, 4]), (3, [1, 4])] 19 (9, 1) (0, 5) } }
      [exPMReset, .step [(0, 1), (1, 0)] [], .step [(0, 3), (1, 0)] []]).1
    tr.map (fun e => (e.res, e.w.WInv, PM.WInvFloat e.w, (e.w.stOf 0).pos, (e.w.stOf 0).active && (e.w.cell (9, 0)).isEmpty)) =
      [(.unit, true, true, (9, 1), true), (.err .badIndex, false, true, (9, 0), true),
       (.err .keyError, false, true, (9, 0), true)] := by
  simp only [WInv_scan, PM.WInvFloat_scan]
  decide +kernel

/-- the history of the refused teleport, evaluated once: the witness below and the state its first three calls leave -/
theorem exPMRefused_run :
    let run := PM.runOps (exPMCfg false) { ex := { w := exPMWorld [(1, [3]), (4, [3, 4]), (3, [1, 4])] 21 (9, 1) (9, 20) } }
    (((run [exPMReset, .step [(0, 1), (1, 0)] [], .step [(0, 0), (1, 0)] [], .step [(0, 3), (1, 0)] []]).1.map
        fun e => (e.res, e.w.WInv, PM.WInvFloat e.w, (e.w.stOf 0).pos, (e.w.stOf 0).active)) =
      [(.unit, true, true, (9, 1), true), (.unit, false, true, (9, 0), true),
       (.err .keyError, false, true, (9, 0), true), (.err .keyError, false, true, (9, 0), true)] ∧
      PM.teleSafe (exPMCfg false) (run [exPMReset]).2.ex.w = false) ∧
    (run [exPMReset, .step [(0, 1), (1, 0)] [], .step [(0, 0), (1, 0)] []]).2.ex.rewards.isSome = true ∧
    (run [exPMReset, .step [(0, 1), (1, 0)] [], .step [(0, 0), (1, 0)] []]).2.ex.w.WInv = false := by
  simp only [WInv_scan, PM.WInvFloat_scan]
  decide +kernel

/-- **observation P1 (not a finding: DESIGN.md): a refused teleport** — the standard 21 columns, an overlap table in which pacman may not share
a cell with a baddie (`{1: {3}, 4: {3, 4}}`), a baddie standing on (9,20): pacman walks onto (9,0), `grid.remove` takes it out
of its cell, `grid.place(pacman, (9, 20))` returns `False`, which nobody looks at: NO exception, pacman is active, in no cell,
`position = (9, 0)` (C03: "every active agent is stored in exactly one grid cell" fails, `WInv` false); every later `step`
with an in-space action for pacman raises `KeyError` (C02).  `PM.teleSafe` excludes the overlap table. -/
theorem pacman_refused_teleport_witness :
    let w0 := exPMWorld [(1, [3]), (4, [3, 4]), (3, [1, 4])] 21 (9, 1) (9, 20)
    let tr := (PM.runOps (exPMCfg false) { ex := { w := w0 } }
      [exPMReset, .step [(0, 1), (1, 0)] [], .step [(0, 0), (1, 0)] [], .step [(0, 3), (1, 0)] []]).1
    tr.map (fun e => (e.res, e.w.WInv, PM.WInvFloat e.w, (e.w.stOf 0).pos, (e.w.stOf 0).active)) =
      [(.unit, true, true, (9, 1), true), (.unit, false, true, (9, 0), true),
       (.err .keyError, false, true, (9, 0), true), (.err .keyError, false, true, (9, 0), true)] ∧
    PM.teleSafe (exPMCfg false) ((PM.runOps (exPMCfg false) { ex := { w := w0 } } [exPMReset]).2.ex.w) = false :=
  exPMRefused_run.1

/-- **`get_all_done` as it is**: pacman eats the only piece of food (reward +0.1 −0.01) and `get_all_done` stays `False`
— the eaten `FoodAgent` is still in `self.agents` (the docstring says "done if it dies or if all the food is gone"). -/
theorem pacman_allDone_ignores_eaten_food :
    let w0 := { exPMWorld [(1, [3, 4]), (4, [1, 3, 4]), (3, [1, 4])] 21 (8, 1) (0, 5) with
                cfg := (exPMWorld [] 21 (8, 1) (0, 5)).cfg }
    let tr := (PM.runOps (exPMCfg false) { ex := { w := w0 } } [exPMReset, .step [(0, 1), (1, 0)] [], .rew 0, .allDone]).1
    tr.map (fun e => (e.res, (e.w.stOf 2).active, e.w.WInv)) =
      [(.unit, true, true), (.unit, false, true), (.int 9, false, true), (.bool false, false, true)] := by
  simp only [WInv_scan]
  decide +kernel

/-- **`PacmanSimSimple` with fewer than five baddies**: the very first step raises `KeyError` (`self.agents['baddie_2']`),
after pacman has moved and collected its reward (the state the raising step leaves) and WITHOUT `step_count += 1`.
Outside the documented domain ("assumes a specific grid configuration"; `PM.cfgWF` asks for the five ids). -/
theorem pacmansimple_few_baddies_raises :
    let cfg := { exPMCfg true with named := [some 1, none, none, none, none], scheme := { kill := none } }
    let tr := (PM.runOps cfg { ex := { w := exPMWorld [(1, [3, 4]), (4, [1, 3, 4]), (3, [1, 4])] 19 (9, 5) (0, 5) } }
      [exPMReset, .step [(0, 1)] [], .rew 0]).1
    tr.map (fun e => (e.res, (e.w.stOf 0).pos, e.count)) =
      [(.unit, (9, 5), 0), (.err .keyError, (9, 4), 0), (.int (-1), (9, 4), 0)] ∧
    PM.cfgWF cfg (exPMWorld [] 19 (9, 5) (0, 5)) = false := by
  decide +kernel

/-! the world and the history of the refused teleport (a raising step included) meet the hypotheses of the reachability
theorems -/

theorem exPMRefused_cfgOK : CfgOK (exPMWorld [(1, [3]), (4, [3, 4]), (3, [1, 4])] 21 (9, 1) (9, 20)) :=
  (cfgOKb_iff _).mp (by decide +kernel)

/-- no agent of `exPMWorld` carries ammunition -/
theorem exPMWorld_ammoC (ov : List (Int × List Int)) (cols : Nat) (ppos bpos : Pos) : AmmoC (exPMWorld ov cols ppos bpos) := by
  intro a _ h
  have : a = 0 ∨ a = 1 ∨ a = 2 ∨ 3 ≤ a := by omega
  rcases this with rfl | rfl | rfl | h3
  · cases h
  · cases h
  · cases h
  · simp [World.cfgOf, exPMWorld, List.getD_eq_getElem?_getD, h3] at h

theorem exPMRefused_noAmmoC : NoAmmoC (exPMWorld [(1, [3]), (4, [3, 4]), (3, [1, 4])] 21 (9, 1) (9, 20)) :=
  (noAmmoCb_iff _).mp (by decide +kernel)

theorem exPMRefused_opsOK : ∀ op ∈ [exPMReset, .step [(0, 1), (1, 0)] [], .step [(0, 0), (1, 0)] []],
    PM.OpOK (exPMCfg false) (exPMWorld [(1, [3]), (4, [3, 4]), (3, [1, 4])] 21 (9, 1) (9, 20)) op := by
  intro op hop
  simp only [List.mem_cons, List.mem_nil_iff, or_false] at hop
  rcases hop with rfl | rfl | rfl
  · exact ⟨Ex.resetOK_of_b (by decide +kernel), by simp⟩
  · trivial
  · trivial

theorem exPMRefused_started :
    ((PM.runOps (exPMCfg false) { ex := { w := exPMWorld [(1, [3]), (4, [3, 4]), (3, [1, 4])] 21 (9, 1) (9, 20) } }
      [exPMReset, .step [(0, 1), (1, 0)] [], .step [(0, 0), (1, 0)] []]).2).ex.rewards.isSome = true :=
  exPMRefused_run.2.1

/-- the hypotheses of `pacman_reachable_inv` are inhabited (the history of the refused teleport, raising steps included) -/
example :
    let w0 := exPMWorld [(1, [3]), (4, [3, 4]), (3, [1, 4])] 21 (9, 1) (9, 20)
    let s := (PM.runOps (exPMCfg false) { ex := { w := w0 } }
      [exPMReset, .step [(0, 1), (1, 0)] [], .step [(0, 0), (1, 0)] []]).2
    SFrame w0 s.ex.w ∧ PM.VitC s.ex.w :=
  pacman_reachable_inv (exPMCfg false) _ exPMRefused_cfgOK (exPMWorld_ammoC _ _ _ _) exPMRefused_noAmmoC [] _
    exPMRefused_opsOK exPMRefused_started

/-- `pacman_reachable_WInvFloat` is not vacuous: the history of the refused teleport (a raising step included) ends in a
world that satisfies `WInvFloat` by the theorem — and NOT `WInv` -/
example :
    let w0 := exPMWorld [(1, [3]), (4, [3, 4]), (3, [1, 4])] 21 (9, 1) (9, 20)
    let s := (PM.runOps (exPMCfg false) { ex := { w := w0 } }
      [exPMReset, .step [(0, 1), (1, 0)] [], .step [(0, 0), (1, 0)] []]).2
    PM.WInvFloat s.ex.w = true ∧ s.ex.w.WInv = false :=
  ⟨pacman_reachable_WInvFloat (exPMCfg false) _ exPMRefused_cfgOK (exPMWorld_ammoC _ _ _ _) exPMRefused_noAmmoC [] _
    exPMRefused_opsOK exPMRefused_started, exPMRefused_run.2.2⟩

/-- `pacman_observations_in_space` is not vacuous: the observation of pacman, ACTIVE and stored in NO cell after the refused
teleport (the world violates `WInv`) -/
example :
    let w0 := exPMWorld [(1, [3]), (4, [3, 4]), (3, [1, 4])] 21 (9, 1) (9, 20)
    let s := (PM.runOps (exPMCfg false) { ex := { w := w0 } }
      [exPMReset, .step [(0, 1), (1, 0)] [], .step [(0, 0), (1, 0)] []]).2
    ∃ o s', PM.getObs (exPMCfg false) (s.withTape []) 0 = .ok (o, s') ∧ Ex.obsInSpace s.ex.w 0 [.absolute] o = true :=
  pacman_observations_in_space (exPMCfg false) _ exPMRefused_cfgOK (exPMWorld_ammoC _ _ _ _) exPMRefused_noAmmoC [] _
    exPMRefused_opsOK (by decide +kernel) (by decide +kernel) [.absolute] rfl 0 (by decide) exPMRefused_started []

/-- `pacman_step_keeps_WInv` is not vacuous: after `reset` on the 21-column world the teleporting step satisfies `stepPre`
(`PacmanSim`) -/
example :
    let s := (PM.runOps (exPMCfg false) { ex := { w := exPMWorld [(1, [3, 4]), (4, [1, 3, 4]), (3, [1, 4])] 21 (9, 1) (0, 5) } }
      [exPMReset]).2
    PM.stepPre (exPMCfg false) s.ex.w [(0, 0), (1, 0)] [(0, 1), (1, 0)] = true ∧ s.ex.rewards = some [(0, 0), (1, 0)] ∧
    (PM.step (exPMCfg false) s [(0, 1), (1, 0)]).2 = none := by
  intro s
  have h : PM.stepPre (exPMCfg false) s.ex.w [(0, 0), (1, 0)] [(0, 1), (1, 0)] = true ∧
      s.ex.rewards = some [(0, 0), (1, 0)] := by
    simp only [PM.stepPre, World.WInv_scan]
    decide +kernel
  exact ⟨h.1, h.2, pacman_step_noRaise (exPMCfg false) s _ _ h.2 h.1⟩

/-- a `PacmanSimSimple` world: 10×19, pacman (0) at (9,1), `baddie_0 … baddie_4` (1…5) in row 0, a piece of food (6) on (9,18) -/
def exPMWorldS : World :=
  let baddie (c : Int) : AgentCfg :=
    { enc := 4, initPos := some (0, c), initHealth := some 1, moving := true, moveRange := 1, hasOrient := true,
      initOrient := some 1, observing := true, viewRange := 0 }
  { rows := 10, cols := 19, overlap := [(1, [3, 4]), (4, [1, 3, 4]), (3, [1, 4])], cells := List.replicate 190 [],
    cfg := [{ enc := 1, initPos := some (9, 1), initHealth := some 1, moving := true, moveRange := 1, hasOrient := true,
              initOrient := some 1, observing := true, viewRange := 1 },
            baddie 2, baddie 4, baddie 6, baddie 8, baddie 10, { enc := 3, initPos := some (9, 18), initHealth := some 1 }],
    st := [{}, {}, {}, {}, {}, {}, {}] }

def exPMCfgS : PM.Cfg :=
  { simple := true, learning := [true, true, true, true, true, true, false], comps := [.health, .orient, .position .position {}],
    observers := some [.absolute], pacman := 0, food := [6], baddies := [1, 2, 3, 4, 5], scheme := { kill := none },
    named := [some 1, some 2, some 3, some 4, some 5] }

/-- … and for `PacmanSimSimple`: pacman walks onto (9,0), is teleported to (9,18) and eats the food there, then the five
scripted baddies move; `stepPre` holds, so the step returns and leaves `WInv` by the theorem -/
example :
    let s := (PM.runOps exPMCfgS { ex := { w := exPMWorldS } } [exPMReset]).2
    s.ex.rewards = some [(0, 0), (1, 0), (2, 0), (3, 0), (4, 0), (5, 0)] ∧
    PM.stepPre exPMCfgS s.ex.w [(0, 0), (1, 0), (2, 0), (3, 0), (4, 0), (5, 0)] [(0, 1)] = true ∧
    ((PM.step exPMCfgS s [(0, 1)]).1.ex.w.stOf 0).pos = (9, 18) ∧ ((PM.step exPMCfgS s [(0, 1)]).1.ex.w.stOf 6).active = false ∧
    (PM.step exPMCfgS s [(0, 1)]).1.ex.w.WInv = true := by
  intro s
  have h : s.ex.rewards = some [(0, 0), (1, 0), (2, 0), (3, 0), (4, 0), (5, 0)] ∧
      PM.stepPre exPMCfgS s.ex.w [(0, 0), (1, 0), (2, 0), (3, 0), (4, 0), (5, 0)] [(0, 1)] = true ∧
      ((PM.step exPMCfgS s [(0, 1)]).1.ex.w.stOf 0).pos = (9, 18) ∧
      ((PM.step exPMCfgS s [(0, 1)]).1.ex.w.stOf 6).active = false := by
    simp only [PM.stepPre, World.WInv_scan]
    decide +kernel
  exact ⟨h.1, h.2.1, h.2.2.1, h.2.2.2, (pacman_step_keeps_WInv exPMCfgS s _ _ h.1 h.2.1).2.1⟩

/-- the manager theorems are inhabited: an all-step run over the 21-column world -/
example : specC01 .allStep 3 (exPMCfg false).isLearning false
    (runOps (PM.toSimIface (exPMCfg false) 3) .allStep
      (mgrInit ({ ex := { w := exPMWorld [(1, [3, 4]), (4, [1, 3, 4]), (3, [1, 4])] 21 (9, 1) (0, 5) } } : PM.St) false [])
      [.reset, .step [(0, 1), (1, 0)]]) = true :=
  C01_Pacman (exPMCfg false) 3 .allStep (by decide) (fun h => by cases h)
    (mgrInit ({ ex := { w := exPMWorld [(1, [3, 4]), (4, [1, 3, 4]), (3, [1, 4])] 21 (9, 1) (0, 5) } } : PM.St) false [])
    [.reset, .step [(0, 1), (1, 0)]]

end Abmarl
