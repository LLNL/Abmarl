import Abmarl.Lemmas.ReachHist
import Abmarl.Props.C07
import Abmarl.Lemmas.ExamplesKept
/-!
# `ReachTheTargetSim`: the theorem set of the packaged examples

Model: `Model/Reach.lean`, tied to the real class by `gexample` / `mgrx` with configuration `(reach …)`.

`step` takes a runner that reached the target off the grid and sets `agent.active = False` by hand; its health stays
positive.  `WInv` says "active iff health positive", so such a world satisfies only `WInvWeak` ("zero health ⇒
inactive"), and the theorems of the C03 library about histories, which ask for `WInv`, do not apply to it.  Everything
here is stated for `WInvWeak` worlds (Lemmas/Reach.lean): whatever changes the world keeps `WInvWeak`, the observers read
of it only `Observers.ObsInv`, the attack actors return in such worlds, and `reset` leaves `WInv`.

By property: C01 / C07 — the manager theorems apply (`rt_lawful`); C03 / C08 — `reset` establishes `WInv` and forgets,
every reachable world satisfies `WInvWeak`, every stored position is a grid cell; C02 — observations lie in the declared
space, a `step` inside `RT.stepMustNotRaise` returns, the getters return, two witnesses for the findings C02-R1 and
C02-R2 (DESIGN.md §11.3); the judge — `reach_hist`.  The tie to the real code is differential: model = implementation
call by call, and the judge on the implementation's trace.
-/
namespace Abmarl
open World

namespace RT

theorem getDone_rewards {cfg : Cfg} {s : Ex.St} {r : Ex.Ledger} (a : Aid) (hr : s.rewards = some r) (r' : Ex.Ledger) :
    getDone cfg { s with rewards := some r' } a = getDone cfg s a := by
  simp only [getDone, hr]

/-- **`Lawful`** for `ReachTheTargetSim`: `get_obs`, `get_reward` and the state are those of the smart simulations
(`Ex.lawful_of_ex`), the done getters read the world and whether a reward dict exists -/
theorem rt_lawful (cfg : Cfg) (n : Nat) : Lawful (toSimIface cfg n) :=
  Ex.lawful_of_ex cfg.toEx n id (fun _ e => e) (fun _ _ => rfl) (fun _ _ => rfl) (fun _ _ => rfl) (fun _ _ => rfl)
    (fun _ => rfl) (fun _ _ => ⟨fun _ => rfl, rfl, rfl⟩) fun s r r' (hr : s.rewards = some r) =>
    ⟨fun b => by simp only [toSimIface, getDone, hr, id], by simp only [toSimIface, getAllDone, hr, id], rfl⟩

theorem rt_WF (cfg : Cfg) (n : Nat) (k : MKind) (hk : k ≠ .dynamic)
    (hl : k = .turnBased → ∃ a < n, cfg.isLearning a = true) : WF (toSimIface cfg n) k :=
  WF_of_lawful (rt_lawful cfg n) hk hl

end RT

theorem C01_ReachTheTarget (cfg : RT.Cfg) (n : Nat) (k : MKind) (hk : k ≠ .dynamic)
    (hl : k = .turnBased → ∃ a < n, cfg.isLearning a = true) (m0 : MState Ex.St) (ops : List (Op Ex.Act)) :
    specC01 k n cfg.isLearning m0.shuffle (runOps (RT.toSimIface cfg n) k m0 ops) = true :=
  C01_managers_honour_done_protocol (RT.toSimIface cfg n) k (RT.rt_WF cfg n k hk hl) m0 ops

theorem C07_ReachTheTarget (cfg : RT.Cfg) (n : Nat) (k : MKind) (hk : k ≠ .dynamic)
    (hl : k = .turnBased → ∃ a < n, cfg.isLearning a = true) (m0 : MState Ex.St) (ops : List (Op Ex.Act)) :
    specC07 k n cfg.isLearning (runOps (RT.toSimIface cfg n) k m0 ops) = true :=
  C07_fair_turns_and_progress (RT.toSimIface cfg n) k (RT.rt_WF cfg n k hk hl) m0 ops

theorem C07_ReachTheTarget_every_call_returns (cfg : RT.Cfg) (n : Nat) (k : MKind) (hk : k ≠ .dynamic)
    (hl : k = .turnBased → ∃ a < n, cfg.isLearning a = true) (m0 : MState Ex.St) (ops : List (Op Ex.Act))
    (i : Nat) (e : Entry Ex.Act Ex.ObsOut Unit) (hi : (runOps (RT.toSimIface cfg n) k m0 ops)[i]? = some e)
    (hp : ProtocolOK {} (runOps (RT.toSimIface cfg n) k m0 ops) i) :
    ∀ er, e.res = .err er → er = .rejected :=
  C07_every_call_returns (RT.toSimIface cfg n) k (RT.rt_WF cfg n k hk hl) m0 ops i e hi hp

/-! ## reset: C03 / C08 -/

/-- **`reset` re-establishes the whole invariant**: from ANY world with the constructed static part that
satisfies `WInvWeak` — whatever runners were taken off the grid and deactivated by hand, whoever died —
`health_state.reset(); position_state.reset()` leaves a world satisfying `WInv`, with the constructed static
part, everybody alive (in a cell that stores it) with legal health. -/
theorem reach_reset_establishes (cfg : RT.Cfg) (w0 w w' : World) (order : List StateComp) (t t' : Tape)
    (hcfg : CfgOK w0) (hR : Ex.ResetOK cfg.toEx w0 order) (hF : SFrame w0 w) (hW : w.WInvWeak = true)
    (h : applyComps order w t = .ok (w', t')) : w'.WInv = true ∧ SFrame w0 w' ∧ HealthC w' := by
  have hX := RT.reset_establishes_weak hcfg hR hF hW h
  exact ⟨hX.inv, hX.frame, hX.alive⟩

/-- **`reset` forgets** (it is `Ex.reset` of the smart simulations) -/
theorem reach_reset_forgets (cfg : RT.Cfg) (order : List StateComp) (s1 s2 : Ex.St)
    (hw : Ex.SameBut order s1.w s2.w) (ht : s1.tape = s2.tape) (hp : order.any StateComp.resetsPos = true) :
    Ex.reset cfg.toEx order s1 = Ex.reset cfg.toEx order s2 :=
  Ex.reset_forgets cfg.toEx order s1 s2 hw ht hp

/-- **C08, used versus fresh twin, under every manager** -/
theorem reach_fresh_twin (cfg : RT.Cfg) (n : Nat) (k : MKind)
    (hl : k = .turnBased → (RT.toSimIface cfg n).learners ≠ []) (m1 m2 : MState Ex.St)
    (hw : Ex.SameBut cfg.comps m1.sim.w m2.sim.w) (hp : cfg.comps.any StateComp.resetsPos = true)
    (hseed : m1.sim.tape = m2.sim.tape) (hok : ∃ s', Ex.reset cfg.toEx cfg.comps m2.sim = .ok s')
    (hsh : m1.shuffle = m2.shuffle) (ht : m1.tape = m2.tape) (follow : List (Op Ex.Act)) :
    runOps (RT.toSimIface cfg n) k m1 (.reset :: follow) = runOps (RT.toSimIface cfg n) k m2 (.reset :: follow) := by
  apply runOps_reset_eq_of (RT.toSimIface cfg n) k hl m1 m2 ?_ hsh ht
  obtain ⟨s', hs'⟩ := hok
  have := Ex.reset_forgets cfg.toEx cfg.comps m1.sim m2.sim hw hseed hp
  simp only [RT.toSimIface, this, hs']

/-! ## C02: witnesses for the findings C02-R1, C02-R2 (DESIGN.md §11.3) -/

/-- two runners and the target on a 1×3 grid; runner 0 starts ON the target's cell (the overlap table
`{2: {3}, 3: {1, 2, 3}}` of the packaged configuration, here as the setter of `Grid.overlapping` symmetrises it, allows
it, and so does a random placement) -/
def exRTWorld : World :=
  { rows := 1, cols := 3, overlap := [(2, [3]), (3, [1, 2, 3]), (1, [3])], cells := [[], [], []],
    cfg := [{ enc := 3, initPos := some (0, 1), initHealth := some 1, moving := true, moveRange := 1,
              observing := true, viewRange := 1 },
            { enc := 3, initPos := some (0, 0), initHealth := some 1, moving := true, moveRange := 1,
              observing := true, viewRange := 1 },
            { enc := 2, initPos := some (0, 1), initHealth := some 1, attacking := true, attackRange := 1,
              strength := 1, accuracy := 1, simAttacks := 1, observing := true, viewRange := 1 }],
    st := [{}, {}, {}] }

def exRTCfg : RT.Cfg :=
  { learning := [true, true, true], comps := [.health, .position .position {}],
    attack := ⟨.selective, [(2, [3])], false⟩, target := 2, runners := [0, 1], targets := [2] }

/-- one point of the declared action space for EVERY agent: the runners stay / move right, the target attacks
its own cell -/
def exRTActs : List (Aid × Ex.Act) :=
  [(0, { move := (0, 0), attack := .grid [] }), (1, { move := (0, 1), attack := .grid [] }),
   (2, { move := (0, 0), attack := .grid [0, 0, 0, 0, 1, 0, 0, 0, 0] })]

def exRTOps : List Ex.EOp := [.reset [.health, .position .position {}] [], .step exRTActs []]

/-- the state right after `reset` -/
def exRTState : Ex.St := (RT.runOps exRTCfg { w := exRTWorld } (exRTOps.take 1)).2

/-- **witness for finding C02-R1 (DESIGN.md §11.3)**: the state right after `reset` satisfies the whole invariant,
everybody alive, a reward entry for everybody; the action dict `exRTActs` holds a point of the declared action space for
each of the three agents, all learning, all active, distinct keys.  The target kills runner 0 on its own cell in the
attack loop (the actor takes the dead runner off the grid), so in the move loop `target_done.get_done(runner0)` is true
for an agent that is in no cell: with the guard `if agent.active and …` the step is processed — runner 0 is charged for
its death and the entropy (−1.01), runner 1 walks onto the target (+0.99) and is taken off the grid, the target
collects +1 for the kill. -/
theorem reach_R1_witness_processed :
    RT.rtPre exRTCfg exRTWorld exRTOps = true ∧
    exRTState.w.WInv = true ∧ exRTState.rewards = some [(0, 0), (1, 0), (2, 0)] ∧
    exRTActs.all (RT.actInSpace exRTCfg exRTState.w) = true ∧
    exRTActs.all (fun x => exRTCfg.isLearning x.1 && (exRTState.w.stOf x.1).active) = true ∧
    Ex.keysNodup exRTActs = true ∧
    (match RT.step exRTCfg exRTState exRTActs with
     | .ok s' => s'.rewards == some [(0, -101), (1, 99), (2, 100)] && s'.w.WInvWeak && !s'.w.WInv
     | .error _ => false) = true := by
  decide +kernel

/-- the same history seen through the driver's trace -/
example : ((RT.runOps exRTCfg { w := exRTWorld } exRTOps).1.map (·.res)) = [.unit, .unit] := by
  decide +kernel

/-- runner 0 does NOT start on the target's cell -/
def exRTWorld2 : World :=
  { exRTWorld with cfg := exRTWorld.cfg.set 0 { (exRTWorld.cfgOf 0) with initPos := some (0, 2) } }

/-- the same actions: the runner at distance one walks onto the target, collects +1 −0.01 and is taken off the grid
(inactive, health 1: `WInvWeak` but not `WInv`) -/
example :
    let tr := (RT.runOps exRTCfg { w := exRTWorld2 } (exRTOps ++ [.rew 1, .done 1, .allDone])).1
    tr.map (·.res) = [.unit, .unit, .int 99, .bool true, .bool false] ∧
    (tr.map fun e => (e.w.WInv, e.w.WInvWeak)) =
      [(true, true), (false, true), (false, true), (false, true), (false, true)] := by
  decide +kernel

/-- the hypotheses of the theorems about histories, for `exRTWorld2` and `exRTOps` -/
theorem exRT2_cfgOK : CfgOK exRTWorld2 := (cfgOKb_iff _).mp (by decide +kernel)

theorem exRT2_fresh : exRTWorld2.vitalsAlive = true := by decide +kernel

theorem exRT2_opsOK : ∀ op ∈ exRTOps, RT.OpOK exRTCfg exRTWorld2 op := by
  intro op hop
  simp only [exRTOps, List.mem_cons, List.mem_nil_iff, or_false] at hop
  rcases hop with rfl | rfl
  · exact Ex.resetOK_of_b (by decide +kernel)
  · trivial

/-- the state of the examples after runner 1 reached the target and was taken off the grid by hand: `WInvWeak`,
not `WInv` -/
def exRTState2 : Ex.St := (RT.runOps exRTCfg { w := exRTWorld2 } exRTOps).2

/-- … evaluated once: runner 1 is inactive with health 1 and in no cell, its stored position is the target's cell -/
theorem exRTState2_eq :
    exRTState2.w = { exRTWorld2 with cells := [[], [2], [0]],
                                     st := [{ pos := (0, 2) }, { pos := (0, 1), active := false }, { pos := (0, 1) }] } ∧
    exRTState2.rewards = some [(0, -1), (1, 99), (2, -10)] := by
  decide +kernel

theorem exRT2_started : (RT.runOps exRTCfg { w := exRTWorld2, tape := [] } exRTOps).2.rewards.isSome = true :=
  congrArg Option.isSome exRTState2_eq.2

/-- `reach_reset_establishes` applies to that world (hand-deactivated runner): the next reset gives `WInv` again -/
example :
    let tr := (RT.runOps exRTCfg { w := exRTWorld2 } (exRTOps ++ [.reset [.health, .position .position {}] []])).1
    tr.map (fun e => e.w.WInv) = [true, false, true] := by
  decide +kernel

/-- a barrier (agent 0, not an `Agent`), a runner and the target on a 1×3 grid, the barrier next to the target -/
def exRTWorld3 : World :=
  { rows := 1, cols := 3, overlap := [(2, [3]), (3, [1, 2, 3]), (1, [3])], cells := [[], [], []],
    cfg := [{ enc := 1, initPos := some (0, 0), initHealth := some 1 },
            { enc := 3, initPos := some (0, 2), initHealth := some 1, moving := true, moveRange := 1,
              observing := true, viewRange := 1 },
            { enc := 2, initPos := some (0, 1), initHealth := some 1, attacking := true, attackRange := 1,
              strength := 1, accuracy := 1, simAttacks := 1, observing := true, viewRange := 1 }],
    st := [{}, {}, {}] }

def exRTCfg3 : RT.Cfg :=
  { learning := [false, true, true], comps := [.health, .position .position {}],
    attack := ⟨.selective, [(2, [1, 3])], false⟩, target := 2, runners := [1], targets := [2] }

/-- **witness for finding C02-R2 (DESIGN.md §11.3; C02-E3 of `TeamBattleSim` in this class)**: with a barrier's encoding
in the attack mapping the target kills the barrier next to it, which is not an `Agent` and has no reward entry: with the
guard `if is_agent(attacked_agent)` around `self.rewards[attacked_agent.id] -= 1` the step is processed and the target
collects +1. -/
theorem reach_R2_witness_processed :
    ((RT.runOps exRTCfg3 { w := exRTWorld3 }
      [.reset [.health, .position .position {}] [],
       .step [(1, { move := (0, 0), attack := .grid [] }),
              (2, { move := (0, 0), attack := .grid [0, 0, 0, 1, 0, 0, 0, 0, 0] })] []]).1.map
        fun e => (e.res, e.rewards)) =
      [(.unit, some [(1, 0), (2, 0)]), (.unit, some [(1, -1), (2, 100)])] := by
  decide +kernel

theorem RT.reachable_goodH (cfg : RT.Cfg) (w0 : World) (hcfg : CfgOK w0) (hfresh : w0.vitalsAlive = true)
    (t0 : Tape) (ops : List Ex.EOp) (hops : ∀ op ∈ ops, RT.OpOK cfg w0 op) :
    RT.GoodH cfg w0 (RT.runOps cfg { w := w0, tape := t0 } ops).2 :=
  RT.runOps_goodH hcfg hfresh ops _ hops (RT.goodH_init cfg w0 t0)

/-- **C03 for `ReachTheTargetSim`: every reachable world satisfies `WInvWeak`.**  From the constructed world `w0`
(everybody alive with legal vitals, configuration facts `CfgOK`), after ANY history of resets (`RT.OpOK`: `HealthState`
and a well-formed placement state among the components), steps (ANY action dicts and tapes: in the declared spaces or
not, for live or dead agents), observations, reward reads and done queries: once a reset has returned, the world satisfies
`WInvWeak` — every active agent is stored exactly in the cell of its in-grid position, no cell holds two agents that may
not overlap, health within [0,1], an agent with zero health is never active, ammunition and orientation legal — and has
the static part it was built with.  (`WInv` itself is false in these worlds as soon as a runner reached the target: see
the examples.) -/
theorem reach_reachable_WInvWeak (cfg : RT.Cfg) (w0 : World) (hcfg : CfgOK w0) (hfresh : w0.vitalsAlive = true)
    (t0 : Tape) (ops : List Ex.EOp) (hops : ∀ op ∈ ops, RT.OpOK cfg w0 op) :
    let s := (RT.runOps cfg { w := w0, tape := t0 } ops).2
    s.rewards.isSome = true → s.w.WInvWeak = true ∧ SFrame w0 s.w := by
  intro s hs
  obtain ⟨r, hr⟩ := Option.isSome_iff_exists.mp hs
  obtain ⟨hW, hF, _⟩ := (RT.reachable_goodH cfg w0 hcfg hfresh t0 ops hops).live hr
  exact ⟨hW, hF⟩

/-- the states a manager can drive the `SimIface` instance into (the reset order is `cfg.comps`) -/
inductive RT.Reach (cfg : RT.Cfg) (w0 : World) (n : Nat) : Ex.St → Prop where
  | init (t : Tape) : RT.Reach cfg w0 n { w := w0, tape := t }
  | reset {s} : RT.Reach cfg w0 n s → RT.Reach cfg w0 n ((RT.toSimIface cfg n).reset s)
  | step {s} (acts) : RT.Reach cfg w0 n s → RT.Reach cfg w0 n ((RT.toSimIface cfg n).step s acts)
  | obs {s} (a) : RT.Reach cfg w0 n s → RT.Reach cfg w0 n ((RT.toSimIface cfg n).obs s a).2
  | reward {s} (a) : RT.Reach cfg w0 n s → RT.Reach cfg w0 n ((RT.toSimIface cfg n).reward s a).2

theorem reach_simIface_goodH (cfg : RT.Cfg) (w0 : World) (n : Nat) (hcfg : CfgOK w0)
    (hfresh : w0.vitalsAlive = true) (hR : Ex.ResetOK cfg.toEx w0 cfg.comps) {s : Ex.St}
    (h : RT.Reach cfg w0 n s) : RT.GoodH cfg w0 s := by
  induction h with
  | init t => rfl
  | @reset s _ ih => rw [RT.simIface_reset_eq]; exact RT.runOp_goodH hcfg hfresh s _ hR ih
  | @step s acts _ ih => rw [RT.simIface_step_eq]; exact RT.runOp_goodH hcfg hfresh s _ trivial ih
  | @obs s a _ ih => rw [RT.simIface_obs_eq]; exact RT.runOp_goodH hcfg hfresh s (.obs a s.tape) trivial ih
  | @reward s a _ ih => rw [RT.simIface_reward_eq]; exact RT.runOp_goodH hcfg hfresh s (.rew a) trivial ih

/-- every state a manager can drive the `SimIface` instance into is `RT.GoodW`: after a reset, `WInvWeak` and the
constructed static part -/
theorem reach_simIface_reachable (cfg : RT.Cfg) (w0 : World) (n : Nat) (hcfg : CfgOK w0)
    (hfresh : w0.vitalsAlive = true) (hR : Ex.ResetOK cfg.toEx w0 cfg.comps) {s : Ex.St}
    (h : RT.Reach cfg w0 n s) : RT.GoodW w0 s :=
  (reach_simIface_goodH cfg w0 n hcfg hfresh hR h).goodW

/-- the hypotheses of `reach_reachable_WInvWeak` are inhabited: the history of the examples above (a runner reaches the
target and is taken off the grid) — the theorem gives `WInvWeak` for the final state, `WInv` is false there -/
example :
    let s := (RT.runOps exRTCfg { w := exRTWorld2 } exRTOps).2
    s.w.WInvWeak = true ∧ SFrame exRTWorld2 s.w :=
  reach_reachable_WInvWeak exRTCfg exRTWorld2 exRT2_cfgOK exRT2_fresh [] exRTOps exRT2_opsOK exRT2_started

/-! ## C02: observations -/

theorem RT.getObs_in_space_weak (cfg : RT.Cfg) {w0 : World} (s : Ex.St) (hs : s.rewards.isSome = true)
    (hW : s.w.WInvWeak = true) (hF : SFrame w0 s.w) (henc : ∀ b < w0.n, 0 < w0.encOf b)
    (hammo : ∀ b < w0.n, 0 ≤ (w0.cfgOf b).initAmmo) (a : Aid) (ha : a < w0.n)
    (hpos : (s.w.stOf a).active = true ∨ s.w.inGrid (s.w.stOf a).pos = true) (t : Tape) :
    ∃ o s', Ex.getObs cfg.toEx { s with tape := t } a = .ok (o, s') ∧
      ∀ p ∈ o, p.1 = "position_centered_encoding" ∧
        Observers.declared s.w a (.centered cfg.observeSelf) p.2 = true := by
  have ha' : a < s.w.n := by rw [hF.sameG.n]; exact ha
  obtain ⟨o, s', hget, hin⟩ := Ex.getObs_total (cfg := cfg.toEx) (s := { s with tape := t }) rfl hs (.of_weak hW) ha'
    (hpos.elim (fun hact => (RT.placed_of_weak hW ha' hact).inG) id) (sframe_encPos hF henc)
    (sframe_ammoNonneg hF hammo a ha')
  refine ⟨o, s', hget, fun p hp => ?_⟩
  obtain ⟨k, hk, hkey, hd⟩ := Ex.obsInSpace_items hin p hp
  cases List.mem_singleton.mp hk
  exact ⟨hkey.symm, hd⟩

/-- **observations of `ReachTheTargetSim` lie in the declared space, in every reachable state**: after any history as in
`reach_reachable_WInvWeak` (after a successful reset), for every agent of the simulation that is active — or whose stored
position is inside the grid (dead and hand-deactivated agents keep theirs) — and every tape, `get_obs` returns, the
observation dict has no other channel than `position_centered_encoding`, and its value lies in the space the
`PositionCenteredEncodingObserver` declared.  Hypotheses as in `examples_observations_in_space`: positive encodings,
non-negative initial ammunition. -/
theorem reach_observations_in_space (cfg : RT.Cfg) (w0 : World) (hcfg : CfgOK w0) (hfresh : w0.vitalsAlive = true)
    (t0 : Tape) (ops : List Ex.EOp) (hops : ∀ op ∈ ops, RT.OpOK cfg w0 op)
    (henc : ∀ b < w0.n, 0 < w0.encOf b) (hammo : ∀ b < w0.n, 0 ≤ (w0.cfgOf b).initAmmo) (a : Aid) (ha : a < w0.n) :
    let s := (RT.runOps cfg { w := w0, tape := t0 } ops).2
    s.rewards.isSome = true → ((s.w.stOf a).active = true ∨ s.w.inGrid (s.w.stOf a).pos = true) →
    ∀ t, ∃ o s', Ex.getObs cfg.toEx { s with tape := t } a = .ok (o, s') ∧
      ∀ p ∈ o, p.1 = "position_centered_encoding" ∧
        Observers.declared s.w a (.centered cfg.observeSelf) p.2 = true := by
  intro s hs hpos t
  obtain ⟨hW, hF⟩ := reach_reachable_WInvWeak cfg w0 hcfg hfresh t0 ops hops hs
  exact RT.getObs_in_space_weak cfg s hs hW hF henc hammo a ha hpos t

/-- `reach_observations_in_space` on the concrete history of the examples above: the observation of the runner that was
taken off the grid (inactive, position still inside the grid) -/
example : ∃ o s', Ex.getObs exRTCfg.toEx { (RT.runOps exRTCfg { w := exRTWorld2 } exRTOps).2 with tape := [] } 1 = .ok (o, s') ∧
    ∀ p ∈ o, p.1 = "position_centered_encoding" ∧
      Observers.declared (RT.runOps exRTCfg { w := exRTWorld2 } exRTOps).2.w 1 (.centered true) p.2 = true :=
  reach_observations_in_space exRTCfg exRTWorld2 exRT2_cfgOK exRT2_fresh [] exRTOps exRT2_opsOK
    (by decide +kernel) (by decide +kernel) 1 (by decide) exRT2_started (Or.inr (by decide +kernel)) []

/-- the hand-written removal on the concrete world of the examples above: `WInv` is lost, `WInvWeak` kept -/
example :
    let w := (RT.runOps exRTCfg { w := exRTWorld2 } (exRTOps.take 1)).2.w
    let w1 := (w.moveAct 1 (0, 1)).toOption.map (·.2)
    (w1.map fun w1 => (w1.WInv, (RT.takeOff w1 1).toOption.map fun w2 => (w2.WInv, w2.WInvWeak))) =
      some (true, some (false, true)) := by
  decide +kernel

/-- **a `step` that starts in a `WInv` world does not raise for in-space actions** (C02: "every action drawn from an
agent's declared action space is accepted and processed without error"): the world satisfies the whole invariant and has
the constructed static part, every learning agent has a reward entry, every item of the action dict is a point of the
declared action space of a learning agent of the simulation (`Ex.ItemOK` for `cfg.toEx`: alive or dead, any subset, any
order) — then `step` returns, for every tape.  (`WInv` holds after every `reset` and until the first runner reaches the
target; `reach_stepMustNotRaise_returns` asks for `WInvWeak` only.  The statement does not use `hcfg`.) -/
theorem reach_step_noRaise_WInv (cfg : RT.Cfg) (w0 : World) (hcfg : CfgOK w0) (s : Ex.St) (r : Ex.Ledger)
    (hr : s.rewards = some r) (hI : s.w.WInv = true) (hF : SFrame w0 s.w) (hL : Ex.LedgerFull cfg.toEx w0.n r)
    (acts : List (Aid × Ex.Act)) (hS : ∀ x ∈ acts, Ex.ItemOK cfg.toEx w0 x) :
    ∃ s', RT.step cfg s acts = .ok s' :=
  RT.step_ok_weak hr ⟨WInvWeak_of_WInv hI, hF⟩ hL hS

/-- **the first step of every episode does not raise for in-space actions** — the situation of finding C02-R1: whatever
the object went through (any history of resets, steps with ANY action dicts, getter calls), after a `reset` that returned,
a `step` whose items are points of the declared action spaces of learning agents returns, for every tape. -/
theorem reach_first_step_noRaise (cfg : RT.Cfg) (w0 : World) (hcfg : CfgOK w0) (hfresh : w0.vitalsAlive = true)
    (t0 : Tape) (ops : List Ex.EOp) (hops : ∀ op ∈ ops, RT.OpOK cfg w0 op) (order : List StateComp) (tape : Tape)
    (hR : Ex.ResetOK cfg.toEx w0 order) (s' : Ex.St)
    (h : Ex.reset cfg.toEx order { (RT.runOps cfg { w := w0, tape := t0 } ops).2 with tape := tape } = .ok s')
    (acts : List (Aid × Ex.Act)) (hS : ∀ x ∈ acts, Ex.ItemOK cfg.toEx w0 x) (t : Tape) :
    ∃ s'', RT.step cfg { s' with tape := t } acts = .ok s'' := by
  obtain ⟨w', t', ha, rfl⟩ := Ex.reset_ok h
  have hX := RT.reset_goodH hcfg hfresh hR (RT.reachable_goodH cfg w0 hcfg hfresh t0 ops hops) ha
  refine reach_step_noRaise_WInv cfg w0 hcfg ⟨w', some (Ex.zeroRewards cfg.toEx w'.n), t⟩ _ rfl hX.inv hX.frame ?_ acts hS
  rw [hX.frame.sameG.n]
  exact Ex.zeroRewards_full cfg.toEx w0.n

/-- the witness of finding C02-R1 is an instance: the state right after `reset`, the action dict `exRTActs` -/
example : ∃ s'', RT.step exRTCfg { exRTState with tape := [] } exRTActs = .ok s'' :=
  reach_first_step_noRaise exRTCfg exRTWorld ((cfgOKb_iff _).mp (by decide +kernel)) (by decide +kernel) [] []
    (fun _ h => by cases h) [.health, .position .position {}] [] (Ex.resetOK_of_b (by decide +kernel)) exRTState rfl
    exRTActs (fun x hx => by
      simp only [exRTActs, List.mem_cons, List.mem_nil_iff, or_false] at hx
      rcases hx with rfl | rfl | rfl
      · exact ⟨by decide, by decide, by decide +kernel, fun _ h => by cases h⟩
      · exact ⟨by decide, by decide, by decide +kernel, fun _ h => by cases h⟩
      · exact ⟨by decide, by decide, by decide +kernel, fun _ _ => by decide +kernel⟩) []

/-- **`stepMustNotRaise ⇒ returns`, with no hypothesis at all**: for EVERY world `w` (reachable or not), reward dict `r`,
action dict and tape — if the judge's Boolean `RT.stepMustNotRaise cfg w r acts` is true (the world satisfies `WInvWeak`;
every item is a point of the declared action space of a learning agent of the simulation, alive or not; every learning agent
has a reward entry) then `ReachTheTargetSim.step` RETURNS.  No `WInv`: the world may hold any number of runners that were
taken off the grid by hand (inactive with positive health). -/
theorem reach_stepMustNotRaise_returns (cfg : RT.Cfg) (w : World) (r : Ex.Ledger) (acts : List (Aid × Ex.Act)) (t : Tape)
    (h : RT.stepMustNotRaise cfg w r acts = true) :
    ∃ s', RT.step cfg { w := w, rewards := some r, tape := t } acts = .ok s' :=
  RT.step_of_mustNotRaise (s := { w := w, rewards := some r, tape := t }) rfl h

/-- the form the judge uses: a `step` of the model that raises was made outside `stepMustNotRaise` -/
theorem reach_step_error_outside (cfg : RT.Cfg) (w : World) (r : Ex.Ledger) (acts : List (Aid × Ex.Act)) (t : Tape)
    (e : GErr) (h : RT.step cfg { w := w, rewards := some r, tape := t } acts = .error e) :
    RT.stepMustNotRaise cfg w r acts = false :=
  RT.mustNotRaise_of_error (s := { w := w, rewards := some r, tape := t }) rfl h

/-- **a `step` with in-space actions does not raise in ANY reachable state** (C02: "every action drawn from an agent's
declared action space is accepted and processed without error"): from the constructed world, after ANY history as in
`reach_reachable_WInvWeak` (once a reset has returned) — in particular after runners reached the target and were
deactivated by hand —, a `step` whose items are points of the declared action spaces of learning agents of the simulation
(`Ex.ItemOK`: alive or dead, any subset, any order) returns, for every tape. -/
theorem reach_step_noRaise (cfg : RT.Cfg) (w0 : World) (hcfg : CfgOK w0) (hfresh : w0.vitalsAlive = true)
    (t0 : Tape) (ops : List Ex.EOp) (hops : ∀ op ∈ ops, RT.OpOK cfg w0 op)
    (acts : List (Aid × Ex.Act)) (hS : ∀ x ∈ acts, Ex.ItemOK cfg.toEx w0 x) (t : Tape) :
    let s := (RT.runOps cfg { w := w0, tape := t0 } ops).2
    s.rewards.isSome = true → ∃ s', RT.step cfg { s with tape := t } acts = .ok s' := by
  intro s hs
  obtain ⟨r, hr⟩ := Option.isSome_iff_exists.mp hs
  obtain ⟨hW, hF, hL, _⟩ := (RT.reachable_goodH cfg w0 hcfg hfresh t0 ops hops).live hr
  exact RT.step_ok_weak (s := { s with tape := t }) hr ⟨hW, hF⟩ hL hS

/-- the hypotheses of `reach_stepMustNotRaise_returns` are inhabited by a world that violates `WInv`: in `exRTState2` the
whole action dict `exRTActs` (an item for the deactivated runner too, the target attacking its own cell) must not raise -/
example : exRTState2.w.WInv = false ∧ exRTState2.rewards = some [(0, -1), (1, 99), (2, -10)] ∧
    RT.stepMustNotRaise exRTCfg exRTState2.w [(0, -1), (1, 99), (2, -10)] exRTActs = true := by
  rw [exRTState2_eq.1, exRTState2_eq.2]
  decide +kernel

example : ∃ s', RT.step exRTCfg { w := exRTState2.w, rewards := some [(0, -1), (1, 99), (2, -10)], tape := [] } exRTActs = .ok s' :=
  reach_stepMustNotRaise_returns _ _ _ _ _ (by rw [exRTState2_eq.1]; decide +kernel)

/-- `reach_step_noRaise` on the same history: the second step of the episode, from a world that is only `WInvWeak` -/
example : ∃ s', RT.step exRTCfg { exRTState2 with tape := [] } exRTActs = .ok s' :=
  reach_step_noRaise exRTCfg exRTWorld2 exRT2_cfgOK exRT2_fresh [] exRTOps exRT2_opsOK
    exRTActs (fun x hx => by
      simp only [exRTActs, List.mem_cons, List.mem_nil_iff, or_false] at hx
      rcases hx with rfl | rfl | rfl
      · exact ⟨by decide, by decide, by decide +kernel, fun _ h => by cases h⟩
      · exact ⟨by decide, by decide, by decide +kernel, fun _ h => by cases h⟩
      · exact ⟨by decide, by decide, by decide +kernel, fun _ _ => by decide +kernel⟩) [] exRT2_started

/-- … and what that second step does: the target's attack finds nobody (−0.1), runner 0 stays, the deactivated runner 1 is
skipped by all loops but the entropy loop -/
example : (match RT.step exRTCfg { exRTState2 with tape := [] } exRTActs with
    | .ok s' => s'.rewards == some [(0, -2), (1, 98), (2, -20)] && s'.w.WInvWeak && !s'.w.WInv
    | .error _ => false) = true := by
  dsimp only
  rw [exRTState2_eq.1, exRTState2_eq.2]
  decide +kernel

/-! ## C03 / C02: stored positions of inactive agents stay inside the grid -/

/-- **every agent's stored position is a grid cell, in every reachable state** — active, dead or deactivated by hand:
after ANY history as in `reach_reachable_WInvWeak` (once a reset has returned), `agent.position` of every agent of the
simulation lies inside the grid.  (`WInvWeak` says so for ACTIVE agents only; an agent that is killed or taken off the grid
keeps the position it had: "the stored position is a grid cell" is a clause of the vitals that `World.processAttack_inv`
and `RT.takeOff_inv` carry along, `RT.weakG_iff` — no component call of `step` writes the position of an inactive agent,
and `reset` places everybody anew.) -/
theorem reach_inactive_positions_in_grid (cfg : RT.Cfg) (w0 : World) (hcfg : CfgOK w0) (hfresh : w0.vitalsAlive = true)
    (t0 : Tape) (ops : List Ex.EOp) (hops : ∀ op ∈ ops, RT.OpOK cfg w0 op) :
    let s := (RT.runOps cfg { w := w0, tape := t0 } ops).2
    s.rewards.isSome = true → ∀ a < w0.n, s.w.inGrid (s.w.stOf a).pos = true := by
  intro s hs a ha
  obtain ⟨r, hr⟩ := Option.isSome_iff_exists.mp hs
  obtain ⟨_, hF, _, hP⟩ := (RT.reachable_goodH cfg w0 hcfg hfresh t0 ops hops).live hr
  exact hP a (by rw [hF.sameG.n]; exact ha)

/-- **observations of EVERY agent lie in the declared space, in every reachable state**: `reach_observations_in_space`
without its hypothesis on the agent (active, or stored position inside the grid) — discharged by
`reach_inactive_positions_in_grid` -/
theorem reach_observations_in_space_all (cfg : RT.Cfg) (w0 : World) (hcfg : CfgOK w0) (hfresh : w0.vitalsAlive = true)
    (t0 : Tape) (ops : List Ex.EOp) (hops : ∀ op ∈ ops, RT.OpOK cfg w0 op)
    (henc : ∀ b < w0.n, 0 < w0.encOf b) (hammo : ∀ b < w0.n, 0 ≤ (w0.cfgOf b).initAmmo) (a : Aid) (ha : a < w0.n) :
    let s := (RT.runOps cfg { w := w0, tape := t0 } ops).2
    s.rewards.isSome = true →
    ∀ t, ∃ o s', Ex.getObs cfg.toEx { s with tape := t } a = .ok (o, s') ∧
      ∀ p ∈ o, p.1 = "position_centered_encoding" ∧
        Observers.declared s.w a (.centered cfg.observeSelf) p.2 = true := by
  intro s hs t
  exact reach_observations_in_space cfg w0 hcfg hfresh t0 ops hops henc hammo a ha hs
    (Or.inr (reach_inactive_positions_in_grid cfg w0 hcfg hfresh t0 ops hops hs a ha)) t

/-- inhabited and not vacuous: in `exRTState2` runner 1 is inactive (taken off the grid by hand), in no cell, and its stored
position is the target's cell -/
example : (exRTState2.w.stOf 1).active = false ∧ exRTState2.w.cells = [[], [2], [0]] ∧
    (exRTState2.w.stOf 1).pos = (0, 1) ∧
    ∀ a < exRTWorld2.n, exRTState2.w.inGrid (exRTState2.w.stOf a).pos = true :=
  ⟨by rw [exRTState2_eq.1]; decide +kernel, exRTState2_eq.1 ▸ rfl, by rw [exRTState2_eq.1]; decide +kernel,
   reach_inactive_positions_in_grid exRTCfg exRTWorld2 exRT2_cfgOK exRT2_fresh [] exRTOps exRT2_opsOK exRT2_started⟩

/-- **`examples_hist` for `ReachTheTargetSim`**: under the class's precondition `RT.rtPre` the trace of the model
satisfies the judge `RT.specRT` (Spec/Reach.lean: what it asks of every entry), the Boolean the driver evaluates on the
implementation's trace (op `gexample`, configuration `(reach …)`), for EVERY history and all tapes.  Of `rtPre` the proof
uses: the world as the constructors leave it (`cfgOKb`, everybody alive with legal vitals, positive encodings, non-negative
initial ammunition) and every reset in an order `RT.OpOK` covers — nothing about the steps: any action dicts, in the declared
spaces or not, for live or dead or unknown agents.  `rtPre` also asks `noAmmoCb w0` and that the history starts with a
reset, which this theorem does not use. -/
theorem reach_hist (cfg : RT.Cfg) (w0 : World) (t0 : Tape) (ops : List Ex.EOp)
    (hpre : RT.rtPre cfg w0 ops = true) :
    RT.specRT cfg w0 (Ex.zipOps ops (RT.runOps cfg { w := w0, tape := t0 } ops).1) = true := by
  obtain ⟨hW, hops⟩ := RT.rtPre_hyps hpre
  exact RT.specFrom_model hW ops { w := w0, tape := t0 } hops (RT.goodH_init cfg w0 t0)

/-- a history with everything in it: reset; the step in which runner 1 reaches the target and is taken off the grid; its
reward, its done flag; an observation of the deactivated runner; a second step from the `WInvWeak`-only world with an item for
the deactivated runner; a step with an action OUTSIDE the declared space for an agent that does not exist (raises: the trace
ends) -/
def exRTHistOps : List Ex.EOp :=
  exRTOps ++ [.rew 1, .done 1, .allDone, .obs 1 [], .step exRTActs [], .rew 2, .obs 0 [],
    .step [(7, { move := (5, 5), attack := .grid [] })] [], .rew 0]

/-- the precondition is inhabited, the trace is the expected one … -/
example : RT.rtPre exRTCfg exRTWorld2 exRTHistOps = true ∧
    ((RT.runOps exRTCfg { w := exRTWorld2 } exRTHistOps).1.map fun e => (e.res.isErr, e.w.WInv, e.w.WInvWeak)) =
      [(false, true, true), (false, false, true), (false, false, true), (false, false, true), (false, false, true),
       (false, false, true), (false, false, true), (false, false, true), (false, false, true), (true, false, true)] := by
  decide +kernel

/-- … and it passes the judge, by the theorem -/
example : RT.specRT exRTCfg exRTWorld2
    (Ex.zipOps exRTHistOps (RT.runOps exRTCfg { w := exRTWorld2 } exRTHistOps).1) = true :=
  reach_hist _ _ _ _ (by decide +kernel)

/-- the judge is not trivially true: it rejects the trace in which the reward for reaching the target is delivered as 100
instead of 99, and the trace in which the second step (made inside `stepMustNotRaise`, from the `WInvWeak`-only world) is
reported to have raised -/
example :
    let tr := (RT.runOps exRTCfg { w := exRTWorld2 } exRTHistOps).1
    RT.specRT exRTCfg exRTWorld2 (Ex.zipOps exRTHistOps (tr.modify 2 fun e => { e with res := .int 100 })) = false ∧
    RT.specRT exRTCfg exRTWorld2
      (Ex.zipOps exRTHistOps ((tr.take 7).modify 6 fun _ => { (tr.getD 5 ⟨.unit, exRTWorld2, none⟩) with res := .err .keyError })) = false := by
  decide +kernel

/-- **under the managers the totalisation of `RT.toSimIface.step` is never used for in-space actions**: in every state a
manager can reach (any resets, steps with ANY dicts, getter calls — `WInvWeak` only), once a reset has returned, `step` of
the model returns for every action dict whose items are points of the declared action spaces of learning agents, and the
`SimIface` step is that result -/
theorem reach_simIface_step_returns (cfg : RT.Cfg) (w0 : World) (n : Nat) (hcfg : CfgOK w0)
    (hfresh : w0.vitalsAlive = true) (hR : Ex.ResetOK cfg.toEx w0 cfg.comps) {s : Ex.St}
    (h : RT.Reach cfg w0 n s) (hs : s.rewards.isSome = true)
    (acts : List (Aid × Ex.Act)) (hS : ∀ x ∈ acts, Ex.ItemOK cfg.toEx w0 x) :
    RT.step cfg s acts = .ok ((RT.toSimIface cfg n).step s acts) := by
  obtain ⟨r, hr⟩ := Option.isSome_iff_exists.mp hs
  obtain ⟨hW, hF, hL, _⟩ := (reach_simIface_goodH cfg w0 n hcfg hfresh hR h).live hr
  obtain ⟨s', h'⟩ := RT.step_ok_weak hr ⟨hW, hF⟩ hL hS
  simp only [RT.toSimIface, h']

/-- **the getters do not raise in any reachable state** (`WInvWeak` only): `get_reward` of a learning agent returns (the
reward dict has an entry for every learning agent — `step` never loses a key), `get_done` of every agent of the simulation
and `get_all_done` return -/
theorem reach_getters_total (cfg : RT.Cfg) (w0 : World) (hcfg : CfgOK w0) (hfresh : w0.vitalsAlive = true)
    (t0 : Tape) (ops : List Ex.EOp) (hops : ∀ op ∈ ops, RT.OpOK cfg w0 op) (a : Aid) (ha : a < w0.n) :
    let s := (RT.runOps cfg { w := w0, tape := t0 } ops).2
    s.rewards.isSome = true →
    (cfg.isLearning a = true → ∃ x s', Ex.getReward cfg.toEx s a = .ok (x, s')) ∧
    (∃ b, RT.getDone cfg s a = .ok b) ∧ (∃ b, RT.getAllDone cfg s = .ok b) := by
  intro s hs
  obtain ⟨r, hr⟩ := Option.isSome_iff_exists.mp hs
  obtain ⟨_, hF, hL, _⟩ := (RT.reachable_goodH cfg w0 hcfg hfresh t0 ops hops).live hr
  have ha' : ¬ s.w.n ≤ a := by rw [hF.sameG.n]; exact Nat.not_le.mpr ha
  refine ⟨fun hl => ?_, ?_, ⟨RT.onlyLeft cfg s.w, by simp only [RT.getAllDone, hr]⟩⟩
  · obtain ⟨x, hx⟩ := Option.isSome_iff_exists.mp (hL a ha hl)
    exact ⟨x, { s with rewards := some (dictSet r a 0) }, by simp only [Ex.getReward, hr, Ex.rewardVal, hx]⟩
  · simp only [RT.getDone, hr, RT.doneW, ha', if_false]
    split
    · exact ⟨_, rfl⟩
    · split <;> exact ⟨_, rfl⟩

/-- `reach_getters_total` in the `WInvWeak`-only state of the examples: the deactivated runner's reward, its done flag -/
example : (∃ x s', Ex.getReward exRTCfg.toEx exRTState2 1 = .ok (x, s')) ∧ (∃ b, RT.getDone exRTCfg exRTState2 1 = .ok b) :=
  have h := reach_getters_total exRTCfg exRTWorld2 exRT2_cfgOK exRT2_fresh [] exRTOps exRT2_opsOK 1 (by decide) exRT2_started
  ⟨h.1 (by decide), h.2.1⟩

/-- the manager theorems are inhabited: a turn-based run over `exRTWorld2` -/
example : specC01 .turnBased 3 exRTCfg.isLearning false
    (runOps (RT.toSimIface exRTCfg 3) .turnBased (mgrInit ({ w := exRTWorld2 } : Ex.St) false [])
      [.reset, .step [(0, { move := (0, -1), attack := .grid [] })]]) = true :=
  C01_ReachTheTarget exRTCfg 3 .turnBased (by decide) (fun _ => ⟨0, by decide, by decide⟩)
    (mgrInit ({ w := exRTWorld2 } : Ex.St) false []) [.reset, .step [(0, { move := (0, -1), attack := .grid [] })]]

end Abmarl
