import Abmarl.Lemmas.ConfigOverlap
import Abmarl.Lemmas.ConfigAttrSpec
import Abmarl.Lemmas.ListAux
/-!
# C19 — Invalid configuration is rejected and the overlap relation is symmetric

The property theorems; the lemmas behind them are in `Lemmas/Config*.lean`.  The model is
`Model/Config.lean` (every validating setter of the agent classes, `Grid` and the components,
the `overlapping` setter with `query`/`place`, `abmarl.tools.Box.contains`), the decidable
specifications are `specAccept`, `specOverlapSym`, `specBox` in `Spec/Config.lean`.
Some statements below are written with predicates that are defined in the Lemmas files and belong
to what is claimed here: `keysOf` (`Lemmas/ConfigOverlap.lean`); `EqualsInt`, `InSim`, `TargetsOk`,
`Differs`, `EncTargetsOk` (`Lemmas/ConfigAttr.lean`); `DocMember`, `ViaAsarray`, `leafDen`, `fracF`,
`fracFloatLeaf` (`Lemmas/ConfigBox.lean`).

1. **Overlap.** The table the setter stores is the symmetric closure of the supplied one, for
   *every* table, int- or set-valued, one-sided or not (`overlap_closure_symmetric`,
   `close_superset`, `close_minimal`); hence `Grid.query` and `Grid.place` are symmetric.  It is a
   dict again, on which `avail` is the Python lookup.  `model_meets_specOverlapSym`, with a reading.
2. **Rejection.** For each of the 26 attributes that a validating function checks when the value
   is supplied, `accepts_<attr>_iff`: `accepts` (acceptance at assignment) ⇔ a first-order
   description of the admissible values, for **all** Python values of the universe `PyVal`.
   `render_color` and the null points are accepted at assignment whatever the value
   (`accepts_renderColor`, `accepts_nullPoint`); null points are checked at `finalize`
   (`accepts_nullPoint_finalize_iff`, a statement about `outcome`).  The barrier/free pair has no
   acceptance theorem of its own: its components are `encSet` values, and its outcome, with the
   cover check at `reset`, is covered by `model_meets_specAccept` only.  The driver runs `outcome`,
   which is `accepts` for every attribute but those two (`outcome_eq_assign`); only those two are
   rejected late (`rejected_at_finalize_only`).  `model_meets_specAccept`: the model's outcome
   satisfies the documented rule on every modelled input; `null_point_outside_space_rejected`
   (finding K19a); readings `specAccept_reading`, `doc_*`.
3. **Box.** `box_contains_iff` characterises when the model's `Box.contains` answers yes, for all of
   `PyVal`; `box_int_rejects_fractional` (finding K2) with a decided example on its witnesses
   (`[1.9] in Box(0, 1, (1,), int)` …); `model_meets_specBox`; readings.
-/
namespace Abmarl
namespace Cfg

/-! ## 1. The overlap relation -/

/-- **C19, symmetry.** Whatever table is supplied, in the table the setter stores a cell holding
`b` is available to `a` exactly when a cell holding `a` is available to `b`. -/
theorem overlap_closure_symmetric (table : Table) (a b : Int) :
    avail (close table) a b = true ↔ avail (close table) b a = true := by
  rw [avail_close, avail_close]; exact Or.comm

/-- the same for tables with int-valued entries (normalised to singleton sets first) -/
theorem overlap_closure_symmetric_raw (raw : RawTable) (a b : Int) :
    avail (closeRaw raw) a b = true ↔ avail (closeRaw raw) b a = true :=
  overlap_closure_symmetric (normalise raw) a b

/-- nothing the user wrote is lost -/
theorem close_superset (table : Table) (a b : Int) (h : avail table a b = true) :
    avail (close table) a b = true :=
  (avail_close table a b).mpr (Or.inl h)

/-- nothing but mirror images is added -/
theorem close_minimal (table : Table) (a b : Int) (h : avail (close table) a b = true) :
    avail table a b = true ∨ avail table b a = true :=
  (avail_close table a b).mp h

/-- an int-valued entry means the singleton set -/
theorem normalise_int (k i : Int) (rest : RawTable) :
    normalise ((k, .int i) :: rest) = (k, [i]) :: normalise rest := rfl

/-- **C19, symmetry of `Grid.query`** on single-occupant cells -/
theorem query_symmetric (table : Table) (a b : Int) :
    query (close table) a [b] = query (close table) b [a] := by
  rw [query_single, query_single, Bool.eq_iff_iff]
  exact overlap_closure_symmetric table a b

/-- an empty cell is available to everybody -/
theorem query_empty (t : Table) (a : Int) : query t a [] = true := rfl

/-- `Grid.place` succeeds for `a` onto `b` exactly when it succeeds for `b` onto `a` -/
theorem place_symmetric (table : Table) (a b : Int) :
    (place (close table) a [b]).isSome = (place (close table) b [a]).isSome := by
  have := query_symmetric table a b
  unfold place
  rw [this]
  cases query (close table) b [a] <;> rfl

/-- the stored table of a dict (distinct keys) is a dict again -/
theorem close_is_dict (table : Table) (h : (keysOf table).Nodup) : (keysOf (close table)).Nodup :=
  nodup_closeLoop table table h

/-- on the stored table of a dict `avail` is literally `b in self._overlapping[a]`, a `KeyError`
giving `False` -/
theorem avail_eq_lookup (table : Table) (h : (keysOf table).Nodup) (a b : Int) :
    avail (close table) a b =
      (match (close table).lookup a with
       | some s => s.contains b
       | none => false) :=
  avail_eq_lookup_aux (close table) a b (close_is_dict table h)

/-- **the model's stored table and availability matrix satisfy the overlap specification** -/
theorem model_meets_specOverlapSym (raw : RawTable) (univ : List Int) :
    specOverlapSym raw (closeRaw raw) (availMatrix (closeRaw raw) univ) = true := by
  have hsup : ∀ kv ∈ normalise raw, ∀ o ∈ kv.2, avail (closeRaw raw) kv.1 o = true :=
    fun kv hkv o ho => close_superset _ _ _ ((avail_iff _ _ _).mpr ⟨kv.2, hkv, ho⟩)
  simp only [specOverlapSym, Bool.and_eq_true, List.all_eq_true, bimp_iff, beq_iff_eq, and_imp]
  refine ⟨⟨⟨fun e he e' he' h1 h2 => ?_, hsup⟩, fun kv hkv o ho e he h1 h2 => ?_⟩, fun kv hkv o ho => ?_⟩
  · rw [mem_availMatrix _ _ e he, mem_availMatrix _ _ e' he', h1, h2, Bool.eq_iff_iff]
    exact overlap_closure_symmetric_raw raw _ _
  · rw [mem_availMatrix _ _ e he, h1, h2]
    exact hsup kv hkv o ho
  · exact (overlap_closure_symmetric_raw raw o kv.1).mpr ((avail_iff _ _ _).mpr ⟨kv.2, hkv, ho⟩)

/-- **what `specOverlapSym` says**: observed availability is symmetric, every pair the user wrote
is in the stored table and is honoured by the behaviour, and the stored table is symmetric -/
theorem specOverlapSym_reading (raw : RawTable) (closed : Table) (mat : List (Int × Int × Bool))
    (h : specOverlapSym raw closed mat = true) :
    (∀ a b r r', (a, b, r) ∈ mat → (b, a, r') ∈ mat → r' = r) ∧
    (∀ k s o, (k, s) ∈ normalise raw → o ∈ s → avail closed k o = true) ∧
    (∀ k s o r, (k, s) ∈ normalise raw → o ∈ s → (k, o, r) ∈ mat → r = true) ∧
    (∀ k s o, (k, s) ∈ closed → o ∈ s → avail closed o k = true) := by
  simp only [specOverlapSym, Bool.and_eq_true, List.all_eq_true, bimp_iff, beq_iff_eq, and_imp] at h
  obtain ⟨⟨⟨h1, h2⟩, h3⟩, h4⟩ := h
  exact ⟨fun a b r r' he he' => h1 _ he _ he' rfl rfl, fun k s o hk ho => h2 _ hk o ho,
    fun k s o r hk ho he => h3 _ hk o ho _ he rfl rfl, fun k s o hk ho => h4 _ hk o ho⟩

/-! ## 2. Rejection of malformed configuration -/

section accepts
variable (c : Ctx) (v : PyVal)

/-- `PrincipleAgent.id`: strings only -/
theorem accepts_id_iff : accepts .id c v = true ↔ ∃ s, v = .str s := by
  show acceptId v = true ↔ _
  cases v <;> simp [acceptId]
/-- `seed`: `None` or a Python `int` (not `True`, not a numpy integer) -/
theorem accepts_seed_iff : accepts .seed c v = true ↔ (v = .none ∨ ∃ i, v = .int i) := by
  show acceptSeed v = true ↔ _
  rw [acceptSeed_eq, optB_iff, acceptInt_iff]; simp
/-- `active`: a `bool` -/
theorem accepts_active_iff : accepts .active c v = true ↔ ∃ b, v = .bool b := flag_accepts_iff v
/-- `blocking`, `stacked_attacks`, `no_overlap_at_reset`, `randomize_placement_order`,
`cluster_barriers`, `scatter_free_agents`: a `bool` -/
theorem accepts_flag_iff : accepts .flag c v = true ↔ ∃ b, v = .bool b := flag_accepts_iff v
/-- `sim_ends_if_one_done`: `None` or a `bool` -/
theorem accepts_optFlag_iff : accepts .optFlag c v = true ↔ (v = .none ∨ ∃ b, v = .bool b) := by
  show acceptOptFlag v = true ↔ _
  rw [acceptOptFlag_eq, optB_iff, flag_accepts_iff]
/-- `encoding`: a Python `int` other than the reserved −2, −1, 0 -/
theorem accepts_encoding_iff :
    accepts .encoding c v = true ↔ ∃ i, v = .int i ∧ i ≠ -2 ∧ i ≠ -1 ∧ i ≠ 0 :=
  (acceptInt_iff _ v).trans (by simp [and_assoc])
/-- `initial_position`: `None` or an int64/float64 array of shape `(2,)` -/
theorem accepts_initialPosition_iff :
    accepts .initialPosition c v = true ↔
      (v = .none ∨ ∃ dt xs, v = .ndarray dt [2] xs ∧ (dt = .i64 ∨ dt = .f64)) :=
  initialPosition_accepts_iff v
/-- `render_shape`: one of the 21 marker strings -/
theorem accepts_renderShape_iff : accepts .renderShape c v = true ↔ ∃ s, v = .str s ∧ s ∈ renderShapes := by
  show acceptRenderShape v = true ↔ _
  cases v <;> simp [acceptRenderShape]
/-- `render_color` is not validated -/
theorem accepts_renderColor : accepts .renderColor c v = true := rfl
/-- `render_size`: a positive Python `int` -/
theorem accepts_renderSize_iff : accepts .renderSize c v = true ↔ ∃ i, v = .int i ∧ 0 < i :=
  (acceptInt_iff _ v).trans (by simp)
/-- `health` (setter): any Python `int` or `float`; the stored value is clamped (`clampHealth_bounds`) -/
theorem accepts_health_iff : accepts .health c v = true ↔ ((∃ i, v = .int i) ∨ ∃ f, v = .float f) :=
  canonNum_iff v
/-- `initial_health`: `None`, or a Python `int`/`float` with `0 < h ≤ 1` (`nan` rejected) -/
theorem accepts_initialHealth_iff :
    accepts .initialHealth c v = true ↔
      (v = .none ∨ (∃ i, v = .int i ∧ 0 < (i : Rat) ∧ (i : Rat) ≤ 1) ∨
        ∃ q, v = .float (.fin q) ∧ 0 < q ∧ q ≤ 1) := by
  show acceptInitialHealth v = true ↔ _
  rw [acceptInitialHealth_eq, optB_iff, acceptNum_iff]
  simp only [gtR_leR, float_finWhere_iff]
  simp [finWhere]
/-- `view_range`, `move_range`, `attack_range`: the string `"FULL"` or a non-negative Python `int` -/
theorem accepts_range_iff : accepts .range c v = true ↔ (v = .str "FULL" ∨ ∃ i, v = .int i ∧ 0 ≤ i) :=
  range_accepts_iff v
/-- `attack_strength`, `attack_accuracy`: a Python `int`/`float` in `[0, 1]` (`nan` rejected) -/
theorem accepts_unit_iff :
    accepts .unit c v = true ↔
      ((∃ i, v = .int i ∧ 0 ≤ (i : Rat) ∧ (i : Rat) ≤ 1) ∨ ∃ q, v = .float (.fin q) ∧ 0 ≤ q ∧ q ≤ 1) := by
  refine (acceptNum_iff (fun f => f.geR 0 && f.leR 1) v).trans ?_
  simp only [geR_leR, float_finWhere_iff]
  simp [finWhere]
/-- `simultaneous_attacks`: a non-negative Python `int` -/
theorem accepts_simAttacks_iff : accepts .simAttacks c v = true ↔ ∃ i, v = .int i ∧ 0 ≤ i :=
  (acceptInt_iff _ v).trans (by simp)
/-- `initial_ammo`: any Python `int` (no lower bound; `None` is rejected) -/
theorem accepts_initialAmmo_iff : accepts .initialAmmo c v = true ↔ ∃ i, v = .int i := isPyInt_iff v
/-- `ammo` (setter): any Python `int` -/
theorem accepts_ammo_iff : accepts .ammo c v = true ↔ ∃ i, v = .int i := isPyInt_iff v
/-- `orientation`: anything that *equals* 1, 2, 3 or 4 (`value in range(1, 5)`: also `True`, `2.0`,
`np.int64(3)`, `np.array([2])`) -/
theorem accepts_orientation_iff :
    accepts .orientation c v = true ↔ ∃ i, EqualsInt v i ∧ 1 ≤ i ∧ i ≤ 4 := orientation_accepts_iff v
/-- `initial_orientation`: `None` or as `orientation` -/
theorem accepts_initialOrientation_iff :
    accepts .initialOrientation c v = true ↔ (v = .none ∨ ∃ i, EqualsInt v i ∧ 1 ≤ i ∧ i ≤ 4) :=
  (optB_iff _ v).trans (or_congr_right (orientation_accepts_iff v))
/-- `AgentBasedSimulation.agents`: a dict whose values are agents and whose keys are their ids -/
theorem accepts_agentsSim_iff :
    accepts .agentsSim c v = true ↔
      ∃ items, v = .dict items ∧ ∀ kv ∈ items, ∃ gw id, kv.2 = .agent gw id ∧ kv.1 = .str id ∧
        (false = true → gw = true) := agents_accepts_iff false v
/-- `GridWorldBaseComponent.agents`: the same, and every agent is a `GridWorldAgent` -/
theorem accepts_agentsComp_iff :
    accepts .agentsComp c v = true ↔
      ∃ items, v = .dict items ∧ ∀ kv ∈ items, ∃ gw id, kv.2 = .agent gw id ∧ kv.1 = .str id ∧
        (true = true → gw = true) := agents_accepts_iff true v
/-- `attack_mapping`: a dict; every key equals an encoding of the simulation; every value is such an
`int` or a set of values equal to such encodings -/
theorem accepts_attackMapping_iff :
    accepts .attackMapping c v = true ↔
      ∃ items, v = .dict items ∧ ∀ kv ∈ items, InSim c.encs kv.1 ∧ TargetsOk c.encs kv.2 :=
  attackMapping_accepts_iff c.encs v
/-- `TargetEncodingInactiveDone.target_mapping`: as above, and no encoding targets itself -/
theorem accepts_targetEncMapping_iff :
    accepts .targetEncMapping c v = true ↔
      ∃ items, v = .dict items ∧ ∀ kv ∈ items, InSim c.encs kv.1 ∧ EncTargetsOk c.encs kv.1 kv.2 :=
  targetEncMapping_accepts_iff c.encs v
/-- `TargetAgentOverlapDone` / `TargetAgentInactiveDone.target_mapping`: ids of agents on both sides -/
theorem accepts_targetIdMapping_iff :
    accepts .targetIdMapping c v = true ↔
      ∃ items, v = .dict items ∧ ∀ kv ∈ items,
        (∃ a, kv.1 = .str a ∧ a ∈ c.ids) ∧ (∃ t, kv.2 = .str t ∧ t ∈ c.ids) := by
  show acceptTargetIdMapping c.ids v = true ↔ _
  refine (dict_all_iff (fun kv => strIn kv.1 c.ids && strIn kv.2 c.ids) v).trans ?_
  simp only [Bool.and_eq_true, strIn_iff]
/-- `barrier_encodings`, `free_encodings`: `None`, an encoding of the simulation, or a set of such -/
theorem accepts_encSet_iff : accepts .encSet c v = true ↔ (v = .none ∨ TargetsOk c.encs v) :=
  (optB_iff _ v).trans (or_congr_right (encTargets_accepts_iff c.encs v))
/-- `Grid(rows, cols)`: positive Python `int`s -/
theorem accepts_gridDim_iff : accepts .gridDim c v = true ↔ ∃ i, v = .int i ∧ 0 < i :=
  (acceptInt_iff _ v).trans (by simp)
/-- `Grid(overlapping=…)`: `None` or a dict with `int` keys and `int` or set-of-`int` values -/
theorem accepts_overlapping_iff :
    accepts .overlapping c v = true ↔
      (v = .none ∨ ∃ items, v = .dict items ∧ ∀ kv ∈ items,
        (∃ k, kv.1 = .int k) ∧
        ((∃ i, kv.2 = .int i) ∨ ∃ elems, kv.2 = .set elems ∧ ∀ e ∈ elems, ∃ j, e = .int j)) := by
  show acceptOverlapping v = true ↔ _
  unfold acceptOverlapping
  split
  · exact ⟨fun _ => .inl rfl, fun _ => rfl⟩
  · simp only [List.all_eq_true, Bool.and_eq_true, isPyInt_iff, overlapVal_accepts_iff,
      PyVal.dict.injEq, exists_eq_left', reduceCtorEq, false_or]
  · rename_i h1 h2
    exact ⟨nofun, fun h => h.elim (fun h => (h1 h).elim) fun ⟨items, h, _⟩ => (h2 items h).elim⟩
/-- null points are never rejected when supplied -/
theorem accepts_nullPoint : accepts .nullPoint c v = true := rfl
/-- `finalize` accepts a null point iff none was given (`None`, stored as the empty dict) or the point
is a member of the space; falsy points are checked like any other (finding K19a) -/
theorem accepts_nullPoint_finalize_iff :
    outcome .nullPoint c v = .accepted ↔
      (v = .none ∨ v = .dict [] ∨ spaceContains c.space v = .yes) :=
  nullPoint_accepted_iff c.space v

end accepts

/-- the bridge from what the driver runs (`outcome`) to what the `accepts_*_iff` theorems describe
(`accepts`) -/
theorem outcome_eq_assign (a : Attr) (c : Ctx) (v : PyVal) (h1 : a ≠ .nullPoint) (h2 : a ≠ .barrierFree) :
    outcome a c v = if accepts a c v then .accepted else .rejAssign := by
  unfold outcome
  split
  · exact absurd rfl h1
  · exact absurd rfl h2
  · rfl

/-- *when* a rejection happens: only null points (at `finalize`) and the barrier/free cover (at
`reset`) are rejected late; everything else is rejected the moment it is supplied -/
theorem rejected_at_finalize_only (a : Attr) (c : Ctx) (v : PyVal) (h : outcome a c v = .rejFinal) :
    a = .nullPoint ∨ a = .barrierFree := by
  by_cases h1 : a = .nullPoint
  · exact .inl h1
  by_cases h2 : a = .barrierFree
  · exact .inr h2
  rw [outcome_eq_assign a c v h1 h2] at h
  split at h <;> cases h

/-- **C19, rejection clause, for the model**: for every attribute, context and Python value the
model's outcome satisfies `specAccept`, on every modelled input, the inputs of findings K19a and K2
included. -/
theorem model_meets_specAccept (a : Attr) (c : Ctx) (v : PyVal) (hm : outcome a c v ≠ .unmodelled) :
    specAccept a c v (outcome a c v) = true := by
  rw [specAccept_eq]
  by_cases h1 : a = .nullPoint
  · subst h1; exact nullPoint_ok c.space v hm
  by_cases h2 : a = .barrierFree
  · subst h2; exact barrierFree_ok c v
  rw [outcome_eq_assign a c v h1 h2]
  exact (accepts_fits a c v h1 h2).specOK (.inl rfl)

/-- **finding K19a does not occur in the model**: any null point that is given and is not a member
of the space — falsy or not — is rejected at finalize (or the input is unmodelled) -/
theorem null_point_outside_space_rejected (c : Ctx) (v : PyVal)
    (hg : v ≠ .none ∧ v ≠ .dict []) (hn : spaceContains c.space v ≠ .yes) :
    outcome .nullPoint c v = .rejFinal ∨ outcome .nullPoint c v = .unmodelled := by
  have hg' : noNullPoint v = false :=
    Bool.eq_false_iff.mpr fun h => ((noNullPoint_iff v).mp h).elim hg.1 hg.2
  show nullOutcome c.space v = _ ∨ nullOutcome c.space v = _
  rw [nullOutcome_given hg']
  cases hs : spaceContains c.space v with
  | yes => exact absurd hs hn
  | no => exact .inl rfl
  | raises => exact .inl rfl
  | unmodelled => exact .inr rfl

/-- **what `specAccept` says**: a value the documented rule calls malformed is rejected (when
supplied or at finalize/reset), a clearly well-formed one is accepted -/
theorem specAccept_reading (a : Attr) (c : Ctx) (v : PyVal) (out : Outcome)
    (h : specAccept a c v out = true) :
    (docAttr a c v = .malformed → out = .rejAssign ∨ out = .rejFinal) ∧
    (docAttr a c v = .valid → out = .accepted) := by
  unfold specAccept at h
  constructor
  · intro hd; rw [hd] at h; simpa using h
  · intro hd; rw [hd] at h; simpa using h

/-! ### the documented rule says what C19 lists (readings of `docAttr`) -/

/-- non-string ids are malformed -/
theorem doc_nonstring_id (c : Ctx) (v : PyVal) (h : ∀ s, v ≠ .str s) : docAttr .id c v = .malformed := by
  show docId v = .malformed
  unfold docId
  split
  · exact absurd rfl (h _)
  · rfl

/-- an agent dictionary with a key that differs from the agent's id is malformed -/
theorem doc_key_differs_from_id (c : Ctx) (k id : String) (gw : Bool) (rest : List (PyVal × PyVal))
    (h : k ≠ id) : docAttr .agentsSim c (.dict ((.str k, .agent gw id) :: rest)) = .malformed := by
  have : docAgentEntry false (.str k, .agent gw id) = false := by simp [docAgentEntry, h]
  simp only [docAttr, docAgents, List.all_cons, this, Bool.false_and, Bool.false_eq_true, if_false]

/-- reserved encodings are malformed -/
theorem doc_reserved_encoding (c : Ctx) :
    docAttr .encoding c (.int 0) = .malformed ∧ docAttr .encoding c (.int (-1)) = .malformed ∧
    docAttr .encoding c (.int (-2)) = .malformed := by
  refine ⟨?_, ?_, ?_⟩ <;>
    simp [docAttr, docEncoding, docNum, numView, wholeWhere, wholeOf]

/-- non-integer encodings are malformed: strings, `None`, containers, fractional floats -/
theorem doc_noninteger_encoding (c : Ctx) (v : PyVal) (h : intView v = none) :
    docAttr .encoding c v = .malformed := by
  simp only [docAttr, docEncoding]
  rw [docNum_malformed_iff]
  intro x hx
  simp only [intView, hx] at h
  simp [wholeWhere, h]

/-- out-of-range strengths and accuracies are malformed -/
theorem doc_unit_out_of_range (c : Ctx) (q : Rat) (h : ¬ (0 ≤ q ∧ q ≤ 1)) :
    docAttr .unit c (.float (.fin q)) = .malformed := by
  simp only [docAttr]
  refine docNum_malformed_of (v := .float (.fin q)) rfl ?_
  simpa [unitOk, finWhere] using h

/-- negative ranges are malformed -/
theorem doc_negative_range (c : Ctx) (i : Int) (h : i < 0) : docAttr .range c (.int i) = .malformed := by
  simp only [docAttr, docRange]
  refine docNum_malformed_of (v := .int i) rfl ?_
  rw [wholeWhere_int]
  simpa using h

/-- an initial health outside `(0, 1]` is malformed -/
theorem doc_health_out_of_range (c : Ctx) (q : Rat) (h : ¬ (0 < q ∧ q ≤ 1)) :
    docAttr .initialHealth c (.float (.fin q)) = .malformed := by
  simp only [docAttr, docOpt]
  refine docNum_malformed_of (v := .float (.fin q)) rfl ?_
  simpa [finWhere] using h

/-- orientations other than 1..4 are malformed, whatever numeric type carries them -/
theorem doc_orientation_out_of_range (c : Ctx) (v : PyVal) (i : Int) (hv : intView v = some i)
    (h : ¬ (1 ≤ i ∧ i ≤ 4)) : docAttr .orientation c v = .malformed := by
  simp only [docAttr]
  rw [docNum_malformed_iff]
  intro x hx
  simp only [intView, hx] at hv
  simpa [wholeWhere, hv] using h

/-- a null point outside a `Discrete(n)` space is malformed -/
theorem doc_null_outside_discrete (c : Ctx) (n : Nat) (i : Int) (hc : c.space = .discrete n)
    (h : ¬ (0 ≤ i ∧ i < n)) : docAttr .nullPoint c (.int i) = .malformed := by
  simp only [docAttr, docNullPoint, docInSpace, hc]
  refine docNum_malformed_of (v := .int i) rfl ?_
  rw [wholeWhere_int]
  simpa using h

/-- an attack mapping whose key is an encoding absent from the simulation is malformed -/
theorem doc_mapping_absent_key (c : Ctx) (i : Int) (val : PyVal) (rest : List (PyVal × PyVal))
    (h : i ∉ c.encs) : docAttr .attackMapping c (.dict ((.int i, val) :: rest)) = .malformed := by
  simp [docAttr, docAttackMapping, docAll, docAttackEntry, docEncKey, h, Doc.and]

/-- an attack mapping whose value mentions an encoding absent from the simulation is malformed -/
theorem doc_mapping_absent_target (c : Ctx) (k : PyVal) (i : Int) (rest : List (PyVal × PyVal))
    (h : i ∉ c.encs) : docAttr .attackMapping c (.dict ((k, .int i) :: rest)) = .malformed := by
  have : docAttackEntry c.encs (k, .int i) = .malformed := by
    simp only [docAttackEntry, docEncTargets, and_malformed_iff]
    right; simp [h]
  simp [docAttr, docAttackMapping, docAll, this, Doc.and]

/-! ## 3. `abmarl.tools.Box.contains` -/

/-- **when `Box.contains` answers yes**, for every Python value of the universe: exactly on the
declarative `DocMember` (scalars as one-element vectors, arrays of safely castable dtype,
rectangular nestings of numbers — all of the box's shape and within its bounds; for an integer box
every float leaf must be whole).  Where the model's answer is `.unmodelled` (a numeric string or an
array inside a list, a numpy float `nan`, `inf` or beyond int64 offered to an integer box) the
equivalence holds because `DocMember` fails there too; it says nothing about what numpy does on
those inputs. -/
theorem box_contains_iff (b : BoxSp) (v : PyVal) : boxContains b v = .yes ↔ DocMember b v :=
  boxContains_yes_iff b v

/-- **finding K2 does not occur in the model**: an integer box accepts nothing that holds a finite
non-integral float as a leaf, however it is wrapped (list, tuple, nesting, numpy scalar, Python
scalar) — there is no acceptance "after truncation".  Arrays are not covered: an `ndarray` is its
own only leaf and `fracFloatLeaf` is false on it; a float array offered to an integer box is refused
by the dtype test, whatever its elements (`docMember_ndarray`, `canCast`). -/
theorem box_int_rejects_fractional (b : BoxSp) (v : PyVal) (hI : b.isInt = true)
    (h : ∃ l ∈ leaves v, fracFloatLeaf l = true) : boxContains b v ≠ .yes := by
  intro hy
  obtain ⟨l, hl, hfr⟩ := h
  rcases (box_contains_iff b v).mp hy with ⟨i, rfl, _⟩ | ⟨f, rfl, hf, _⟩ | ⟨dt, sh, xs, rfl, _⟩ | ⟨_, _, hall⟩
  · simp only [leaves, List.mem_singleton] at hl
    subst hl; simp [fracFloatLeaf] at hfr
  · rw [hI] at hf; cases hf
  · simp only [leaves, List.mem_singleton] at hl
    subst hl; simp [fracFloatLeaf] at hfr
  · have := ((den_inBounds_iff b l).mp (hall l hl)).1.2
    rw [hI, hfr] at this
    cases this

/-- the double nearest to 1.9, exactly -/
def q19 : Rat := ⟨4278419646001971, 2251799813685248, by decide, by decide⟩
/-- −0.5 -/
def qmh : Rat := ⟨-1, 2, by decide, by decide⟩

/-- **the witnesses of finding K2**: `[1.9]`, `[-0.5]`, `(1.9,)`, `[[1.9]]`-style nestings and
`np.float64(1.9)` are no members of `Box(0, 1, …, int)` (the judge agrees: certain non-members,
`specBox` holds for the model's answer); `[1.0]`, `[True]`, `[1]`, `np.float64(1.0)` are members;
in the float box `[0.5]` is a member. -/
example :
    boxContains ⟨true, [1], 0, 1⟩ (.list [.float (.fin q19)]) = .no ∧
    boxContains ⟨true, [1], 0, 1⟩ (.list [.float (.fin qmh)]) = .no ∧
    boxContains ⟨true, [1], 0, 1⟩ (.tuple [.float (.fin q19)]) = .no ∧
    boxContains ⟨true, [1], 0, 1⟩ (.list [.npFloat (.fin q19)]) = .no ∧
    boxContains ⟨true, [1, 1], 0, 1⟩ (.list [.list [.float (.fin q19)]]) = .no ∧
    boxContains ⟨true, [], 0, 1⟩ (.npFloat (.fin q19)) = .no ∧
    mustRejectBox ⟨true, [1], 0, 1⟩ (.list [.float (.fin q19)]) = true ∧
    specBox ⟨true, [1], 0, 1⟩ (.list [.float (.fin q19)]) (boxContains ⟨true, [1], 0, 1⟩ (.list [.float (.fin q19)])) = true ∧
    specBox ⟨true, [1], 0, 1⟩ (.list [.float (.fin q19)]) .yes = false ∧
    boxContains ⟨true, [1], 0, 1⟩ (.list [.float (.fin 1)]) = .yes ∧
    boxContains ⟨true, [1], 0, 1⟩ (.list [.bool true]) = .yes ∧
    boxContains ⟨true, [1], 0, 1⟩ (.list [.int 1]) = .yes ∧
    boxContains ⟨true, [], 0, 1⟩ (.npFloat (.fin 1)) = .yes ∧
    boxContains ⟨false, [1], 0, 1⟩ (.list [.float (.fin ⟨1, 2, by decide, by decide⟩)]) = .yes := by
  decide

/-- **the model's `Box.contains` satisfies the Box clause of C19**, for every box and every value.
(It is `model_meets_specBox_aux` of `Lemmas/ConfigBox.lean`, which the null points need.) -/
theorem model_meets_specBox (b : BoxSp) (v : PyVal) : specBox b v (boxContains b v) = true :=
  model_meets_specBox_aux b v

/-- the judge's two classes are sound for the declarative rule, and disjoint -/
theorem judge_classes_sound (b : BoxSp) (v : PyVal) :
    (mustAcceptBox b v = true → DocMember b v) ∧ (mustRejectBox b v = true → ¬ DocMember b v) ∧
    (mustAcceptBox b v = true → mustRejectBox b v = false) := by
  refine ⟨mustAccept_docMember b v, mustReject_not_docMember b v, ?_⟩
  intro ha
  cases hr : mustRejectBox b v with
  | false => rfl
  | true => exact absurd (mustAccept_docMember b v ha) (mustReject_not_docMember b v hr)

/-- **what `specBox` says**: certain members are accepted, certain non-members are not -/
theorem specBox_reading (b : BoxSp) (v : PyVal) (out : BoxOut) (h : specBox b v out = true) :
    (mustAcceptBox b v = true → out = .yes) ∧ (mustRejectBox b v = true → out ≠ .yes) := by
  obtain ⟨h1, h2⟩ := (specBox_iff b v out).mp h
  refine ⟨h1, fun hr => h2 (Bool.eq_false_iff.mpr fun ha => ?_) hr⟩
  rw [(judge_classes_sound b v).2.2 ha] at hr
  cases hr

/-- in-bounds Python ints in a matching list are certain members; an out-of-bounds element, or a
wrong length, makes the list a certain non-member (three instances of the documented rule, decided) -/
example : mustAcceptBox ⟨true, [2], -2, 5⟩ (.list [.int 5, .int (-2)]) = true ∧
    mustRejectBox ⟨true, [2], -2, 5⟩ (.list [.int 6, .int 0]) = true ∧
    mustRejectBox ⟨false, [2], 0, 1⟩ (.list [.int 0]) = true := by decide

/-! ## Non-vacuity: concrete inputs -/

/-- a one-sided, partly int-valued table: `{1: 2, 3: {1, 3}}` -/
def exRaw : RawTable := [(1, .int 2), (3, .set [1, 3])]

example : closeRaw exRaw = [(1, [2, 3]), (3, [1, 3]), (2, [1])] := by decide
example : avail (normalise exRaw) 2 1 = false ∧ avail (closeRaw exRaw) 2 1 = true ∧
    avail (closeRaw exRaw) 1 3 = true ∧ avail (closeRaw exRaw) 2 3 = false ∧
    avail (closeRaw exRaw) 9 1 = false := by decide
example : specOverlapSym exRaw (closeRaw exRaw) (availMatrix (closeRaw exRaw) [1, 2, 3, 9]) = true := by
  decide
/-- a one-sided stored table fails the specification (what a broken setter would produce) -/
example : specOverlapSym exRaw (normalise exRaw) (availMatrix (normalise exRaw) [1, 2, 3, 9]) = false := by
  decide

/-- `True` is not an encoding, `0` is reserved, `5` is fine; `np.int64(3)` is no seed -/
example : outcome .encoding {} (.bool true) = .rejAssign ∧ outcome .encoding {} (.int 0) = .rejAssign ∧
    outcome .encoding {} (.int 5) = .accepted ∧ outcome .seed {} (.npInt 3) = .rejAssign := by decide

/-- orientation goes by equality: `True` and `np.array([2])` pass, `5` does not -/
example : outcome .orientation {} (.bool true) = .accepted ∧
    outcome .orientation {} (.ndarray .i64 [1] [.fin 2]) = .accepted ∧
    outcome .orientation {} (.int 5) = .rejAssign := by decide

/-- mappings: an absent encoding is rejected when supplied; an incomplete barrier/free cover at reset -/
example : outcome .attackMapping { encs := [1, 2, 3] } (.dict [(.int 1, .set [.int 2, .int 4])]) = .rejAssign ∧
    outcome .attackMapping { encs := [1, 2, 3] } (.dict [(.int 1, .int 2)]) = .accepted ∧
    outcome .barrierFree { encs := [1, 2, 3] } (.tuple [.set [.int 1], .int 2]) = .rejFinal ∧
    outcome .barrierFree { encs := [1, 2, 3] } (.tuple [.set [.int 1, .int 3], .int 2]) = .accepted := by
  decide

/-- null points: `3 ∉ Discrete(3)` is rejected at finalize.  **The witness of finding K19a**: the
falsy `0` outside `Box(1, 3, (1,), int)` — and `[]`, `""`, `False`, `np.array([0])` — is rejected at
finalize, as the documented rule (malformed) demands.  A valid two-element array null point is
accepted (no truthiness test is applied to it); `None` and `{}` mean "no null point". -/
example : outcome .nullPoint { space := .discrete 3 } (.int 3) = .rejFinal ∧
    outcome .nullPoint { space := .box ⟨true, [1], 1, 3⟩ } (.int 0) = .rejFinal ∧
    docAttr .nullPoint { space := .box ⟨true, [1], 1, 3⟩ } (.int 0) = .malformed ∧
    specAccept .nullPoint { space := .box ⟨true, [1], 1, 3⟩ } (.int 0) .accepted = false ∧
    outcome .nullPoint { space := .discrete 3 } (.list []) = .rejFinal ∧
    outcome .nullPoint { space := .discrete 3 } (.str "") = .rejFinal ∧
    outcome .nullPoint { space := .box ⟨true, [1], 1, 3⟩ } (.bool false) = .rejFinal ∧
    outcome .nullPoint { space := .box ⟨true, [1], 1, 3⟩ } (.ndarray .i64 [1] [.fin 0]) = .rejFinal ∧
    outcome .nullPoint { space := .box ⟨false, [2], 0, 1⟩ } (.ndarray .f64 [2] [.fin 0, .fin 1]) = .accepted ∧
    outcome .nullPoint { space := .discrete 3 } (.int 0) = .accepted ∧
    outcome .nullPoint { space := .discrete 3 } .none = .accepted ∧
    outcome .nullPoint { space := .discrete 3 } (.dict []) = .accepted := by decide

/-- finding K2 seen through a null point: `null_action=[1.9]` on `Box(1, 3, (1,), int)` is rejected
at finalize (`Box.contains` does not truncate) -/
example : outcome .nullPoint { space := .box ⟨true, [1], 1, 3⟩ } (.list [.float (.fin q19)]) = .rejFinal ∧
    docAttr .nullPoint { space := .box ⟨true, [1], 1, 3⟩ } (.list [.float (.fin q19)]) = .malformed ∧
    outcome .nullPoint { space := .box ⟨true, [1], 1, 3⟩ } (.list [.int 1]) = .accepted := by decide

end Cfg
end Abmarl
