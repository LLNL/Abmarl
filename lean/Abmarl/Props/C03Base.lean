import Abmarl.Lemmas.Vitals
import Abmarl.Model.Resets
import Abmarl.Props.C12
import Abmarl.Props.C13
/-!
# C03 — Grid contents, agent positions and agent vitals stay mutually consistent

The invariant is `World.WInv` (Spec/Grid.lean): every cell holds only real, active agents whose
position is that cell, each once, pairwise allowed to overlap (the table is symmetric); every active
agent is stored in the cell of its in-grid position; `0 ≤ health ≤ 1`; `active ↔ health > 0`;
`ammo ≥ 0` (and never above the initial ammunition); orientation one of the four directions.

Here: the move actors keep it (`C03_moves_preserve`, any action of the action space, any active agent;
`C03_moves_any`), and a reset through a placement state and the three vitals components, in any order,
establishes it (`C03_reset_establishes`).  Attacks: `Props/C11.lean`; every reachable state: `Props/C03.lean`.
-/
namespace Abmarl
open World

/-- **C03, moves**: for every world satisfying the invariant, every active agent and every action of
the action space, each of the three move actors returns a world satisfying the invariant. -/
theorem C03_moves_preserve (w : World) (c : MoveCall) (hI : w.WInv = true) (ha : c.agent < w.n)
    (hact : (w.stOf c.agent).active = true) (hsp : c.inSpace w = true) :
    specC03Move w (runMoveCall w c) = true := by
  obtain ⟨o, ho⟩ := C12_moves_return w c hI ha hact hsp
  simp only [specC03Move, hI, ho, Bool.not_true, Bool.false_or]
  exact runMoveCall_WInv hI ho

/-- **C03, moves, any agent**: the invariant clause the driver judges for every real `process_action` call -
for every world satisfying the invariant, every agent (active or not) and every action of the action space.
A call that returns keeps the invariant whoever the agent is (`World.runMoveCall_WInv`); the action space is needed
only for an active agent's call not to raise. -/
theorem C03_moves_any (w : World) (c : MoveCall) (hI : w.WInv = true) (ha : c.agent < w.n)
    (hsp : c.inSpace w = true) : specC03MoveAny w c (runMoveCall w c) = true := by
  cases hact : (w.stOf c.agent).active with
  | true => rw [specC03MoveAny_active w c _ hact]; exact C03_moves_preserve w c hI ha hact hsp
  | false =>
    simp only [specC03MoveAny, hact, Bool.false_eq_true, if_false, hI, Bool.not_true, Bool.false_or]
    cases hr : runMoveCall w c with
    | error e => rfl
    | ok o => exact runMoveCall_WInv hI hr

/-! ## Resets establish the invariant (state components in any order) -/

/-- the position clauses of the invariant; `HealthC`, `AmmoC`, `OrientC` and `NoAmmoC` are its other clause groups -/
def PosC (w : World) : Prop := w.posInv = true
def HealthC (w : World) : Prop :=
  ∀ a < w.n, 0 < (w.stOf a).health ∧ (w.stOf a).health ≤ 1 ∧ (w.stOf a).active = true
def AmmoC (w : World) : Prop :=
  ∀ a < w.n, (w.cfgOf a).hasAmmo = true → 0 ≤ (w.stOf a).ammo ∧ (w.stOf a).ammo ≤ max 0 (w.cfgOf a).initAmmo
def OrientC (w : World) : Prop :=
  ∀ a < w.n, (w.cfgOf a).hasOrient = true → 1 ≤ (w.stOf a).orient ∧ (w.stOf a).orient ≤ 4
/-- the ammunition field of an agent without ammunition is not negative: no component writes it, so it holds after a reset
only if it held before -/
def NoAmmoC (w : World) : Prop := ∀ a < w.n, (w.cfgOf a).hasAmmo = false → 0 ≤ (w.stOf a).ammo

theorem WInv_of_clauses {w : World} (hp : PosC w) (hh : HealthC w) (ha : AmmoC w) (ho : OrientC w)
    (hn : NoAmmoC w) (hsym : w.wOverlapSym = true) : w.WInv = true := by
  obtain ⟨hlenC, hlenS, hcells, hagents⟩ := (posInv_iff w).mp hp
  rw [WInv_parts_iff]
  refine ⟨by simp [wShape, hlenC, hlenS], ?_, ?_, hsym⟩
  · intro i hi
    obtain ⟨hnd, hocc, hpair⟩ := hcells i hi
    rw [wCell_reading]
    refine ⟨hnd, ?_, fun a ha' b hb' => Decidable.or_iff_not_imp_left.mpr (hpair a ha' b hb')⟩
    intro a ha'
    obtain ⟨h1, h2, h3⟩ := hocc a ha'
    exact ⟨h1, (hh a h1).2.2, h2, h3⟩
  · intro a han
    obtain ⟨h0, h1, hact⟩ := hh a han
    rw [wAgent_reading]
    refine ⟨fun _ => hagents a han, le_of_lt h0, h1, by simp [hact, h0], ?_, ?_, ho a han⟩
    · cases hA : (w.cfgOf a).hasAmmo with
      | true => exact (ha a han hA).1
      | false => exact hn a han hA
    · intro hA; exact (ha a han hA).2

theorem posInv_of_vframe {w w' : World} (h : VFrame w w') : w'.posInv = w.posInv := by
  have hc : w'.posCell = w.posCell := by
    funext i
    simp only [posCell, n, idx, inGrid, encOf, cfgOf, pairOK, h.cells, h.rows, h.cols, h.cfg,
      h.overlap, h.pos]
    rfl
  have ha : w'.posAgent = w.posAgent := by
    funext a
    simp only [posAgent, cell, idx, inGrid, h.cells, h.rows, h.cols, h.pos]
    rfl
  simp only [posInv, wShape, allCells, allAgents, n, hc, ha, h.cells, h.rows, h.cols, h.cfg, h.len]

theorem PosC.of_vframe {w w' : World} (h : VFrame w w') : PosC w → PosC w' := by
  unfold PosC; rw [posInv_of_vframe h]; exact id

/-- the documented domain of the agent classes carries over along a frame -/
theorem sframe_encPos {w0 w : World} (h : SFrame w0 w) (henc : ∀ b < w0.n, 0 < w0.encOf b) :
    ∀ b < w.n, 0 < w.encOf b :=
  fun b hb => by rw [h.sameG.encOf]; exact henc b (by rw [← h.sameG.n]; exact hb)

theorem sframe_ammoNonneg {w0 w : World} (h : SFrame w0 w)
    (hammo : ∀ b < w0.n, 0 ≤ (w0.cfgOf b).initAmmo) : ∀ b < w.n, 0 ≤ (w.cfgOf b).initAmmo :=
  fun b hb => by rw [h.sameG.cfgOf]; exact hammo b (by rw [← h.sameG.n]; exact hb)

theorem cfgOK_of_sframe {w w' : World} (hs : SFrame w w') (h : CfgOK w) : CfgOK w' :=
  ⟨fun a x hx => h.health a x (by rw [← (clause_frame hs).2 a]; exact hx),
   fun a x hx => h.orient a x (by rw [← (clause_frame hs).2 a]; exact hx)⟩

theorem wfPlacement_of_sframe {w w' : World} (hs : SFrame w w') (kind : PKind) (o : PlaceOpts) :
    wfPlacement kind o w' = wfPlacement kind o w := by
  have hG := hs.sameG
  simp only [wfPlacement, allAgents, hG.n, hG.encOf, hG.cfgOf, hG.inGrid, hG.pairOK, hG.wOverlapSym,
    hG.isFixed, hs.rows, hs.cols, hs.len, hs.cfg]

/-! ### Field groups

Every state component resets one group of fields of the agents' states, and every clause of the
invariant about an agent, like every clause about its declared values (C08), reads one.  What a
component does is stated once, group by group (`applyComp_keeps`, `applyComp_fresh`), and a list of
components is walked once (`applyComps_keeps`, `applyComps_estab`). -/

/-- the field groups of an agent's dynamic state.  Each state component resets one of the first four
(`StateComp.owns`); the two ghost groups — the `ammo` field of an agent without ammunition, the
`orient` field of an agent without orientation, which the real agents do not have — have no owner. -/
inductive Grp where
  | pos | health | ammo | orient | ghostAmmo | ghostOrient

def StateComp.owns : StateComp → Grp
  | .position _ _ => .pos
  | .health => .health
  | .healthClosed => .health
  | .ammo => .ammo
  | .orient => .orient

theorem StateComp.owns_ne_ghost (c : StateComp) : c.owns ≠ .ghostAmmo ∧ c.owns ≠ .ghostOrient := by
  cases c <;> exact ⟨nofun, nofun⟩

/-- a field group as a projection: the state with every field outside the group at its default -/
def Grp.view : Grp → AgentCfg → AgentSt → AgentSt
  | .pos, _, s => { pos := s.pos }
  | .health, _, s => { health := s.health, active := s.active }
  | .ammo, _, s => { ammo := s.ammo }
  | .orient, _, s => { orient := s.orient }
  | .ghostAmmo, c, s => if c.hasAmmo then {} else { ammo := s.ammo }
  | .ghostOrient, c, s => if c.hasOrient then {} else { orient := s.orient }

/-! a view does not see what is written to the fields of another group -/

theorem Grp.view_pos {g : Grp} (hg : g ≠ .pos) (c : AgentCfg) (s : AgentSt) (p : Pos) :
    g.view c { s with pos := p } = g.view c s := by
  cases g
  case pos => exact absurd rfl hg
  all_goals rfl

theorem Grp.view_health {g : Grp} (hg : g ≠ .health) (c : AgentCfg) (s : AgentSt) (h : Rat) (a : Bool) :
    g.view c { s with health := h, active := a } = g.view c s := by
  cases g
  case health => exact absurd rfl hg
  all_goals rfl

theorem Grp.view_ammo {g : Grp} (hg : g ≠ .ammo) {c : AgentCfg} (hA : c.hasAmmo = true) (s : AgentSt)
    (x : Int) : g.view c { s with ammo := x } = g.view c s := by
  cases g
  case ammo => exact absurd rfl hg
  case ghostAmmo => simp only [Grp.view, hA, if_true]
  all_goals rfl

theorem Grp.view_orient {g : Grp} (hg : g ≠ .orient) {c : AgentCfg} (hO : c.hasOrient = true)
    (s : AgentSt) (x : Nat) : g.view c { s with orient := x } = g.view c s := by
  cases g
  case orient => exact absurd rfl hg
  case ghostOrient => simp only [Grp.view, hO, if_true]
  all_goals rfl

/-- `w'` has the values of `w` in field group `g` (position group: the same cell table as well) -/
def Grp.Same (g : Grp) (w w' : World) : Prop :=
  (g = .pos → w'.cells = w.cells ∧ ∀ b, (w'.stOf b).pos = (w.stOf b).pos) ∧
  ∀ b < w.n, g.view (w.cfgOf b) (w'.stOf b) = g.view (w.cfgOf b) (w.stOf b)

theorem Grp.Same.refl (g : Grp) (w : World) : g.Same w w :=
  ⟨fun _ => ⟨rfl, fun _ => rfl⟩, fun _ _ => rfl⟩

theorem Grp.Same.trans {g : Grp} {w w1 w2 : World} (hS : SFrame w w1) (h1 : g.Same w w1)
    (h2 : g.Same w1 w2) : g.Same w w2 := by
  obtain ⟨hn, hc⟩ := clause_frame hS
  refine ⟨fun e => ⟨(h2.1 e).1.trans (h1.1 e).1, fun b => ((h2.1 e).2 b).trans ((h1.1 e).2 b)⟩,
    fun b hb => ?_⟩
  rw [← h1.2 b hb, ← hc b]
  exact h2.2 b (hn ▸ hb)

theorem Grp.Same.keep {g : Grp} {φ : AgentCfg → AgentSt → Prop}
    (hφ : ∀ c s, φ c (g.view c s) ↔ φ c s) {w w' : World} (hS : SFrame w w') (hK : g.Same w w')
    (h : ∀ a < w.n, φ (w.cfgOf a) (w.stOf a)) : ∀ a < w'.n, φ (w'.cfgOf a) (w'.stOf a) := by
  obtain ⟨hn, hcf⟩ := clause_frame hS
  intro a ha
  rw [hn] at ha
  rw [hcf, ← hφ, hK.2 a ha, hφ]
  exact h a ha

/-- the clauses of the invariant about one agent, by the field group each one reads; the ammunition
field of an agent without ammunition has to be non-negative, its orientation field is not constrained -/
def Grp.ok : Grp → AgentCfg → AgentSt → Prop
  | .health, _, s => 0 < s.health ∧ s.health ≤ 1 ∧ s.active = true
  | .ammo, c, s => c.hasAmmo = true → 0 ≤ s.ammo ∧ s.ammo ≤ max 0 c.initAmmo
  | .orient, c, s => c.hasOrient = true → 1 ≤ s.orient ∧ s.orient ≤ 4
  | .ghostAmmo, c, s => c.hasAmmo = false → 0 ≤ s.ammo
  | _, _, _ => True

/-- the declared initial values of one agent are back (C08), by the field group -/
def Grp.decl : Grp → AgentCfg → AgentSt → Prop
  | .pos, c, s => ∀ q, c.initPos = some q → s.pos = q
  | .health, c, s => ∀ h0, c.initHealth = some h0 → s.health = h0
  | .ammo, c, s => c.hasAmmo = true → s.ammo = max 0 c.initAmmo
  | .orient, c, s => c.hasOrient = true → ∀ o, c.initOrient = some (o + 1) → s.orient = o + 1
  | _, _, _ => True

theorem Grp.ok_view (g : Grp) (c : AgentCfg) (s : AgentSt) : g.ok c (g.view c s) ↔ g.ok c s := by
  cases g
  case ghostAmmo =>
    refine imp_congr_right fun hA => ?_
    simp only [Grp.view, hA, Bool.false_eq_true, if_false]
  all_goals exact Iff.rfl

theorem Grp.decl_view (g : Grp) (c : AgentCfg) (s : AgentSt) : g.decl c (g.view c s) ↔ g.decl c s := by
  cases g <;> exact Iff.rfl

/-- the clause groups of the invariant (`PosC`, `HealthC`, `AmmoC`, `OrientC`, `NoAmmoC`) -/
def Grp.Clause (g : Grp) (w : World) : Prop :=
  match g with
  | .pos => PosC w
  | g => ∀ a < w.n, g.ok (w.cfgOf a) (w.stOf a)

def Grp.Decl (g : Grp) (w : World) : Prop := ∀ a < w.n, g.decl (w.cfgOf a) (w.stOf a)

/-- but for the position group, both are said agent by agent -/
theorem Grp.fresh_of_agents {g : Grp} (hg : g ≠ .pos) {w : World}
    (h : ∀ a < w.n, g.ok (w.cfgOf a) (w.stOf a) ∧ g.decl (w.cfgOf a) (w.stOf a)) :
    g.Clause w ∧ g.Decl w := by
  refine ⟨?_, fun a ha => (h a ha).2⟩
  cases g
  case pos => exact absurd rfl hg
  all_goals exact fun a ha => (h a ha).1

theorem Grp.Clause.keep {g : Grp} {w w' : World} (hS : SFrame w w') (hK : g.Same w w') :
    g.Clause w → g.Clause w' := by
  cases g
  case pos =>
    exact PosC.of_vframe ⟨hS.rows, hS.cols, hS.overlap, (hK.1 rfl).1, hS.cfg, hS.len, (hK.1 rfl).2⟩
  all_goals exact hK.keep (Grp.ok_view _) hS

theorem Grp.Decl.keep {g : Grp} {w w' : World} (hS : SFrame w w') (hK : g.Same w w') :
    g.Decl w → g.Decl w' :=
  hK.keep g.decl_view hS

/-- the hypotheses under which a list of components is reset: the configuration facts the
constructors guarantee (`wfPlacement`, `CfgOK`; C19), one state per agent, and the out-of-domain
oracle stream of finding K4 (`healthClosed`) is not among the components -/
structure CompsOK (cs : List StateComp) (w : World) : Prop where
  wf : ∀ kind o, StateComp.position kind o ∈ cs → wfPlacement kind o w = true
  cfg : CfgOK w
  nc : StateComp.healthClosed ∉ cs
  len : w.st.length = w.cfg.length

theorem CompsOK.head {c : StateComp} {cs : List StateComp} {w : World} (h : CompsOK (c :: cs) w) :
    CompsOK [c] w :=
  ⟨fun k o hm => h.wf k o (by rw [List.mem_singleton.mp hm]; exact List.mem_cons_self), h.cfg,
   fun hm => h.nc (by rw [← List.mem_singleton.mp hm]; exact List.mem_cons_self), h.len⟩

theorem CompsOK.tail {c : StateComp} {cs : List StateComp} {w w1 : World} (h : CompsOK (c :: cs) w)
    (hS : SFrame w w1) : CompsOK cs w1 :=
  ⟨fun k o hm => by rw [wfPlacement_of_sframe hS]; exact h.wf k o (List.mem_cons_of_mem _ hm),
   cfgOK_of_sframe hS h.cfg, fun hm => h.nc (List.mem_cons_of_mem _ hm),
   by rw [hS.len, hS.cfg]; exact h.len⟩

theorem placementReset_keeps {kind : PKind} {o : PlaceOpts} {w : World} {t : Tape} {w' : World}
    {t' : Tape} (hwf : wfPlacement kind o w = true) (hlen : w.st.length = w.cfg.length)
    (h : placementReset kind o w t = .ok (w', t')) : SFrame w w' ∧ ∀ g : Grp, g ≠ .pos → g.Same w w' := by
  obtain ⟨h1, h2, h3, h4, -, h5, hv⟩ := (specPlacement_iff.mp (place_ok_spec kind o w t hwf)).1
  rw [(placementReset_ok h).2] at h1 h2 h3 h4 h5 hv
  refine ⟨⟨h1, h2, h3, h4, by rw [h5, h4, hlen]⟩, fun g hg => ⟨fun e => absurd e hg, fun b hb => ?_⟩⟩
  -- `hv`: the new state of an agent is its old state with another position
  rw [hv b hb]
  exact Grp.view_pos hg _ _ _

theorem placement_clauses (kind : PKind) (o : PlaceOpts) (w : World) (t : Tape) (w' : World) (t' : Tape)
    (hwf : wfPlacement kind o w = true) (hlen : w.st.length = w.cfg.length)
    (h : placementReset kind o w t = .ok (w', t')) :
    SFrame w w' ∧ (NoAmmoC w → NoAmmoC w') ∧ PosC w' ∧ (HealthC w → HealthC w') ∧
    (AmmoC w → AmmoC w') ∧ (OrientC w → OrientC w') := by
  obtain ⟨hS, hK⟩ := placementReset_keeps hwf hlen h
  exact ⟨hS, Grp.Clause.keep hS (hK .ghostAmmo nofun),
    reset_establishes_position_invariant kind o w t w' t' hwf h, Grp.Clause.keep hS (hK .health nofun),
    Grp.Clause.keep hS (hK .ammo nofun), Grp.Clause.keep hS (hK .orient nofun)⟩

theorem applyComp_keeps (c : StateComp) (w : World) (t : Tape) (w' : World) (t' : Tape)
    (hok : CompsOK [c] w) (h : applyComp c w t = .ok (w', t')) :
    SFrame w w' ∧ ∀ g, g ≠ c.owns → g.Same w w' := by
  -- a vitals component: nothing but the agents' states changes, and the positions in them stay
  have vitals : ∀ {w'}, VFrame w w' →
      (∀ g, g ≠ c.owns → ∀ b < w.n, g.view (w.cfgOf b) (w'.stOf b) = g.view (w.cfgOf b) (w.stOf b)) →
      SFrame w w' ∧ ∀ g, g ≠ c.owns → g.Same w w' :=
    fun hF hv => ⟨.of_vframe hF, fun g hg => ⟨fun _ => ⟨hF.cells, hF.pos⟩, hv g hg⟩⟩
  cases c with
  | healthClosed => exact absurd List.mem_cons_self hok.nc
  | position kind o => exact placementReset_keeps (hok.wf kind o List.mem_cons_self) hok.len h
  | health =>
    obtain rfl : (w.healthReset t).1 = w' := congrArg Prod.fst (Except.ok.inj h)
    obtain ⟨hF, hst⟩ := healthReset_does t hok.cfg hok.len
    refine vitals hF fun g hg b hb => ?_
    obtain ⟨x, -, -, e, -⟩ := hst b hb
    rw [e]
    exact Grp.view_health hg _ _ _ _
  | ammo =>
    obtain rfl : w.ammoReset = w' := congrArg Prod.fst (Except.ok.inj h)
    obtain ⟨hF, hst⟩ := ammoReset_does hok.len
    refine vitals hF fun g hg b hb => ?_
    rw [hst b hb]
    split
    next hA => exact Grp.view_ammo hg hA _ _
    next => rfl
  | orient =>
    obtain rfl : (w.orientReset t).1 = w' := congrArg Prod.fst (Except.ok.inj h)
    obtain ⟨hF, hst⟩ := orientReset_does t hok.cfg hok.len
    refine vitals hF fun g hg b hb => ?_
    cases hO : (w.cfgOf b).hasOrient with
    | false => rw [(hst b hb).2 hO]
    | true =>
      obtain ⟨x, -, -, e, -⟩ := (hst b hb).1 hO
      rw [e]
      exact Grp.view_orient hg hO _ _

theorem applyComp_fresh (c : StateComp) (w : World) (t : Tape) (w' : World) (t' : Tape)
    (hok : CompsOK [c] w) (h : applyComp c w t = .ok (w', t')) : c.owns.Clause w' ∧ c.owns.Decl w' := by
  obtain ⟨hn, hcf⟩ := clause_frame (applyComp_keeps c w t w' t' hok h).1
  cases c with
  | healthClosed => exact absurd List.mem_cons_self hok.nc
  | position kind o =>
    have hwf := hok.wf kind o List.mem_cons_self
    obtain ⟨herr, hw⟩ := placementReset_ok h
    have hfix := (spec_ok_parts (place_ok_spec kind o w t hwf) herr).2.1
    rw [hw] at hfix
    exact ⟨reset_establishes_position_invariant kind o w t w' t' hwf h, c13_fixed_reading hfix⟩
  | health =>
    obtain rfl : (w.healthReset t).1 = w' := congrArg Prod.fst (Except.ok.inj h)
    refine Grp.fresh_of_agents (g := .health) nofun fun a ha => ?_
    obtain ⟨x, h0, h1, e, hd⟩ := (healthReset_does t hok.cfg hok.len).2 a (hn ▸ ha)
    rw [e, hcf]
    exact ⟨⟨h0, h1, rfl⟩, hd⟩
  | ammo =>
    obtain rfl : w.ammoReset = w' := congrArg Prod.fst (Except.ok.inj h)
    refine Grp.fresh_of_agents (g := .ammo) nofun fun a ha => ?_
    rw [(ammoReset_does hok.len).2 a (hn ▸ ha), hcf]
    refine imp_and.mp fun hA => ?_
    rw [if_pos hA]
    exact ⟨⟨le_max_left _ _, le_refl _⟩, rfl⟩
  | orient =>
    obtain rfl : (w.orientReset t).1 = w' := congrArg Prod.fst (Except.ok.inj h)
    refine Grp.fresh_of_agents (g := .orient) nofun fun a ha => ?_
    rw [hcf]
    refine imp_and.mp fun hO => ?_
    obtain ⟨x, h1, h4, e, hd⟩ := ((orientReset_does t hok.cfg hok.len).2 a (hn ▸ ha)).1 hO
    rw [e]
    exact ⟨⟨h1, h4⟩, hd⟩

theorem applyComps_keeps (cs : List StateComp) :
    ∀ (w : World) (t : Tape) (w' : World) (t' : Tape), CompsOK cs w →
      applyComps cs w t = .ok (w', t') →
      SFrame w w' ∧ ∀ g, (∀ c ∈ cs, c.owns ≠ g) → g.Same w w' := by
  intro w t
  fun_induction applyComps cs w t with
  | case1 w t =>
    intro w' t' _ h
    cases h
    exact ⟨SFrame.refl w, fun g _ => Grp.Same.refl g w⟩
  | case2 => intro w' t' _ h; cases h
  | case3 c cs w t w1 t1 h1 ih =>
    intro w' t' hok h
    obtain ⟨hS, hK⟩ := applyComp_keeps c w t w1 t1 hok.head h1
    obtain ⟨hS2, hK2⟩ := ih w' t' (hok.tail hS) h
    exact ⟨hS.trans hS2, fun g hg => (hK g (fun e => hg c List.mem_cons_self e.symm)).trans hS
      (hK2 g (fun x hx => hg x (List.mem_cons_of_mem _ hx)))⟩

/-- `Φ g` reads field group `g` only (`hkeep`) and is established by an owner of `g` (`hest`): `Grp.Clause` here,
`Grp.Decl` for C08 -/
theorem applyComps_estab (Φ : Grp → World → Prop)
    (hkeep : ∀ g w w', SFrame w w' → g.Same w w' → Φ g w → Φ g w')
    (hest : ∀ c w t w' t', CompsOK [c] w → applyComp c w t = .ok (w', t') → Φ c.owns w') :
    ∀ (cs : List StateComp) (w : World) (t : Tape) (w' : World) (t' : Tape), CompsOK cs w →
      applyComps cs w t = .ok (w', t') → ∀ g, (∃ c ∈ cs, c.owns = g) ∨ Φ g w → Φ g w' := by
  intro cs w t
  fun_induction applyComps cs w t with
  | case1 w t =>
    intro w' t' _ h g hΦ
    cases h
    exact hΦ.resolve_left fun ⟨_, hm, _⟩ => nomatch hm
  | case2 => intro w' t' _ h; cases h
  | case3 c cs w t w1 t1 h1 ih =>
    intro w' t' hok h g hΦ
    obtain ⟨hS, hK⟩ := applyComp_keeps c w t w1 t1 hok.head h1
    refine ih w' t' (hok.tail hS) h g ?_
    by_cases hc : c.owns = g
    · exact Or.inr (hc ▸ hest c w t w1 t1 hok.head h1)
    · rcases hΦ with ⟨x, hm, hx⟩ | hΦ
      · rcases List.mem_cons.mp hm with rfl | hm
        · exact absurd hx hc
        · exact Or.inl ⟨x, hm, hx⟩
      · exact Or.inr (hkeep g w w1 hS (hK g (fun e => hc e.symm)) hΦ)

/-- every clause group holds after the components of a list have been reset one after the other,
provided it held before or its component is in the list — **in any order** -/
theorem applyComps_spec (cs : List StateComp) :
    ∀ (w : World) (t : Tape) (w' : World) (t' : Tape),
      (∀ kind o, StateComp.position kind o ∈ cs → wfPlacement kind o w = true) → CfgOK w →
      StateComp.healthClosed ∉ cs →
      w.st.length = w.cfg.length → applyComps cs w t = .ok (w', t') →
      SFrame w w' ∧ (NoAmmoC w → NoAmmoC w') ∧
      ((∃ kind o, StateComp.position kind o ∈ cs) ∨ PosC w → PosC w') ∧
      (StateComp.health ∈ cs ∨ HealthC w → HealthC w') ∧
      (StateComp.ammo ∈ cs ∨ AmmoC w → AmmoC w') ∧
      (StateComp.orient ∈ cs ∨ OrientC w → OrientC w') := by
  intro w t w' t' hwf hcfg hnc hlen h
  have hok : CompsOK cs w := ⟨hwf, hcfg, hnc, hlen⟩
  have key := applyComps_estab Grp.Clause (fun _ _ _ => Grp.Clause.keep)
    (fun c w t w' t' hok h => (applyComp_fresh c w t w' t' hok h).1) cs w t w' t' hok h
  -- nobody owns the ammunition field of an agent without ammunition
  exact ⟨(applyComps_keeps cs w t w' t' hok h).1, fun hN => key .ghostAmmo (Or.inr hN),
    fun hΦ => key .pos (hΦ.imp_left fun ⟨_, _, hm⟩ => ⟨_, hm, rfl⟩),
    fun hΦ => key .health (hΦ.imp_left fun hm => ⟨_, hm, rfl⟩),
    fun hΦ => key .ammo (hΦ.imp_left fun hm => ⟨_, hm, rfl⟩),
    fun hΦ => key .orient (hΦ.imp_left fun hm => ⟨_, hm, rfl⟩)⟩

/-- the same for one component (`healthClosed`, the out-of-domain oracle stream of finding K4, is
excluded) -/
theorem applyComp_spec (c : StateComp) (w : World) (t : Tape) (w' : World) (t' : Tape)
    (hwf : ∀ kind o, c = .position kind o → wfPlacement kind o w = true) (hcfg : CfgOK w)
    (hnc : c ≠ .healthClosed)
    (hlen : w.st.length = w.cfg.length) (h : applyComp c w t = .ok (w', t')) :
    SFrame w w' ∧ (NoAmmoC w → NoAmmoC w') ∧
    ((∃ kind o, c = .position kind o) ∨ PosC w → PosC w') ∧
    (c = .health ∨ HealthC w → HealthC w') ∧
    (c = .ammo ∨ AmmoC w → AmmoC w') ∧
    (c = .orient ∨ OrientC w → OrientC w') := by
  have hm : ∀ {x : StateComp}, c = x → x ∈ [c] := fun e => List.mem_singleton.mpr e.symm
  obtain ⟨hS, hN, hP, hH, hA, hO⟩ := applyComps_spec [c] w t w' t'
    (fun k o hx => hwf k o (List.mem_singleton.mp hx).symm) hcfg
    (fun hx => hnc (List.mem_singleton.mp hx).symm) hlen (by simp only [applyComps, h])
  exact ⟨hS, hN, fun hx => hP (hx.imp_left fun ⟨k, o, e⟩ => ⟨k, o, hm e⟩), fun hx => hH (hx.imp_left hm),
    fun hx => hA (hx.imp_left hm), fun hx => hO (hx.imp_left hm)⟩

theorem reset_frame_inv (cs : List StateComp) (w : World) (t : Tape) (w' : World) (t' : Tape)
    (hpos : ∃ kind o, StateComp.position kind o ∈ cs) (hh : StateComp.health ∈ cs)
    (ha : StateComp.ammo ∈ cs) (ho : StateComp.orient ∈ cs)
    (hnc : StateComp.healthClosed ∉ cs)
    (hwf : ∀ kind o, StateComp.position kind o ∈ cs → wfPlacement kind o w = true) (hcfg : CfgOK w)
    (hn : NoAmmoC w) (h : applyComps cs w t = .ok (w', t')) : SFrame w w' ∧ w'.WInv = true := by
  obtain ⟨k0, o0, hm0⟩ := hpos
  have hW := wfp_of_wf (hwf k0 o0 hm0)
  obtain ⟨hS, hN, hP, hH, hA, hO⟩ := applyComps_spec cs w t w' t' hwf hcfg hnc hW.lenS h
  exact ⟨hS, WInv_of_clauses (hP (Or.inl ⟨k0, o0, hm0⟩)) (hH (Or.inl hh)) (hA (Or.inl ha)) (hO (Or.inl ho))
    (hN hn) (by rw [hS.sameG.wOverlapSym]; exact hW.sym)⟩

/-- **C03, resets**: from **any** prior world (dirty grid, dead agents, anything), a successful reset
through a placement state, `HealthState`, `AmmoState` and `OrientationState` — in any order, any
tape — yields a world satisfying the invariant.  Hypotheses: the configuration facts the
constructors guarantee (`wfPlacement`, `CfgOK`; C19) and that the ammunition field of agents without
ammunition was never written.  (A drawn initial health is never exactly 0 in the regular oracle
stream; numpy's `uniform(0, 1)` can return 0.0 with probability 2⁻⁵³: finding K4 — that stream is the
component `healthClosed`, excluded here and witnessed to break the invariant in Props/C03.lean.) -/
theorem C03_reset_establishes (cs : List StateComp) (w : World) (t : Tape) (w' : World) (t' : Tape)
    (hpos : ∃ kind o, StateComp.position kind o ∈ cs) (hh : StateComp.health ∈ cs)
    (ha : StateComp.ammo ∈ cs) (ho : StateComp.orient ∈ cs)
    (hnc : StateComp.healthClosed ∉ cs)
    (hwf : ∀ kind o, StateComp.position kind o ∈ cs → wfPlacement kind o w = true) (hcfg : CfgOK w)
    (hn : NoAmmoC w) (h : applyComps cs w t = .ok (w', t')) : w'.WInv = true :=
  (reset_frame_inv cs w t w' t' hpos hh ha ho hnc hwf hcfg hn h).2

end Abmarl
