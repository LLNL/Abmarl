import Abmarl.Props.Broadcast
/-!
# `BroadcastSim`: the model's own trace passes the judge `BC.specBC` (`broadcast_hist`)

For each kind of call the clause of `BC.judge1` holds on the entry the model produces from a state of the invariant
(`BC.Inv`), under what `BC.bcPre` says of the constructed world (`BC.PreOK`).
-/
namespace Abmarl
namespace BC
open World Ex

/-- what the judge's precondition says about the constructed world and the configuration -/
structure PreOK (cfg : Cfg) (w0 : World) : Prop where
  cfgok : CfgOK w0
  fresh : w0.vitalsAlive = true
  enc : ∀ b < w0.n, 0 < w0.encOf b
  iammo : ∀ b < w0.n, 0 ≤ (w0.cfgOf b).initAmmo
  hyp : cfgHypb cfg w0 = true

theorem cfgHypb_frame (cfg : Cfg) {w0 w : World} (h : SFrame w0 w) : cfgHypb cfg w = cfgHypb cfg w0 := by
  have he : w.encOf = w0.encOf := funext (h.sameG.encOf)
  simp only [cfgHypb, h.sameG.n, he]

theorem judge1_done (cfg : Cfg) (w0 : World) (s : St) (a : Aid) (res0 : BRes) :
    judge1 cfg w0 (see res0 s) (.done a) (runOp cfg s (.done a)).1 = true := by
  simp [judge1, runOp, see, getDone]

theorem judge1_rew (cfg : Cfg) (w0 : World) (s : St) (a : Aid) (res0 : BRes) :
    judge1 cfg w0 (see res0 s) (.rew a) (runOp cfg s (.rew a)).1 = true := by
  simp only [runOp, getReward]
  cases hr : s.rewards with
  | none => simp [judge1, see, hr]
  | some r =>
    simp only [rewardVal]
    cases hl : r.lookup a with
    | none => simp [judge1, see, hr, hl]
    | some x => simp [judge1, see, hr, hl]

/-- from the constructed object as well: there `step` raises, and `goodb` fails on the dump -/
theorem judge1_step' {cfg : Cfg} {w0 : World} (hW : PreOK cfg w0) {s : St} (hI : Inv cfg w0 s)
    (acts : List (Aid × Act)) (t : Tape) (hA : ActsOK w0 acts) (res0 : BRes) :
    judge1 cfg w0 (see res0 s) (.step acts t) (runOp cfg s (.step acts t)).1 = true := by
  rcases hI with hG | hG
  · have hH : cfgHypb cfg s.w = true := by
      rw [cfgHypb_frame cfg hG.x.frame]
      exact hW.hyp
    exact broadcast_hist_step_partial cfg w0 hW.cfgok s hG hH acts t hA res0
  · simp only [runOp, step_unreset (s := { s with tape := t }) hG.2]
    simp [judge1, see, stepMustNotRaise, goodb, hG.2]

theorem judge1_reset {cfg : Cfg} {w0 : World} (hW : PreOK cfg w0) {s : St} (hI : Inv cfg w0 s)
    (c : StateComp) (t : Tape) (hc : MAG.CompOK w0 c) (res0 : BRes) :
    judge1 cfg w0 (see res0 s) (.reset c t) (runOp cfg s (.reset c t)).1 = true := by
  simp only [runOp]
  cases h : reset cfg c { s with tape := t } with
  | error e => simp [judge1, see]
  | ok s' =>
    obtain ⟨w', t', hX, rfl⟩ := reset_spec hW.cfgok hW.fresh hc (inv_tape t hI) h
    simp only [judge1, see, Bool.and_eq_true]
    exact ⟨⟨⟨⟨⟨⟨⟨by rfl, hX.inv⟩, Ex.frameb_of_sframe hX.frame⟩, aliveb_of_healthC hX.alive⟩,
      (msgsOK_iff _ _ _).mpr (drawMsgs_ok cfg _ _)⟩, drawMsgs_init cfg _ _⟩, beq_self_eq_true _⟩, beq_self_eq_true _⟩

theorem frame_enc {cfg : Cfg} {w0 : World} (hW : PreOK cfg w0) {w : World} (hF : SFrame w0 w) :
    (∀ b < w.n, 0 < w.encOf b) ∧ (∀ b < w.n, 0 ≤ (w.cfgOf b).initAmmo) :=
  ⟨sframe_encPos hF hW.enc, sframe_ammoNonneg hF hW.iammo⟩

theorem absR_self_bound (x : Rat) : decide (absR (x - x) ≤ bound) = true := by
  rw [Rat.sub_self]; decide +kernel

/-- the `get_obs` entry: in a state of the invariant, for an agent of the simulation, `getObs_grid` and `getObs_eq` give the call's
result; otherwise the call raises and the judge's "must not raise" precondition fails -/
theorem judge1_obs {cfg : Cfg} {w0 : World} (hW : PreOK cfg w0) {s : St} (hI : Inv cfg w0 s) (a : Aid) (t : Tape)
    (res0 : BRes) : judge1 cfg w0 (see res0 s) (.obs a t) (runOp cfg s (.obs a t)).1 = true := by
  rcases hI with hG | hG
  · obtain ⟨r0, hr0, _⟩ := hG.led
    by_cases ha : a < s.w.n
    · have hGt := good_tape t hG
      obtain ⟨henc, hammo⟩ := frame_enc hW hG.x.frame
      obtain ⟨g, t', hg, hgrid⟩ := getObs_grid hGt ha henc hammo
      obtain ⟨hno, hyes⟩ := getObs_eq hGt ha hg
      cases hb : cfg.isB a with
      | false =>
        simp only [runOp, hno hb]
        simp only at hgrid
        simp [judge1, see, hb, hgrid]
      | true =>
        obtain ⟨rv, rf, own, hrv, hrf, hown, hall, hget⟩ := hyes hb
        have hs := slots_ok cfg s.w.n a (clamp (average (rf.map (·.2) ++ [own]))) rf (clamp_inUnit _) hall
        have hlen : a < s.msgs.length := by rw [hG.msgs.1]; exact ha
        have hnew : (s.msgs.set a (some (clamp (average (rf.map (·.2) ++ [own]))))).getD a none =
            some (clamp (average (rf.map (·.2) ++ [own]))) := by
          simp [List.getD_eq_getElem?_getD, hlen]
        simp only at hgrid hrv hown
        simp only [runOp, hget]
        simp only [judge1, see, hb, if_true, hrv, hown, hnew, hrf, Bool.and_eq_true, beq_iff_eq, hgrid, hs,
          clamp_inUnit, absR_self_bound, and_self]
    · have h : getObs cfg { s with tape := t } a = .error .keyError := by
        simp [getObs, hr0, Nat.le_of_not_lt ha]
      simp only [runOp, h]
      simp [judge1, see, ha]
  · simp only [runOp, getObs_unreset (s := { s with tape := t }) hG.2]
    simp [judge1, see, goodb, hG.2]

theorem doneAccepted_exact (cfg : Cfg) (ms : List Rat) : doneAccepted cfg ms (.bool (allDoneOn cfg ms)) = true := by
  have hb : (0 : Rat) ≤ bound := by decide +kernel
  cases hd : allDoneOn cfg ms with
  | true =>
    simp only [doneAccepted, allDoneWith, List.all_eq_true, decide_eq_true_eq]
    simp only [allDoneOn, List.all_eq_true, decide_eq_true_eq] at hd
    exact fun m hm => le_trans (hd m hm) (le_add_of_nonneg_right hb)
  | false =>
    simp only [doneAccepted, allDoneWith, Bool.not_eq_true', List.all_eq_false, decide_eq_true_eq]
    simp only [allDoneOn, List.all_eq_false, decide_eq_true_eq] at hd
    obtain ⟨m, hm, hlt⟩ := hd
    exact ⟨m, hm, fun h => hlt (le_trans h (add_le_of_nonpos_right (neg_nonpos.mpr hb)))⟩

/-- `get_all_done` without the shortcut for "no broadcaster": the loop over an empty list answers `True` as well -/
theorem getAllDone_eq (cfg : Cfg) (s : St) : getAllDone cfg s =
    match (bcasters cfg s.w.n).mapM (fun b => s.msgs.getD b none) with
    | none => .error .other
    | some ms => .ok (allDoneOn cfg ms) := by
  unfold getAllDone bcasters
  by_cases he : ((List.range s.w.n).filter cfg.isB).isEmpty = true
  · rw [if_pos he, List.isEmpty_iff.mp he]
    rfl
  · rw [if_neg he]
    rfl

theorem judge1_allDone (cfg : Cfg) (w0 : World) (s : St) (res0 : BRes) :
    judge1 cfg w0 (see res0 s) .allDone (runOp cfg s .allDone).1 = true := by
  have hsome := mapM_isSome (fun b => s.msgs.getD b none) (bcasters cfg s.w.n)
  simp only [runOp, getAllDone_eq]
  cases hm : (bcasters cfg s.w.n).mapM (fun b => s.msgs.getD b none) with
  | none =>
    rw [hm] at hsome
    simp only [judge1, see, ← hsome]
    rfl
  | some ms => simp only [judge1, see, hm, doneAccepted_exact, beq_self_eq_true, Bool.and_self]

theorem judge1_model {cfg : Cfg} {w0 : World} (hW : PreOK cfg w0) (s : St) (op : BOp) (hop : OpOK w0 op)
    (hI : Inv cfg w0 s) (res0 : BRes) : judge1 cfg w0 (see res0 s) op (runOp cfg s op).1 = true := by
  cases op with
  | reset c t => exact judge1_reset hW hI c t hop res0
  | step acts t => exact judge1_step' hW hI acts t hop res0
  | obs a t => exact judge1_obs hW hI a t res0
  | rew a => exact judge1_rew cfg w0 s a res0
  | done a => exact judge1_done cfg w0 s a res0
  | allDone => exact judge1_allDone cfg w0 s res0

/-- what the trace shows after a call is the state the model is in -/
theorem runOp_entry (cfg : Cfg) (s : St) (op : BOp) :
    (runOp cfg s op).1 = see (runOp cfg s op).1.res (runOp cfg s op).2 := by
  cases op <;> simp only [runOp] <;> (try split) <;> rfl

theorem zipOps_nil_right (ops : List BOp) : zipOps ops [] = [] := by
  cases ops <;> rfl

theorem specFrom_cons (cfg : Cfg) (w0 : World) (j : BEntry) (op : BOp) (e : BEntry) (rest : List (BOp × BEntry)) :
    specFrom cfg w0 j ((op, e) :: rest) =
      (judge1 cfg w0 j op e && if e.res.isErr then rest.isEmpty else specFrom cfg w0 e rest) := by
  rw [specFrom]
  cases e.res <;> rfl

theorem specFrom_model {cfg : Cfg} {w0 : World} (hW : PreOK cfg w0) :
    ∀ (ops : List BOp) (s : St) (res0 : BRes), (∀ op ∈ ops, OpOK w0 op) → Inv cfg w0 s →
      specFrom cfg w0 (see res0 s) (zipOps ops (runOps cfg s ops).1) = true :=
  fun ops s res0 hops hI =>
    hist_spec (f := runOp cfg) (stop := fun _ e => e.res.isErr) (run := runOps cfg) (spec := specFrom cfg w0)
      (zip := zipOps) (judge := judge1 cfg w0) (next := fun e => e) (V := fun j s => ∃ res, j = see res s)
      (P := Inv cfg w0) (Q := OpOK w0)
      -- the six unfolding equations of `runOps`, `zipOps`, `specFrom`, in the order of `hist_spec`'s binders
      (fun _ _ _ => rfl) (fun _ => rfl) (fun _ _ _ _ => rfl) zipOps_nil_right
      (specFrom_cons cfg w0) (fun _ => rfl)
      (runOp_inv hW.cfgok hW.fresh)
      (fun j s op hop hI ⟨res, hj⟩ => by rw [hj]; exact judge1_model hW s op hop hI res)
      (fun s op _ _ _ => ⟨_, runOp_entry cfg s op⟩)
      ops s _ hops hI ⟨res0, rfl⟩

/-- `bcPre`, read.  Two of its clauses play no part in `broadcast_hist`: `noAmmoCb w0`, and that the history starts with
a reset (the per-call lemmas hold from the constructed object as well: `Inv`) -/
theorem bcPre_hyps {cfg : Cfg} {w0 : World} {ops : List BOp} (h : bcPre cfg w0 ops = true) :
    PreOK cfg w0 ∧ ∀ op ∈ ops, OpOK w0 op := by
  unfold bcPre at h
  simp only [Bool.and_eq_true, List.all_eq_true, allAgents, List.mem_range, decide_eq_true_eq, encPosb] at h
  obtain ⟨⟨⟨⟨⟨⟨⟨hcfg, hfresh⟩, _hnoammo⟩, henc⟩, hiammo⟩, hhyp⟩, _hreset⟩, hops⟩ := h
  refine ⟨⟨(cfgOKb_iff w0).mp hcfg, hfresh, henc, hiammo, hhyp⟩, fun op hop => ?_⟩
  have := hops op hop
  cases op with
  | reset c t =>
    rw [compOKb_eq] at this
    exact MAG.compOK_of_b this
  | step acts t =>
    simp only [List.all_eq_true, Bool.and_eq_true, decide_eq_true_eq] at this
    exact this
  | _ => trivial

end BC

/-- **the trace of `BroadcastSim` passes its judge**: under the class precondition `BC.bcPre` (the world as the constructors
leave it, the configuration hypothesis `BC.cfgHypb`, the history starts with a reset, every reset holds a covered placement
state, every step's items are for agents of the simulation with moves of the declared spaces — ANY `broadcast` values) the
trace the model computes satisfies the judge `BC.specBC`, for every configuration, history and tape.  The precondition is
the one the judge is run under; the proof uses neither `noAmmoCb w0` nor "starts with a reset" (`BC.bcPre_hyps`).  Every
clause of `BC.judge1` (C03 after reset / step, messages, full delivery `BC.recvAfter`, observations in space with the slot
clause, read-and-reset rewards, the done getters with the exact tolerance test, "must not raise") holds on every entry, and
a raising call ends the trace. -/
theorem broadcast_hist (cfg : BC.Cfg) (w0 : World) (ops : List BC.BOp) (hpre : BC.bcPre cfg w0 ops = true) :
    BC.specBC cfg w0 (BC.zipOps ops (BC.runOps cfg (BC.init w0) ops).1) = true := by
  obtain ⟨hW, hops⟩ := BC.bcPre_hyps hpre
  exact BC.specFrom_model hW ops (BC.init w0) .unit hops (Or.inr ⟨rfl, rfl⟩)

/-- the same from any initial tape -/
theorem broadcast_hist_tape (cfg : BC.Cfg) (w0 : World) (t0 : Tape) (ops : List BC.BOp)
    (hpre : BC.bcPre cfg w0 ops = true) :
    BC.specBC cfg w0 (BC.zipOps ops (BC.runOps cfg { BC.init w0 with tape := t0 } ops).1) = true := by
  obtain ⟨hW, hops⟩ := BC.bcPre_hyps hpre
  exact BC.specFrom_model hW ops { BC.init w0 with tape := t0 } .unit hops (Or.inr ⟨rfl, rfl⟩)

/-- a history with everything in it on the world with the blocker: reset; a step in which agent 0 broadcasts; a read by
agent 2; a reward read; both done getters; a read for an agent that does not exist (raises, ends the trace) -/
def exBCHistOps : List BC.BOp :=
  [.reset (.position .position {}) [], .step [(0, { broadcast := 1 })] [], .obs 2 [], .rew 0, .done 0, .allDone,
   .obs 7 []]

/-- the precondition is inhabited, and the trace is the expected one (raised?) … -/
example : BC.bcPre exBCCfg3 exBCWorld3 exBCHistOps = true ∧
    ((BC.runOps exBCCfg3 (BC.init exBCWorld3) exBCHistOps).1.map fun e => e.res.isErr) =
      [false, false, false, false, false, false, true] := by
  refine ⟨by decide +kernel, by decide +kernel⟩

/-- … and it passes the judge, by the theorem -/
example : BC.specBC exBCCfg3 exBCWorld3
    (BC.zipOps exBCHistOps (BC.runOps exBCCfg3 (BC.init exBCWorld3) exBCHistOps).1) = true :=
  broadcast_hist exBCCfg3 exBCWorld3 exBCHistOps (by decide +kernel)

/-- the judge is not trivially true: the same trace with every receiving list emptied is rejected (the delivery clause) -/
example : BC.specBC exBCCfg3 exBCWorld3
    (BC.zipOps exBCHistOps ((BC.runOps exBCCfg3 (BC.init exBCWorld3) exBCHistOps).1.map fun e =>
      { e with recv := some (BC.emptyRecv exBCCfg3 4) })) = false := by
  decide +kernel

end Abmarl
