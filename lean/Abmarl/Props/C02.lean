import Abmarl.Lemmas.C02
import Abmarl.Lemmas.C02Wrap
import Abmarl.Props.C05
import Abmarl.Props.C20
/-!
# C02 — Observations and actions always live in the agents' declared spaces

A composition of what the other properties prove; nothing is re-modelled here.

*Grid part.*  A grid-world simulation is a history of component calls `GOp` (`Model/GridSim.lean`:
moves of the three move actors, attacks of the four attack actors with the deaths they cause, resets
of the state components) after a first full reset; every `step` of a simulation built from the
library's components is such a history, whatever its interleaving.  By C03 every world such a history
reaches satisfies `WInv` (`reachable_inv`); there C09 puts every observation into the space the
observer declared, and C12 / C11 process every point of the declared action spaces, after which the
extended history is of the same kind again — so the statements cover action sequences of every length.
The null points the constructors declare lie in the declared spaces as well.

*Wrapper part*, over `Space` / `Pt` of `Model/Spaces.lean`.  Each of the three unary wrappers is a map on
(declared space, observation) pairs that keeps membership on its domain (`MLayer.Sound`): ravel on
`WF04` (C04), flatten on `WF05` (C05), communication everywhere; hence so does every stack of them
(`C02_stack`).  The super agent wrapper, which joins the pairs of its covered agents into one Dict pair, keeps
membership too (`C02_super_layer`), and the models of C20 and C14 produce members of these Dict spaces
(`C02_comm_model`, `C02_super_model`).

**Not claimed here.**  gymnasium's / `abmarl.tools.Box`'s `contains` itself is not modelled: the runtime monitor of
`harness/p_c02.py` compares it with `mem` on every dumped pair (op `gmember`).  The packaged example simulations
(`abmarl/examples/sim/*`: their `step`, rewards, hand-written observers, the assembly of the channels into one `Dict`)
have theorems of their own (`examples_observations_in_space` and its likes for the corridor, reach, pacman and
broadcast examples).  The action side of the wrappers is C04 / C05 (round trips) and C06 (the decoded action reaches
the inner simulation).  Outside `WF04` / `WF05`: `ravel` of spaces with `2^63` points or more (finding K3),
`Discrete(start ≠ 0)` (K1), non-`int` integer dtypes (K5).
-/
namespace Abmarl
open World Observers

/-- After a first full reset, every history `ops` of moves, attacks and
further full resets that runs to its end leaves a world in which every observer gives every agent
(active, or dead with its stored position in the grid) an observation inside the declared space —
for every tape.  Hypotheses: those of `C03_reachable` (`CfgOK`, `NoAmmoC`, full resets: what the
constructors guarantee), positive encodings and non-negative initial ammunition (the documented
domain of the agent classes). -/
theorem C02_grid_observations (w0 : World) (cs0 : List StateComp) (t0 : Tape) (ops : List (GOp × Tape))
    (hcfg : CfgOK w0) (hn : NoAmmoC w0) (h0 : FullReset w0 cs0) (hR : ResetsFull w0 ops)
    (henc : ∀ b < w0.n, 0 < w0.encOf b) (hammo : ∀ b < w0.n, 0 ≤ (w0.cfgOf b).initAmmo)
    {w : World} (h : runGOps w0 ((.reset cs0, t0) :: ops) = .ok w)
    (a : Aid) (ha : a < w0.n)
    (hpos : (w.stOf a).active = true ∨ w.inGrid (w.stOf a).pos = true) (k : Kind) (t : Tape) :
    ∃ o t', getObs w a k t = .ok (o, t') ∧ declared w a k o = true := by
  obtain ⟨hF, hI⟩ := reachable_inv hcfg hn ⟨cs0, t0, ops, h0, hR, h⟩
  have ha' : a < w.n := by rw [hF.sameG.n]; exact ha
  have hpos' : w.inGrid (w.stOf a).pos = true := by
    rcases hpos with hact | hp
    · exact observer_inGrid_of_active hI ha' hact
    · exact hp
  exact getObs_declared w a k t hI ha' hpos' (sframe_encPos hF henc) (sframe_ammoNonneg hF hammo a ha')

/-- In every reachable world `w`, every action of the declared action space of each
of the three move actors and of each of the four attack actors, by any active agent, with any tape, is
processed without error; the history extended by that call runs to its end, ends in the world the call
returned, and satisfies the hypotheses again (no new reset), so every further action is covered too. -/
theorem C02_grid_actions (w0 : World) (cs0 : List StateComp) (t0 : Tape) (ops : List (GOp × Tape))
    (hcfg : CfgOK w0) (hn : NoAmmoC w0) (h0 : FullReset w0 cs0) (hR : ResetsFull w0 ops)
    {w : World} (h : runGOps w0 ((.reset cs0, t0) :: ops) = .ok w) :
    (∀ (c : MoveCall) (t : Tape), c.agent < w.n → (w.stOf c.agent).active = true → c.inSpace w = true →
      ∃ o, runMoveCall w c = .ok o ∧
        runGOps w0 ((.reset cs0, t0) :: (ops ++ [(.move c, t)])) = .ok o.post ∧
        ResetsFull w0 (ops ++ [(.move c, t)])) ∧
    (∀ (cfg : AttackCfg) (a : Aid) (act : AttackAct) (t : Tape), a < w.n → (w.stOf a).active = true →
      inSpace cfg w a act = true →
      ∃ st H w' t', processAttack cfg w a act t = .ok ((st, H), w', t') ∧
        runGOps w0 ((.reset cs0, t0) :: (ops ++ [(.attack cfg a act, t)])) = .ok w' ∧
        ResetsFull w0 (ops ++ [(.attack cfg a act, t)])) := by
  obtain ⟨_, hI⟩ := reachable_inv hcfg hn ⟨cs0, t0, ops, h0, hR, h⟩
  -- `reachable_snoc` with `cs0`, `t0`, `ops` kept: the conclusion names the extended history, which `Reachable` hides
  have hext : ∀ (op : GOp) (t : Tape) (w' : World), (∀ cs, op ≠ .reset cs) → runGOp w t op = .ok w' →
      runGOps w0 ((.reset cs0, t0) :: (ops ++ [(op, t)])) = .ok w' ∧ ResetsFull w0 (ops ++ [(op, t)]) := by
    intro op t w' hne hop
    exact ⟨runGOps_snoc (ops := (.reset cs0, t0) :: ops) h hop,
      resetsFull_snoc hR fun cs hc => absurd hc (hne cs)⟩
  constructor
  · intro c t ha hact hsp
    obtain ⟨o, hm⟩ := C12_moves_return w c hI ha hact hsp
    refine ⟨o, hm, hext (.move c) t o.post (fun cs hc => by cases hc) ?_⟩
    simp [runGOp, ha, hact, hsp, hm, Except.map]
  · intro cfg a act t ha hact hsp
    obtain ⟨st, H, w', t', hp, _⟩ := processAttack_returns t hI fun _ => hsp
    refine ⟨st, H, w', t', hp, hext (.attack cfg a act) t w' (fun cs hc => by cases hc) ?_⟩
    simp [runGOp, ha, hact, hp, Except.map]

/-- For every observer kind and option, the null observation the constructor assigns lies in the
space the same constructor declares.  (`0 < rows, cols` is asserted by `build_sim`.) -/
theorem C02_null_observations (w : World) (a : Aid) (k : Kind) (ha : a < w.n)
    (henc : ∀ b < w.n, 0 < w.encOf b) (hrows : 0 < w.rows) (hcols : 0 < w.cols)
    (hammo : 0 ≤ (w.cfgOf a).initAmmo) :
    declared w a k (nullObs w a k) = true :=
  nullObs_declared w a k ha henc hrows hcols hammo

/-- The zero move lies in the action space of each of the three move actors
(for every move range), and the null attack of each of the four attack actors lies in the action space
that actor declares (the attack mapping has the row `s`, a set, for the attacker's encoding — without
one the actor cannot be used by that agent, see `World.inSpace`). -/
theorem C02_null_actions (w : World) (a : Aid) :
    (nullMove a).inSpace w = true ∧ (nullCross a).inSpace w = true ∧ (nullDrift a).inSpace w = true ∧
    ∀ (cfg : AttackCfg) (s : List Int), cfg.mapping.lookup (w.encOf a) = some s → s.Nodup →
      inSpace cfg w a (nullAttack cfg w a) = true :=
  ⟨(nullMove_inSpace w a).1, (nullMove_inSpace w a).2.1, (nullMove_inSpace w a).2.2,
   fun cfg _ hmap hs => nullAttack_inSpace cfg w a hmap hs⟩

/-- in a consistent world (every reachable world is one, `reachable_inv`) the null actions of an active
agent are processed without error -/
theorem C02_null_actions_processed (w : World) (a : Aid) (hI : w.WInv = true) (ha : a < w.n)
    (hact : (w.stOf a).active = true) :
    (∃ o, runMoveCall w (nullMove a) = .ok o) ∧ (∃ o, runMoveCall w (nullCross a) = .ok o) ∧
    (∃ o, runMoveCall w (nullDrift a) = .ok o) ∧
    ∀ (cfg : AttackCfg) (s : List Int) (t : Tape), cfg.mapping.lookup (w.encOf a) = some s → s.Nodup →
      ∃ r, processAttack cfg w a (nullAttack cfg w a) t = .ok r := by
  obtain ⟨h1, h2, h3⟩ := nullMove_inSpace w a
  refine ⟨C12_moves_return w _ hI ha hact h1, C12_moves_return w _ hI ha hact h2, C12_moves_return w _ hI ha hact h3, ?_⟩
  intro cfg s t hmap hs
  obtain ⟨st, H, w', t', hp, _⟩ := processAttack_returns t hI fun _ => nullAttack_inSpace cfg w a hmap hs
  exact ⟨_, hp⟩

/-- `RavelDiscreteWrapper` (C04): a member of the inner space is ravelled to a member of
`ravel_space(inner)` -/
theorem C02_ravel_layer (s : Space) (p : Pt) (hW : WF04 s = true) (hm : mem s p = true) :
    ∃ s' v, ravelSpace s = some s' ∧ ravel s p = some v ∧ mem s' (.scalar (.int v)) = true := by
  obtain ⟨s', p', h1, h2, h3⟩ := ravel_sound s p hW hm
  obtain ⟨v, hv, rfl⟩ := Option.map_eq_some_iff.mp h2
  exact ⟨s', v, h1, hv, h3⟩

/-- `FlattenWrapper` (C05): a member of the inner space is flattened to a member of
`flatten_space(inner)` (`memFlat` = `abmarl.tools.Box.contains` on a one-dimensional array; as a
`Space` the flattened Box is `FlatBox.toSpace`) -/
theorem C02_flatten_layer (s : Space) (p : Pt) (hW : WF05 s = true) (hm : mem s p = true) :
    ∃ a fb, flatten s p = some a ∧ flattenSpace s = some fb ∧ memFlat fb a = true ∧
      mem fb.toSpace (.arr a) = true := by
  obtain ⟨a, fb, h1, h2, h3⟩ := C05_flatten_mem s p hW hm
  exact ⟨a, fb, h1, h2, h3, by rw [toSpace_mem]; exact h3⟩

/-- `CommunicationHandshakeWrapper`: `{'obs': p, 'message_buffer': row}` lies in
`Dict(obs = inner, message_buffer = Dict(other ↦ Discrete(2)))` as soon as `p` lies in the inner
space and the row has exactly one bit per other agent -/
theorem C02_comm_layer (kb ko : Nat) (oth : List Nat) (buffer : List (Nat × Bool)) (s : Space) (p : Pt)
    (hkeys : buffer.map (·.1) = oth) (hm : mem s p = true) :
    mem (commSpace kb ko oth s) (commPt kb ko buffer p) = true :=
  commPt_mem kb ko oth buffer s p hkeys hm

/-- The model of C20 (`commSim`) produces members of `commSpace`: for every wrapped simulation whose (fused)
observations lie in the inner spaces `sp` in the states of an invariant `I` that `get_obs` keeps (the grid observers
give members in `ObsInv` worlds only), in every wrapper state over such an inner state, for every agent -/
theorem C02_comm_model_inv {σ α ι : Type} (S : CommIface σ α Pt ι) (sp : Aid → Space) (kb ko : Nat) (I : σ → Prop)
    (hobs : ∀ s a row, a < S.n → I s → mem (sp a) (S.obsF s a row).1 = true ∧ I (S.obsF s a row).2)
    (c : CState σ) (a : Aid) (ha : a < S.n) (hI : I c.sim) :
    mem (commSpace kb ko (others S.n a) (sp a)) (commPtOf kb ko ((commSim S).obs c a).1) = true ∧
      I ((commSim S).obs c a).2.sim :=
  ⟨commPt_mem kb ko _ _ _ _ (rowDict_keys _ _ _) (hobs _ _ _ ha hI).1, (hobs _ _ _ ha hI).2⟩

/-- with no invariant: the observations lie in the inner spaces in every inner state -/
theorem C02_comm_model {σ α ι : Type} (S : CommIface σ α Pt ι) (sp : Aid → Space) (kb ko : Nat)
    (hobs : ∀ s a row, a < S.n → mem (sp a) (S.obsF s a row).1 = true)
    (c : CState σ) (a : Aid) (ha : a < S.n) :
    mem (commSpace kb ko (others S.n a) (sp a)) (commPtOf kb ko ((commSim S).obs c a).1) = true :=
  (C02_comm_model_inv S sp kb ko (fun _ => True) (fun s a row ha _ => ⟨hobs s a row ha, trivial⟩) c a ha trivial).1

/-- `SuperAgentWrapper`: `{'mask': {c: [bit]}, c: obs_c}` lies in
`Dict(mask = Dict(c ↦ MultiBinary(1)), c ↦ space_c)` as soon as every covered agent's entry lies in
that agent's space -/
theorem C02_super_layer (km : Nat) (sp : Nat → Space) (items : List (Nat × Bool × Pt))
    (h : ∀ i ∈ items, mem (sp i.1) i.2.2 = true) :
    mem (superSpace km (items.map (·.1)) sp)
      (superPt km (items.map fun i => (i.1, i.2.1)) (items.map fun i => (i.1, i.2.2))) = true :=
  superPt_mem km sp items h

/-- The model of C14 (`supObs`): for every inner simulation whose observations lie in
the declared spaces `sp` (in the states of an invariant `I` that `get_obs` keeps) and whose declared
null observations lie in them too (C19: `finalize` checks it), the observation of every super agent is
a member of its Dict space — mask keys and observation keys are exactly the covered agents, every
entry (a real inner observation or the declared null observation) is a member — and an uncovered
agent's observation is handed through. -/
theorem C02_super_model {σ α ι : Type} (S : SimIface σ α Pt ι) (cfg : SuperCfg Pt) (sp : Aid → Space)
    (km : Nat) (I : σ → Prop)
    (hobs : ∀ s c, I s → mem (sp c) (S.obs s c).1 = true ∧ I (S.obs s c).2)
    (hnull : ∀ c o, cfg.usableNull c = some o → mem (sp c) o = true)
    (st : SupSt σ) (hI : I st.sim) :
    (∀ cov, mem (superSpace km cov sp) (superPtOf km (supObs S cfg st (.sup cov)).1) = true ∧
      I (supObs S cfg st (.sup cov)).2.2.sim) ∧
    (∀ a, mem (sp a) (superPtOf km (supObs S cfg st (.unc a)).1) = true ∧
      I (supObs S cfg st (.unc a)).2.2.sim) := by
  refine ⟨fun cov => ?_, fun a => hobs st.sim a hI⟩
  obtain ⟨h1, h2, h3⟩ := supObsLoop_mem S cfg sp I hobs hnull cov st hI
  exact ⟨superPt_mem_of_dicts km sp cov _ _ ((List.map_map ..).trans h1) ((List.map_map ..).trans h1)
    (List.forall_mem_map.mpr h2), h3⟩

/-- any stack of unary layers, each sound on its domain and meeting a space of its domain,
maps a member of the innermost space to a member of the outermost space -/
theorem C02_stack (Ls : List (MLayer × (Space → Prop))) (s : Space) (p : Pt)
    (hS : ∀ Ld ∈ Ls, Ld.1.Sound Ld.2) (hD : stackDom Ls s) (hm : mem s p = true) :
    ∃ s' p', stackRun (Ls.map (·.1)) s p = some (s', p') ∧ mem s' p' = true :=
  stack_sound Ls s p hS hD hm

theorem C02_layers_sound :
    MLayer.ravel.Sound (fun s => WF04 s = true) ∧ MLayer.flatten.Sound (fun s => WF05 s = true) ∧
    ∀ kb ko oth buffer, buffer.map (·.1) = oth → (MLayer.comm kb ko oth buffer).Sound (fun _ => True) :=
  ⟨ravel_sound, flatten_sound, fun kb ko oth buffer h => comm_sound kb ko oth buffer h⟩

/-- instance: `CommunicationHandshakeWrapper(RavelDiscreteWrapper(sim))` — communication over ravel -/
theorem C02_stack_ravel_comm (s : Space) (p : Pt) (hW : WF04 s = true) (hm : mem s p = true)
    (kb ko : Nat) (oth : List Nat) (buffer : List (Nat × Bool)) (hkeys : buffer.map (·.1) = oth) :
    ∃ s' p', stackRun [MLayer.ravel, MLayer.comm kb ko oth buffer] s p = some (s', p') ∧ mem s' p' = true :=
  C02_stack [(MLayer.ravel, fun s => WF04 s = true), (MLayer.comm kb ko oth buffer, fun _ => True)] s p
    (List.forall_mem_cons.mpr ⟨ravel_sound,
      List.forall_mem_cons.mpr ⟨comm_sound kb ko oth buffer hkeys, nofun⟩⟩)
    ⟨hW, fun _ _ => ⟨trivial, fun _ _ => trivial⟩⟩ hm

/-- instance: `FlattenWrapper(CommunicationHandshakeWrapper(sim))` — flatten over communication (the
augmented space must be flattenable: `WF05`) -/
theorem C02_stack_comm_flatten (s : Space) (p : Pt) (hm : mem s p = true)
    (kb ko : Nat) (oth : List Nat) (buffer : List (Nat × Bool)) (hkeys : buffer.map (·.1) = oth)
    (hW : WF05 (commSpace kb ko oth s) = true) :
    ∃ s' p', stackRun [MLayer.comm kb ko oth buffer, MLayer.flatten] s p = some (s', p') ∧ mem s' p' = true :=
  C02_stack [(MLayer.comm kb ko oth buffer, fun _ => True), (MLayer.flatten, fun s => WF05 s = true)] s p
    (List.forall_mem_cons.mpr ⟨comm_sound kb ko oth buffer hkeys,
      List.forall_mem_cons.mpr ⟨flatten_sound, nofun⟩⟩)
    ⟨trivial, fun s' hs' => by
      simp only [MLayer.comm, Option.some.injEq] at hs'
      subst hs'
      exact ⟨hW, fun _ _ => trivial⟩⟩ hm

/-- what `declared` says of a grid view: an array of the declared shape (`rows × cols` for the absolute
view, `(2R+1)²` for the centred one) whose entries lie between −2 and the largest encoding -/
theorem declared_grid_reading (w : World) (a : Aid) (k : Kind) (g : List (List Int)) (hn : 0 < w.n) :
    declared w a k (.grid g) = true ↔
      (k = .absolute ∧ Observers.TabP w.rows w.cols (fun _ _ (v : Int) => -2 ≤ v ∧ v ≤ Observers.maxEnc w) g) ∨
      (∃ os, k = .centered os ∧
        Observers.TabP (2*(w.cfgOf a).viewRange+1) (2*(w.cfgOf a).viewRange+1)
          (fun _ _ (v : Int) => -2 ≤ v ∧ v ≤ Observers.maxEnc w) g) := by
  cases k <;>
    simp [declared, topEnc_eq w hn, inBox2, specTab_iff, Bool.and_eq_true, decide_eq_true_eq]

/-- what `declared` says of a position: inside `[0, rows−1] × [0, cols−1]`; of an ammunition value: inside `[0, initial]` -/
theorem declared_vec_scalar_reading (w : World) (a : Aid) (p : Pos) (v : Int) :
    (declared w a .position (.vec p) = true ↔
      0 ≤ p.1 ∧ p.1 ≤ (w.rows : Int) - 1 ∧ 0 ≤ p.2 ∧ p.2 ≤ (w.cols : Int) - 1) ∧
    (declared w a .ammo (.scalar v) = true ↔ 0 ≤ v ∧ v ≤ (w.cfgOf a).initAmmo) := by
  simp [declared, Bool.and_eq_true, decide_eq_true_eq, and_assoc]

/-! ## Non-vacuity: a 2×3 world, a full reset, a move, an attack that kills, observations -/

/-- as the constructors leave it: nobody placed; agent 0 observes, moves, attacks (range 1, full
strength) and has ammunition, agent 1 (encoding 2) is its victim -/
def exW02 : World :=
  { rows := 2, cols := 3, overlap := [],
    cells := [[], [], [], [], [], []],
    cfg := [{ enc := 1, observing := true, viewRange := 1, moving := true, moveRange := 1,
              attacking := true, attackRange := 1, strength := 1, accuracy := 1, simAttacks := 1,
              hasAmmo := true, initAmmo := 2, initPos := some (0, 0), initHealth := some 1 },
            { enc := 2, initPos := some (1, 2), initHealth := some (1/2), observing := true, viewRange := 0 }],
    st := [{}, {}] }

def exCs02 : List StateComp := [.health, .position .position {}, .orient, .ammo]
def exAtk02 : AttackCfg := ⟨.binary, [(1, [2])], false⟩
/-- reset; move right (next to the victim's diagonal); attack: the victim dies -/
def exOps02 : List (GOp × Tape) := [(.move (.move 0 (0, 1)), []), (.attack exAtk02 0 (.count 1), [0, 0, 0])]

theorem exFull02 : FullReset exW02 exCs02 := by
  refine ⟨⟨.position, {}, by simp [exCs02]⟩, by simp [exCs02], by simp [exCs02], by simp [exCs02], by simp [exCs02], ?_⟩
  intro kind o hm
  simp only [exCs02, List.mem_cons, List.not_mem_nil, or_false, reduceCtorEq, false_or,
    StateComp.position.injEq] at hm
  obtain ⟨rfl, rfl⟩ := hm
  decide

/-- on this world: positive encodings, non-negative initial ammunition, and no reset in the history
after the first (which is full: `exFull02`) -/
example : (∀ b < exW02.n, 0 < exW02.encOf b) ∧ (∀ b < exW02.n, 0 ≤ (exW02.cfgOf b).initAmmo) ∧
    ResetsFull exW02 exOps02 := by
  refine ⟨by decide, by decide, ?_⟩
  intro cs t hm
  simp [exOps02] at hm

/-- the history runs to its end: the attacker stands on (0, 1) with one round left, the victim is
dead (on no cell, stored position (1, 2)) -/
example : (match runGOps exW02 ((.reset exCs02, []) :: exOps02) with
    | .ok w => (w.stOf 0).pos == (0, 1) && (w.stOf 0).ammo == 1 && !(w.stOf 1).active &&
               (w.stOf 1).pos == (1, 2) && w.cells == [[], [0], [], [], [], []] && w.WInv
    | .error _ => false) = true := by decide +kernel

/-- in the world it reaches the dead agent still observes inside its declared spaces (absolute
view: everything beyond range 0 masked; the own cell is empty, not −1: the agent is on no cell) -/
example : (match runGOps exW02 ((.reset exCs02, []) :: exOps02) with
    | .ok w =>
      (match getObs w 1 .absolute [] with
       | .ok (o, _) => o == .grid [[-2, -2, -2], [-2, -2, 0]] && declared w 1 .absolute o
       | .error _ => false) &&
      (match getObs w 0 (.centered true) [0] with
       | .ok (o, _) => o == .grid [[-1, -1, -1], [0, 1, 0], [0, 0, 0]] && declared w 0 (.centered true) o
       | .error _ => false) &&
      (match getObs w 0 .ammo [] with
       | .ok (o, _) => o == .scalar 1 && declared w 0 .ammo o
       | .error _ => false)
    | .error _ => false) = true := by decide +kernel

/-- the declared spaces really exclude something: an encoding above the largest one, a wrong shape, a
position outside the grid, more ammunition than the initial amount -/
example : declared exW02 0 .absolute (.grid [[0, 0, 3], [0, 0, 0]]) = false ∧
    declared exW02 0 .absolute (.grid [[0, 0], [0, 0], [0, 0]]) = false ∧
    declared exW02 0 .position (.vec (2, 0)) = false ∧ declared exW02 0 .ammo (.scalar 3) = false ∧
    declared exW02 0 .absolute (nullObs exW02 0 .absolute) = true ∧
    nullObs exW02 0 .stacked = .stack [[[-2, -2], [-2, -2], [-2, -2]], [[-2, -2], [-2, -2], [-2, -2]],
      [[-2, -2], [-2, -2], [-2, -2]]] := by decide

/-- null attacks of the four actors for the example attacker, all in space -/
example : nullAttack ⟨.encoding, [(1, [2])], false⟩ exW02 0 = .perEnc [(2, 0)] ∧
    nullAttack ⟨.selective, [(1, [2])], false⟩ exW02 0 = .grid [0, 0, 0, 0, 0, 0, 0, 0, 0] ∧
    nullAttack ⟨.restricted, [(1, [2])], false⟩ exW02 0 = .cells [0] ∧
    inSpace ⟨.encoding, [(1, [2])], false⟩ exW02 0 (.perEnc [(2, 0)]) = true ∧
    inSpace ⟨.restricted, [(1, [2])], false⟩ exW02 0 (.cells [10]) = false := by decide

/-- a stack on a concrete observation space: `{'position': Box([0,0],[1,2]), 'ammo': Box(0,2,(1,))}`,
ravelled (18 points; the point is number 11), then wrapped by the communication wrapper (two other
agents, one pending message) -/
example : (match stackRun [MLayer.ravel, MLayer.comm 0 1 [5, 7] [(5, false), (7, true)]]
      (.dict [0, 1] [.box [1] [0] [2] true, .box [2] [0, 0] [1, 2] true])
      (.dict [0, 1] [.arr [.int 1], .arr [.int 1, .int 2]]) with
    | some (s', p') =>
      mem s' p' &&
      (p' == .dict [0, 1] [.dict [5, 7] [.scalar (.int 0), .scalar (.int 1)], .scalar (.int 11)]) &&
      (match s' with
       | .dict [0, 1] [.dict [5, 7] [.discrete 2 0, .discrete 2 0], .discrete 18 0] => true
       | _ => false)
    | none => false) = true := by decide

/-- the flattened space of the same Dict as a `Space`, and a super observation over two such agents
(a missing mask entry is rejected) -/
example : (match MLayer.flatten.space (.dict [0, 1] [.box [1] [0] [2] true, .box [2] [0, 0] [1, 2] true]) with
    | some (.box [3] lo hi true) => lo == [0, 0, 0] && hi == [2, 1, 2]
    | _ => false) = true ∧
    mem (superSpace 9 [0, 1] fun _ => .box [1] [0] [2] true)
      (superPt 9 [(0, true), (1, false)] [(0, .arr [.int 2]), (1, .arr [.int 0])]) = true ∧
    mem (superSpace 9 [0, 1] fun _ => .box [1] [0] [2] true)
      (superPt 9 [(0, true)] [(0, .arr [.int 2]), (1, .arr [.int 0])]) = false := by decide

end Abmarl
