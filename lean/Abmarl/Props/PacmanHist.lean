import Abmarl.Props.Pacman
/-!
# `PacmanSim` / `PacmanSimSimple`: the model's own trace passes the judge `PM.specPM` (`pacman_hist`)

The precondition `PM.pmPre` says NOTHING about the steps: any action dicts, steps that raise in the middle of a history.
Each call meets `PM.judge1` by cases on what it did (`PM.Call`), from the invariant of a history (`PM.HistInv`).
-/
namespace Abmarl
namespace PM
open World Ex

/-- what the judge's preconditions say about the constructed world -/
structure PreOK (w0 : World) : Prop where
  cfgok : CfgOK w0
  ammo : AmmoC w0
  noAmmo : NoAmmoC w0
  enc : ∀ b < w0.n, 0 < w0.encOf b
  iammo : ∀ b < w0.n, 0 ≤ (w0.cfgOf b).initAmmo

section call
variable {cfg : Cfg} {w0 : World} {s s' : St} {op : Op} {e : Entry}

theorem judge1_model (hW : PreOK w0) (hc : Call cfg s op e s') (hop : OpOK cfg w0 op) (hG : HistInv cfg w0 s) :
    judge1 cfg w0 ⟨s.ex.w, s.ex.rewards, s.count⟩ op e = true := by
  have hG' := hc.histInv hW.cfgok hW.ammo hW.noAmmo hop hG
  rw [judge1.eq_def]
  cases hc with
  | resetErr => rfl
  | @reset order tape s1 h =>
    obtain ⟨_, hI, hF, _, hc⟩ := reset_goodV hW.cfgok hW.ammo hW.noAmmo hop (s := s.withTape tape) hG.good h
    obtain ⟨_, _, hr, _⟩ := reset_shape h
    simp [entryOf, hI, Ex.frameb_of_sframe hF, hr, hc]
  | stepNone hr => simp [entryOf, hr, ERes.isErr]
  | @step acts tape r hr =>
    obtain ⟨r', hr1, hr2⟩ := step_keys cfg (s.withTape tape) acts r hr
    have hs' : (step cfg (s.withTape tape) acts).1.ex.rewards.isSome = true := by rw [hr1]; rfl
    obtain ⟨_, c2, c3, c4⟩ := step_count cfg (s.withTape tape) acts
    simp only [entryOf, hr, Bool.and_eq_true]
    -- what the judge asks of the world a step leaves is the invariant of the state after it
    refine ⟨⟨⟨⟨(hG'.float hs').1, Ex.frameb_of_sframe ((goodV_some hs').mp hG'.good).1⟩, ?_⟩, ?_⟩, ?_⟩
    · rw [hr1]; simp [hr2]
    · split
      · rw [Bool.and_eq_true]
        exact ⟨decide_eq_true c2, decide_eq_true c3⟩
      · rename_i hsim
        exact beq_iff_eq.mpr (hG'.count (by simpa using hsim))
    · cases hp : stepPre cfg s.ex.w r acts with
      | true =>
        obtain ⟨hn, hI, _⟩ := step_of_stepPre cfg (s.withTape tape) r acts hr hp
        simp [hn, hI]
      | false =>
        cases he : (step cfg (s.withTape tape) acts).2 with
        | none => rfl
        | some g =>
          simp only [Bool.not_false, Bool.true_and, beq_iff_eq]
          exact c4 (by rw [he]; rfl)
  | obsErr => rfl
  | @obs a tape r ks outs t' hr hks ha hout =>
    have hsome : s.ex.rewards.isSome = true := by rw [hr]; rfl
    obtain ⟨hfl, hP⟩ := hG.float hsome
    have hF := ((goodV_some hsome).mp hG.good).1
    have hos : Ex.obsInSpace s.ex.w a ks (mergeObs outs) = true :=
      Ex.outs_obsInSpace (.of_float hfl) ha (hP a ha) (sframe_encPos hF hW.enc)
        (sframe_ammoNonneg hF hW.iammo a ha) hout
    simp only [entryOf, hks, Bool.and_eq_true, beq_iff_eq]
    exact ⟨⟨⟨rfl, rfl⟩, rfl⟩, hos⟩
  | rewErr => rfl
  | rew hr hx => simp [entryOf, hr, hx]
  | done | allDone => cases hr : s.ex.rewards <;> simp [entryOf, getAllDone, hr, Ex.resOfBool, ERes.isErr]

theorem unchanged_model (hc : Call cfg s op e s') : unchangedOnErr ⟨s.ex.w, s.ex.rewards, s.count⟩ op e = true := by
  have herr : ((s.ex.w == s.ex.w) && (s.ex.rewards == s.ex.rewards) && (s.count == s.count)) = true := by
    simp only [beq_self_eq_true, Bool.and_self]
  cases hc with
  | resetErr | obsErr | rewErr => exact herr
  | done | allDone => cases getAllDone cfg s <;> [exact herr; rfl]
  | _ => rfl

end call

theorem specFrom_model {cfg : Cfg} {w0 : World} (hW : PreOK w0) :
    ∀ (ops : List Op) (s : St), (∀ op ∈ ops, OpOK cfg w0 op) → HistInv cfg w0 s →
      specFrom cfg w0 ⟨s.ex.w, s.ex.rewards, s.count⟩ (zipOps ops (runOps cfg s ops).1) = true :=
  fun ops s hops hG =>
    hist_spec (f := runOp cfg) (stop := fun op e => e.res.isErr && (op.isReset || e.rewards.isNone))
      (run := runOps cfg) (spec := specFrom cfg w0) (zip := zipOps)
      (judge := fun j op e => judge1 cfg w0 j op e && unchangedOnErr j op e) (next := fun e => ⟨e.w, e.rewards, e.count⟩)
      (V := fun j s => j = ⟨s.ex.w, s.ex.rewards, s.count⟩) (P := HistInv cfg w0) (Q := OpOK cfg w0)
      -- the six unfolding equations of `runOps`, `zipOps`, `specFrom`, in the order of `hist_spec`'s binders
      (runOps_cons cfg) (fun _ => rfl) (fun _ _ _ _ => rfl) (fun ops => by cases ops <;> rfl)
      (fun _ _ _ _ => rfl) (fun _ => rfl)
      (runOp_histInv hW.cfgok hW.ammo hW.noAmmo)
      (fun j s op hop hG hj => by
        rw [hj, judge1_model hW (runOp_call cfg s op) hop hG, unchanged_model (runOp_call cfg s op)]; rfl)
      (fun s op _ _ _ => by
        obtain ⟨e1, e2, e3⟩ := (runOp_call cfg s op).entry
        rw [e1, e2, e3])
      ops s _ hops hG rfl

theorem pmPre_hyps {cfg : Cfg} {w0 : World} {ops : List Op} (h : pmPre cfg w0 ops = true) :
    PreOK w0 ∧ ∀ op ∈ ops, OpOK cfg w0 op := by
  simp only [pmPre, freshb, Bool.and_eq_true, List.all_eq_true, allAgents, List.mem_range, decide_eq_true_eq,
    Bool.or_eq_true, Bool.not_eq_true'] at h
  obtain ⟨⟨⟨⟨⟨h1, h2⟩, h3⟩, h4⟩, _⟩, h6⟩ := h
  refine ⟨⟨(cfgOKb_iff w0).mp h1, fun a ha hA => ⟨(h2 a ha).1.2, (h2 a ha).2.resolve_left (by rw [hA]; decide)⟩,
    (noAmmoCb_iff w0).mp h3, fun b hb => (h4 b hb).1, fun b hb => (h4 b hb).2⟩, fun op hop => ?_⟩
  have := h6 op hop
  cases op with
  | reset order tape =>
    rw [Bool.and_eq_true] at this
    exact ⟨Ex.resetOK_of_b this.1, (any_isOrient_iff order).mp this.2⟩
  | _ => trivial

/-- the judge rejects a trace whose first call is a `reset` that returned with `step_count ≠ 0` -/
theorem specPM_reset_count {cfg : Cfg} {w0 : World} {tr : List (Op × Entry)} {c : Nat}
    (h : (tr.head?.map fun x => (x.1.isReset, x.2.res.isErr, x.2.count)) = some (true, false, c + 1)) :
    specPM cfg w0 tr = false := by
  cases tr with
  | nil => cases h
  | cons x xs =>
    obtain ⟨op, e⟩ := x
    simp only [List.head?_cons, Option.map_some, Option.some.injEq, Prod.mk.injEq] at h
    obtain ⟨h1, h2, h3⟩ := h
    cases op with
    | reset o t =>
      have hj : judge1 cfg w0 ⟨w0, none, 0⟩ (.reset o t) e = false := by
        unfold judge1
        cases hr : e.res with
        | err g => rw [hr] at h2; cases h2
        | _ => simp [h3]
      simp only [specPM, specFrom, hj, Bool.false_and]
    | _ => cases h1

end PM

/-- **the trace of `PacmanSim` / `PacmanSimSimple` passes its judge**: under the class's precondition `PM.pmPre` (the world as the
constructors leave it: `cfgOKb`, everybody alive with legal vitals, positive encodings, non-negative initial ammunition; the
history starts with a reset; every reset holds a covered placement state, `HealthState` and `OrientationState` in any order —
NOTHING about the steps: ANY action dicts, in the declared spaces or not, for dead agents, walls, ids that do not exist;
steps that RAISE in the middle of the history, which goes on with the state they left) the trace the model computes
satisfies the judge `PM.specPM`, for every configuration (either class), every history and every tape: `WInv` after every
reset, `WInvFloat` after EVERY step (returned or raised), no exception and `WInv` after a step from a `PM.stepPre` state,
every observation in the declared space with exactly the declared keys, read-and-reset rewards, `get_done = get_all_done =
PM.allDoneW`, `step_count` as the class moves it, the key list of the reward dict kept by every step, getters and raising
calls leave what they do not own.  The clause "the history starts with a reset" of `pmPre` is not used by the proof. -/
theorem pacman_hist (cfg : PM.Cfg) (w0 : World) (t0 : Tape) (ops : List PM.Op) (hpre : PM.pmPre cfg w0 ops = true) :
    PM.specPM cfg w0 (PM.zipOps ops (PM.runOps cfg { ex := { w := w0, tape := t0 } } ops).1) = true := by
  obtain ⟨hW, hops⟩ := PM.pmPre_hyps hpre
  exact PM.specFrom_model hW ops { ex := { w := w0, tape := t0 } } hops (PM.histInv_init cfg w0 t0)

/-- a history with everything in it, on the world of the refused teleport: reset; the step after which pacman is ACTIVE and in NO
cell; an observation of that pacman; a step that RAISES (`KeyError` from `grid.remove`); a reward read, both done getters; a
step with an item for an agent that does not exist and an action outside `Discrete(5)` (raises again) -/
def exPMHistOps : List PM.Op :=
  [exPMReset, .step [(0, 1), (1, 0)] [], .obs 0 [], .step [(0, 0), (1, 0)] [], .rew 0, .done 0, .allDone,
   .step [(0, 3), (7, 9)] []]

def exPMHistWorld : World := exPMWorld [(1, [3]), (4, [3, 4]), (3, [1, 4])] 21 (9, 1) (9, 20)

theorem exPMHist_pre : PM.pmPre (exPMCfg false) exPMHistWorld exPMHistOps = true := by decide +kernel

/-- the precondition is inhabited, the trace is the expected one (raised?, `WInv`, `WInvFloat`) … -/
example : PM.pmPre (exPMCfg false) exPMHistWorld exPMHistOps = true ∧
    ((PM.runOps (exPMCfg false) { ex := { w := exPMHistWorld } } exPMHistOps).1.map fun e =>
        (e.res.isErr, e.w.WInv, PM.WInvFloat e.w)) =
      [(false, true, true), (false, false, true), (false, false, true), (true, false, true), (false, false, true),
       (false, false, true), (false, false, true), (true, false, true)] := by
  refine ⟨exPMHist_pre, ?_⟩
  simp only [World.WInv_scan, PM.WInvFloat_scan]
  decide +kernel

/-- … and it passes the judge, by the theorem -/
example : PM.specPM (exPMCfg false) exPMHistWorld
    (PM.zipOps exPMHistOps (PM.runOps (exPMCfg false) { ex := { w := exPMHistWorld } } exPMHistOps).1) = true :=
  pacman_hist (exPMCfg false) exPMHistWorld [] exPMHistOps exPMHist_pre

/-- the judge is not trivially true: the same trace with `step_count` off by one is rejected -/
example : PM.specPM (exPMCfg false) exPMHistWorld
    (PM.zipOps exPMHistOps ((PM.runOps (exPMCfg false) { ex := { w := exPMHistWorld } } exPMHistOps).1.map fun e =>
      { e with count := e.count + 1 })) = false :=
  PM.specPM_reset_count (c := 0) (by decide +kernel)

end Abmarl
