import Abmarl.Lemmas.DoneTrace
import Abmarl.Lemmas.GridInv
/-!
# C17 — Done components and the smart simulation combine them as documented

Models: `Model/Done.lean` (the five built-in done components, branch for branch, with the
`KeyError` of an agent that has no entry in a target mapping) and `Model/Smart.lean`
(`SmartGridWorldSimulation` over abstract components).  Judges and first-order documented
conditions: `Spec/Done.lean`.

**Components** (all worlds, all mappings, all agents; a target mapping is a Python dict, i.e. has
distinct keys — `DoneComp.isDict`, `Doc.IsDict`):
* `C17_done_components` — every getter's outcome satisfies the judge `specDone`/`specAllDone`;
* `C17_done_iff`, `C17_allDone_iff`, `C17_done_error_iff` — the same against the first-order
  documented conditions `Doc.DoneCond`, `Doc.AllDoneCond`;
* `c17_*` — the same, spelled out per component and getter;
* `docDone_none_iff`, `docDone_some_iff`, `docDone_true_iff`, `docAllDone_iff` — the Bool judge
  says what the first-order conditions say;
* `c17_overlap_on_grid`, `c17_overlap_stale_position` — "same stored position" against the grid: the
  same cell for two *active* agents of a consistent world (C03); for an inactive agent the stored
  position is stale and still compared.

**Smart simulation** (every component list — hence every iteration order of the Python sets —
every simulation state type, every `step`, every history):
* `smart_done_any`, `smart_allDone_any` (+ `_total`, `anyLazy_perm`), `smart_obs_merge`,
  `smart_obs_distinct_keys`, `smart_obs_order_irrelevant`, `smart_reset_all`,
  `smart_reward_once`, `smart_reward_second_read_zero`;
* `C17_smart` — the trace of every history satisfies the judge `specSmart`;
* `c17_smartDone_reading`, `c17_smartAllDone_reading` (both from `specAny_reading`),
  `c17_merge_reading`, `c17_resetAll_reading`, `rewardLoop_at` — readings of the judges.
-/
namespace Abmarl
open World Done Doc

theorem inactiveB_iff (w : World) (a : Aid) : w.inactiveB a = true ↔ Inactive w a := by
  simp [inactiveB, Inactive]

theorem samePosB_iff (w : World) (a t : Aid) : w.samePosB a t = true ↔ SamePos w a t := by
  simp [samePosB, SamePos]

theorem docDone_none_iff (c : DoneComp) (w : World) (a : Aid) :
    docDone c w a = none ↔ ¬ HasTarget c a := by
  cases c <;> simp [docDone, HasTarget, ← hasEntry_iff]

theorem some_eq_some_iff {x b : Bool} {P : Prop} (h : x = true ↔ P) :
    some x = some b ↔ (b = true ↔ P) := by
  rw [← h]; cases x <;> cases b <;> simp

theorem docDone_some_iff (c : DoneComp) (w : World) (a : Aid) (b : Bool) :
    docDone c w a = some b ↔ HasTarget c a ∧ (b = true ↔ DoneCond c w a) := by
  cases c with
  | active | oneTeam =>
    simp only [docDone, HasTarget, DoneCond, true_and]
    exact some_eq_some_iff (inactiveB_iff w a)
  | targetOverlap m =>
    simp only [docDone, HasTarget, DoneCond, ← hasEntry_iff, ← samePosB_iff]
    cases hasEntry m a <;> simp [some_eq_some_iff (any_pair_iff m a _)]
  | targetInactive m =>
    simp only [docDone, HasTarget, DoneCond, ← hasEntry_iff, ← inactiveB_iff]
    cases hasEntry m a <;> simp [some_eq_some_iff (any_pair_iff m a _)]
  | targetEncoding m one =>
    simp only [docDone, HasTarget, DoneCond, ← teamDoneB_iff, true_and]
    exact some_eq_some_iff (any_pair_iff m _ _)

theorem docDone_true_iff (c : DoneComp) (w : World) (a : Aid) :
    docDone c w a = some true ↔ HasTarget c a ∧ DoneCond c w a := by
  simp only [docDone_some_iff, true_iff]

theorem docAllDone_iff (c : DoneComp) (w : World) : docAllDone c w = true ↔ AllDoneCond c w := by
  cases c with
  | active =>
    simp only [docAllDone, List.all_eq_true, mem_allAgents, inactiveB_iff, AllDoneCond]
  | oneTeam => exact atMostOneTeamB_iff w
  | targetOverlap m => simp only [docAllDone, List.all_eq_true, samePosB_iff, AllDoneCond]
  | targetInactive m => simp only [docAllDone, List.all_eq_true, inactiveB_iff, AllDoneCond]
  | targetEncoding m one =>
    cases one with
    | true => simp only [docAllDone, if_true, List.any_eq_true, teamDoneB_iff, AllDoneCond]
    | false =>
      simp only [docAllDone, Bool.false_eq_true, if_false, List.all_eq_true, teamDoneB_iff, AllDoneCond]

/-- **C17 (components)**: for every component, configuration with dict mappings, world and agent,
the outcomes of both getters satisfy the judges. -/
theorem C17_done_components (c : DoneComp) (hd : c.isDict = true) (w : World) (a : Aid) :
    specDone c w a (getDone c w a) = true ∧ specAllDone c w (getAllDone c w) = true :=
  ⟨getDone_specDone c w a hd, getAllDone_specAllDone c w hd⟩

/-- `get_done` answers for every agent the documentation speaks about, and answers `True`
exactly under the documented condition -/
theorem C17_done_iff (c : DoneComp) (hd : c.isDict = true) (w : World) (a : Aid)
    (ht : HasTarget c a) : ∃ b, getDone c w a = .ok b ∧ (b = true ↔ DoneCond c w a) := by
  rw [getDone_eq c hd]
  cases hdoc : docDone c w a with
  | none => exact absurd ht ((docDone_none_iff c w a).mp hdoc)
  | some b => exact ⟨b, rfl, ((docDone_some_iff c w a b).mp hdoc).2⟩

/-- the error branch, for every mapping (dict or not): `get_done` raises exactly for an agent
that has no entry in an agent→target mapping, and what it raises is a `KeyError` -/
theorem C17_done_error_iff (c : DoneComp) (w : World) (a : Aid) (e : GErr) :
    getDone c w a = .error e ↔ (e = .keyError ∧ ¬ HasTarget c a) := by
  cases c with
  | active => simp [getDone, HasTarget]
  | oneTeam => simp [getDone, HasTarget]
  | targetEncoding m one =>
    simp only [getDone, HasTarget, not_true_eq_false, and_false, iff_false]
    cases m.lookup (w.encOf a) <;> simp
  | targetOverlap m =>
    simp only [getDone, overlapDone, HasTarget, not_exists, ← lookup_none_iff]
    cases m.lookup a <;> simp [eq_comm]
  | targetInactive m =>
    simp only [getDone, inactiveDone, HasTarget, not_exists, ← lookup_none_iff]
    cases m.lookup a <;> simp [eq_comm]

/-- `get_all_done` never raises and answers `True` exactly under the documented condition -/
theorem C17_allDone_iff (c : DoneComp) (hd : c.isDict = true) (w : World) :
    ∃ b, getAllDone c w = .ok b ∧ (b = true ↔ AllDoneCond c w) :=
  ⟨_, getAllDone_eq c hd w, docAllDone_iff c w⟩

theorem c17_active_done (w : World) (a : Aid) :
    ∃ b, getDone .active w a = .ok b ∧ (b = true ↔ Inactive w a) :=
  C17_done_iff .active rfl w a trivial

theorem c17_active_allDone (w : World) :
    ∃ b, getAllDone .active w = .ok b ∧ (b = true ↔ ∀ a, a < w.n → Inactive w a) :=
  C17_allDone_iff .active rfl w

theorem c17_overlap_done {m : AgentMap} (hd : IsDict m) {a t : Aid} (ht : (a, t) ∈ m) (w : World) :
    ∃ b, getDone (.targetOverlap m) w a = .ok b ∧ (b = true ↔ SamePos w a t) := by
  obtain ⟨b, hb, hiff⟩ := C17_done_iff (.targetOverlap m) ((DoneComp.isDict_iff _).mpr hd) w a ⟨t, ht⟩
  exact ⟨b, hb, hiff.trans (exists_entry_iff hd ht _)⟩

theorem c17_target_done_unmapped (m : AgentMap) (w : World) (a : Aid) (h : ∀ t, (a, t) ∉ m) :
    getDone (.targetOverlap m) w a = .error .keyError ∧
    getDone (.targetInactive m) w a = .error .keyError :=
  ⟨(C17_done_error_iff _ w a _).mpr ⟨rfl, fun ⟨t, ht⟩ => h t ht⟩,
   (C17_done_error_iff _ w a _).mpr ⟨rfl, fun ⟨t, ht⟩ => h t ht⟩⟩

theorem c17_overlap_allDone {m : AgentMap} (hd : IsDict m) (w : World) :
    ∃ b, getAllDone (.targetOverlap m) w = .ok b ∧ (b = true ↔ ∀ p ∈ m, SamePos w p.1 p.2) :=
  C17_allDone_iff (.targetOverlap m) ((DoneComp.isDict_iff _).mpr hd) w

theorem c17_targetInactive_done {m : AgentMap} (hd : IsDict m) {a t : Aid} (ht : (a, t) ∈ m)
    (w : World) : ∃ b, getDone (.targetInactive m) w a = .ok b ∧ (b = true ↔ Inactive w t) := by
  obtain ⟨b, hb, hiff⟩ := C17_done_iff (.targetInactive m) ((DoneComp.isDict_iff _).mpr hd) w a ⟨t, ht⟩
  exact ⟨b, hb, hiff.trans (exists_entry_iff hd ht _)⟩

theorem c17_targetInactive_allDone {m : AgentMap} (hd : IsDict m) (w : World) :
    ∃ b, getAllDone (.targetInactive m) w = .ok b ∧ (b = true ↔ ∀ p ∈ m, Inactive w p.2) :=
  C17_allDone_iff (.targetInactive m) ((DoneComp.isDict_iff _).mpr hd) w

theorem c17_encoding_done {m : EncMap} (hd : IsDict m) (one : Bool) (w : World) {a : Aid}
    {ts : List Int} (ht : (w.encOf a, ts) ∈ m) :
    ∃ b, getDone (.targetEncoding m one) w a = .ok b ∧ (b = true ↔ TeamDone w ts) := by
  obtain ⟨b, hb, hiff⟩ := C17_done_iff (.targetEncoding m one) ((DoneComp.isDict_iff _).mpr hd) w a trivial
  exact ⟨b, hb, hiff.trans (exists_entry_iff hd ht _)⟩

/-- no entry for the agent's encoding: not done, and no `KeyError` -/
theorem c17_encoding_done_unmapped (m : EncMap) (one : Bool) (w : World) (a : Aid)
    (h : ∀ ts, (w.encOf a, ts) ∉ m) : getDone (.targetEncoding m one) w a = .ok false := by
  simp only [getDone]
  rw [(lookup_none_iff m (w.encOf a)).mpr h]

/-- with `sim_ends_if_one_done` -/
theorem c17_encoding_allDone_any {m : EncMap} (hd : IsDict m) (w : World) :
    ∃ b, getAllDone (.targetEncoding m true) w = .ok b ∧ (b = true ↔ ∃ p ∈ m, TeamDone w p.2) :=
  C17_allDone_iff (.targetEncoding m true) ((DoneComp.isDict_iff _).mpr hd) w

/-- without `sim_ends_if_one_done` -/
theorem c17_encoding_allDone_all {m : EncMap} (hd : IsDict m) (w : World) :
    ∃ b, getAllDone (.targetEncoding m false) w = .ok b ∧ (b = true ↔ ∀ p ∈ m, TeamDone w p.2) :=
  C17_allDone_iff (.targetEncoding m false) ((DoneComp.isDict_iff _).mpr hd) w

/-- `OneTeamRemainingDone` inherits `get_done` from `ActiveDone` -/
theorem c17_oneTeam_done (w : World) (a : Aid) :
    ∃ b, getDone .oneTeam w a = .ok b ∧ (b = true ↔ Inactive w a) :=
  C17_done_iff .oneTeam rfl w a trivial

theorem c17_oneTeam_allDone (w : World) :
    ∃ b, getAllDone .oneTeam w = .ok b ∧ (b = true ↔ AtMostOneTeam w) :=
  C17_allDone_iff .oneTeam rfl w

/-- "overlapping" on the grid: in a consistent world (C03) two *active* agents have the same
stored position iff the one stands in the cell of the other -/
theorem c17_overlap_on_grid {w : World} (hI : w.WInv = true) {a t : Aid} (ha : a < w.n)
    (ht : t < w.n) (hact : (w.stOf a).active = true) (htct : (w.stOf t).active = true) :
    SamePos w a t ↔ a ∈ w.cell (w.stOf t).pos := by
  have hPa := ((World.WInv_iff_InvV _).mp hI).placedAt ha hact
  have hPt := ((World.WInv_iff_InvV _).mp hI).placedAt ht htct
  constructor
  · intro h
    unfold SamePos at h
    rw [← h]; exact hPa.mem
  · intro h
    have := hPa.only _ h
    exact (idx_inj hPt.inG hPa.inG this).symm

section smart
variable {σ κ υ : Type} [DecidableEq κ]

omit [DecidableEq κ] in
/-- **`get_done` = lazy `any` over the done components**: `True` iff some component says `True`
and all before it said `False`; `False` iff all say `False`; an exception iff some component
raises it and all before it said `False`. -/
theorem smart_done_any (S : Smart σ κ υ) (s : SmartSt σ) (a : Aid) {ds : List (DoneIface σ)}
    (hds : S.dones = some ds) (ha : a < S.n) :
    (S.getDone s a = .ok true ↔
      ∃ pre d post, ds = pre ++ d :: post ∧ (∀ x ∈ pre, x.getDone s.sim a = .ok false) ∧
        d.getDone s.sim a = .ok true) ∧
    (S.getDone s a = .ok false ↔ ∀ d ∈ ds, d.getDone s.sim a = .ok false) ∧
    (∀ e, S.getDone s a = .error e ↔
      ∃ pre d post, ds = pre ++ d :: post ∧ (∀ x ∈ pre, x.getDone s.sim a = .ok false) ∧
        d.getDone s.sim a = .error e) := by
  rw [S.getDone_eq_anyLazy s a hds ha]
  exact ⟨anyLazy_stop _ _ (by simp) ds, anyLazy_ok_false _ ds,
    fun e => anyLazy_stop _ _ (by simp) ds⟩

omit [DecidableEq κ] in
/-- when no component raises: done iff **any** component reports done -/
theorem smart_done_any_total (S : Smart σ κ υ) (s : SmartSt σ) (a : Aid) {ds : List (DoneIface σ)}
    (hds : S.dones = some ds) (ha : a < S.n) (hok : ∀ d ∈ ds, ∃ b, d.getDone s.sim a = .ok b) :
    ∃ b, S.getDone s a = .ok b ∧ (b = true ↔ ∃ d ∈ ds, d.getDone s.sim a = .ok true) := by
  rw [S.getDone_eq_anyLazy s a hds ha]
  exact anyLazy_total_iff _ ds hok

omit [DecidableEq κ] in
/-- **`get_all_done` = lazy `any` over the done components** -/
theorem smart_allDone_any (S : Smart σ κ υ) (s : SmartSt σ) {ds : List (DoneIface σ)}
    (hds : S.dones = some ds) :
    (S.getAllDone s = .ok true ↔
      ∃ pre d post, ds = pre ++ d :: post ∧ (∀ x ∈ pre, x.getAllDone s.sim = .ok false) ∧
        d.getAllDone s.sim = .ok true) ∧
    (S.getAllDone s = .ok false ↔ ∀ d ∈ ds, d.getAllDone s.sim = .ok false) ∧
    (∀ e, S.getAllDone s = .error e ↔
      ∃ pre d post, ds = pre ++ d :: post ∧ (∀ x ∈ pre, x.getAllDone s.sim = .ok false) ∧
        d.getAllDone s.sim = .error e) := by
  rw [S.getAllDone_eq_anyLazy s hds]
  exact ⟨anyLazy_stop _ _ (by simp) ds, anyLazy_ok_false _ ds,
    fun e => anyLazy_stop _ _ (by simp) ds⟩

omit [DecidableEq κ] in
/-- when no component raises: the simulation is done iff **any** component reports it -/
theorem smart_allDone_any_total (S : Smart σ κ υ) (s : SmartSt σ) {ds : List (DoneIface σ)}
    (hds : S.dones = some ds) (hok : ∀ d ∈ ds, ∃ b, d.getAllDone s.sim = .ok b) :
    ∃ b, S.getAllDone s = .ok b ∧ (b = true ↔ ∃ d ∈ ds, d.getAllDone s.sim = .ok true) := by
  rw [S.getAllDone_eq_anyLazy s hds]
  exact anyLazy_total_iff _ ds hok

/-- the iteration order of the component set does not matter as long as no component raises
(if one does, whether the exception or an earlier `True` is seen depends on the order) -/
theorem anyLazy_perm {δ : Type} (f : δ → Except GErr Bool) {ds ds' : List δ} (hp : ds.Perm ds')
    (hok : ∀ d ∈ ds, ∃ b, f d = .ok b) : anyLazy f ds = anyLazy f ds' := by
  rw [anyLazy_total f ds hok, anyLazy_total f ds' fun d hd => hok d (hp.mem_iff.mpr hd), hp.any_eq]

/-- **`get_obs` merges the channels of all observers**: every channel of every observer appears
exactly once, and carries the value of the last observer (in iteration order) that has it. -/
theorem smart_obs_merge (S : Smart σ κ υ) (s : SmartSt σ) (a : Aid)
    {os : List (σ → Aid → List (κ × υ))} (hos : S.observers = some os) (ha : a < S.n) :
    ∃ o, S.getObs s a = .ok o ∧ (o.map (·.1)).Nodup ∧
      (∀ k, k ∈ o.map (·.1) ↔ ∃ ob ∈ os, k ∈ (ob s.sim a).map (·.1)) ∧
      (∀ k v, (k, v) ∈ o ↔
        ∃ l1 l2, (os.map (fun ob => ob s.sim a)).flatten = l1 ++ (k, v) :: l2 ∧ ∀ p ∈ l2, p.1 ≠ k) := by
  refine ⟨mergeObs (os.map (fun ob => ob s.sim a)), by simp [Smart.getObs, hos, ha],
    nodup_keys_dictOf _, ?_, ?_⟩
  · intro k
    unfold mergeObs
    rw [mem_keys_dictOf]
    simp only [List.mem_map, List.mem_flatten]
    constructor
    · rintro ⟨p, ⟨l, ⟨ob, hob, rfl⟩, hp⟩, rfl⟩
      exact ⟨ob, hob, p, hp, rfl⟩
    · rintro ⟨ob, hob, p, hp, rfl⟩
      exact ⟨p, ⟨_, ⟨ob, hob, rfl⟩, hp⟩, rfl⟩
  · intro k v
    rw [← lastVal_eq_some_iff, ← lookup_dictOf]
    constructor
    · intro h; exact lookup_of_mem_nodup _ (nodup_keys_dictOf _) k v h
    · intro h; exact mem_of_lookup _ _ _ h

/-- observers with pairwise distinct channels (all built-in observers: one fixed key each): the
merged observation is just all their items -/
theorem smart_obs_distinct_keys (outs : List (List (κ × υ)))
    (hk : (outs.flatten.map (·.1)).Nodup) : mergeObs outs = outs.flatten :=
  dictOf_of_nodup _ hk

/-- hence the same set of (channel, value) pairs for every order of the observers -/
theorem smart_obs_order_irrelevant (outs outs' : List (List (κ × υ))) (hp : outs.Perm outs')
    (hk : (outs.flatten.map (·.1)).Nodup) : (mergeObs outs).Perm (mergeObs outs') := by
  have hk' : (outs'.flatten.map (·.1)).Nodup := ((hp.flatten.map _).nodup_iff).mp hk
  rw [smart_obs_distinct_keys outs hk, smart_obs_distinct_keys outs' hk']
  exact hp.flatten

/-- a state component instrumented to log its tag when it is reset -/
def tagged (i : Nat) (f : σ → σ) : σ × List Nat → σ × List Nat := fun p => (f p.1, p.2 ++ [i])

theorem foldl_tagged :
    ∀ (fs : List (σ → σ)) (k : Nat) (x : σ) (log : List Nat),
      ((fs.zipIdx k).map (fun p => tagged p.2 p.1)).foldl (fun x f => f x) (x, log) =
        (fs.foldl (fun x f => f x) x, log ++ List.range' k fs.length)
  | [], _, _, _ => by simp
  | f :: fs, k, x, log => by
    rw [List.zipIdx_cons, List.map_cons, List.foldl_cons, List.foldl_cons]
    simp only [tagged]
    rw [foldl_tagged fs (k + 1) (f x) (log ++ [k])]
    simp [List.range'_succ, List.append_assoc]

omit [DecidableEq κ] in
/-- **`reset` goes through all state components**: for every list of state components (every
iteration order) the new simulation state is their composition in that order; running the same
loop with each component instrumented to log its position yields the log `0, 1, …, k-1` — each
component is reset exactly once; the reward dict is created afresh. -/
theorem smart_reset_all (S : Smart σ κ υ) (s : SmartSt σ) {fs : List (σ → σ)}
    (hfs : S.states = some fs) :
    ∃ s', S.reset s = .ok s' ∧ s'.sim = fs.foldl (fun x f => f x) s.sim ∧
      ((fs.zipIdx.map (fun p => tagged p.2 p.1)).foldl (fun x f => f x) (s.sim, [])
        = (s'.sim, List.range fs.length)) ∧
      (∀ i, i < fs.length → (List.range fs.length).count i = 1) ∧
      s'.rewards = some S.zeroRewards := by
  refine ⟨{ sim := fs.foldl (fun x f => f x) s.sim, rewards := some S.zeroRewards },
    by simp [Smart.reset, hfs], rfl, ?_, ?_, rfl⟩
  · rw [foldl_tagged fs 0 s.sim []]
    simp [List.range_eq_range']
  · intro i hi
    rw [List.count_range, if_pos hi]

/-- what the accruals of one step add to agent `a`'s account -/
def accOf (a : Aid) : List (Aid × Int) → Int
  | [] => 0
  | p :: ps => (if p.1 = a then p.2 else 0) + accOf a ps

/-- what a trace entry hands out to agent `a` -/
def ret1 (a : Aid) (e : SEntry σ κ υ) : Int :=
  match e.op, e.res with
  | .reward b, .int r => if b = a then r else 0
  | _, _ => 0

/-- what a trace entry accrues for agent `a` -/
def acc1 (a : Aid) (e : SEntry σ κ υ) : Int :=
  match e.op, e.res with
  | .step _ acc, .unit => accOf a acc
  | _, _ => 0

def returnedTo (a : Aid) (tr : List (SEntry σ κ υ)) : Int := (tr.map (ret1 a)).sum
def accruedTo (a : Aid) (tr : List (SEntry σ κ υ)) : Int := (tr.map (acc1 a)).sum

/-- what is pending for agent `a` (0 when there is no account) -/
def pendingOf (p : Option (List (Aid × Int))) (a : Aid) : Int :=
  match p with
  | none => 0
  | some r => (r.lookup a).getD 0

def SOp.isReset : SOp σ → Bool
  | .reset => true
  | _ => false

theorem lookup_applyAcc (a : Aid) :
    ∀ (acc r : List (Aid × Int)),
      ((Smart.applyAcc r acc).lookup a).getD 0 = (r.lookup a).getD 0 + accOf a acc
  | [], r => by simp [Smart.applyAcc, accOf]
  | p :: acc, r => by
    unfold Smart.applyAcc
    rw [List.foldl_cons]
    have ih := lookup_applyAcc a acc (dictSet r p.1 ((r.lookup p.1).getD 0 + p.2))
    unfold Smart.applyAcc at ih
    rw [ih, lookup_dictSet]
    simp only [accOf]
    by_cases h : a = p.1
    · subst h; simp; omega
    · have : ¬ p.1 = a := fun e => h e.symm
      simp [h, this]

/-- one call other than `reset` conserves every agent's account -/
theorem Smart.Call.conserve {S : Smart σ κ υ} {s s' : SmartSt σ} {op : SOp σ} {e : SEntry σ κ υ}
    (h : S.Call s op e s') (a : Aid) (hnr : op.isReset = false) :
    ret1 a e + pendingOf s'.rewards a = pendingOf s.rewards a + acc1 a e := by
  cases h with
  | resetErr _ | reset _ => cases hnr
  | step hr _ =>
    simp only [ret1, acc1, pendingOf, hr, lookup_applyAcc]
    omega
  | @rew b r v hr hl =>
    simp only [ret1, acc1, pendingOf, hr, lookup_dictSet]
    by_cases h : b = a
    · subst h; simp [hl]
    · have : ¬ a = b := fun e => h e.symm
      simp [h, this]
  | _ => simp [ret1, acc1]

/-- **the accrued reward is handed out exactly once**: along every interleaving of steps
(accruals), reads and other getters between two resets, for every agent: what was read plus what
is still pending equals what was pending at the start plus what was accrued.  (A reset leaves the
reward dict `zeroRewards`: `smart_reset_all`.) -/
theorem smart_reward_once (S : Smart σ κ υ) (a : Aid) :
    ∀ (ops : List (SOp σ)) (s : SmartSt σ), (∀ op ∈ ops, op.isReset = false) →
      returnedTo a (S.runOps s ops).1 + pendingOf (S.runOps s ops).2.rewards a =
        pendingOf s.rewards a + accruedTo a (S.runOps s ops).1
  | [], s, _ => by simp [Smart.runOps, returnedTo, accruedTo]
  | op :: ops, s, h => by
    have h1 := (S.runOp_call s op).conserve a (h op (by simp))
    have ih := smart_reward_once S a ops (S.runOp s op).2 (fun o ho => h o (by simp [ho]))
    unfold Smart.runOps
    simp only [returnedTo, accruedTo, List.map_cons, List.sum_cons] at ih ⊢
    omega

omit [DecidableEq κ] in
/-- a read directly after a read returns 0: nothing is handed out twice -/
theorem smart_reward_second_read_zero (S : Smart σ κ υ) (s s' : SmartSt σ) (a : Aid) (r : Int)
    (h : S.getReward s a = .ok (r, s')) : ∃ s'', S.getReward s' a = .ok (0, s'') := by
  unfold Smart.getReward at h
  cases hr : s.rewards with
  | none => simp [hr] at h
  | some d =>
    cases hl : d.lookup a with
    | none => simp [hr, hl] at h
    | some v =>
      simp only [hr, hl, Except.ok.injEq, Prod.mk.injEq] at h
      obtain ⟨_, rfl⟩ := h
      exact ⟨{ sim := s.sim, rewards := some (dictSet (dictSet d a 0) a 0) },
        by simp [Smart.getReward, lookup_dictSet]⟩

variable [DecidableEq υ]

/-- **C17 (smart simulation)**: for every simulation state type, every smart simulation built
from built-in done components (with dict mappings), any observers and any state components, in
any iteration order, every initial state without a reward dict, every `step` behaviour and every
interleaving of resets, steps and reads, the trace satisfies the judge `specSmart`. -/
theorem C17_smart (S : Smart σ κ υ) (F : SmartFacts σ) (hA : Agrees S F) (s0 : SmartSt σ)
    (h0 : s0.rewards = none) (ops : List (SOp σ)) :
    specSmart F (S.runOps s0 ops).1 = true := by
  unfold specSmart specRewardOnce
  rw [Bool.and_eq_true]
  refine ⟨specSmartEntries_runOps S F hA ops s0, ?_⟩
  rw [← hA.n, ← hA.learning]
  exact rewardLoop_runOps S ops s0 none (by rw [h0]; exact .none)

theorem specAny_reading {docs : List (Option Bool)} {out : Except GErr Bool}
    (h : specAny docs out = true) :
    (∀ b, out = .ok b → (b = true ↔ some true ∈ docs)) ∧ (∀ e, out = .error e → none ∈ docs) := by
  unfold specAny at h
  constructor
  · rintro b rfl
    rw [beq_iff_eq.mp h, List.any_eq_true]
    exact ⟨fun ⟨d, hd, hdt⟩ => beq_iff_eq.mp hdt ▸ hd, fun hm => ⟨_, hm, beq_self_eq_true _⟩⟩
  · rintro e rfl
    obtain ⟨d, hd, hdn⟩ := List.any_eq_true.mp h
    exact Option.isNone_iff_eq_none.mp hdn ▸ hd

/-- a `Bool` answer is the disjunction of the documented answers; an exception is excused only
by a component for which the documents prescribe nothing (an agent without a target) -/
theorem c17_smartDone_reading {cs : List DoneComp} {w : World} {a : Aid} {out : Except GErr Bool}
    (h : specSmartDone cs w a out = true) :
    (∀ b, out = .ok b → (b = true ↔ ∃ c ∈ cs, HasTarget c a ∧ DoneCond c w a)) ∧
    (∀ e, out = .error e → ∃ c ∈ cs, ¬ HasTarget c a) := by
  obtain ⟨h1, h2⟩ := specAny_reading h
  simp only [List.mem_map, docDone_true_iff, docDone_none_iff] at h1 h2
  exact ⟨h1, h2⟩

/-- the simulation is reported done iff some component's documented condition holds; never an
exception -/
theorem c17_smartAllDone_reading {cs : List DoneComp} {w : World} {out : Except GErr Bool}
    (h : specSmartAllDone cs w out = true) :
    ∃ b, out = .ok b ∧ (b = true ↔ ∃ c ∈ cs, AllDoneCond c w) := by
  obtain ⟨h1, h2⟩ := specAny_reading h
  cases out with
  | error e => simpa using h2 e rfl
  | ok b =>
    refine ⟨b, rfl, (h1 b rfl).trans ?_⟩
    simp only [List.mem_map, Option.some.injEq, docAllDone_iff]

/-- what `specMerge` asks, first order (of the model the converse of the last clause holds too:
`smart_obs_merge`) -/
theorem c17_merge_reading {outs : List (List (κ × υ))} {merged : List (κ × υ)}
    (h : specMerge outs merged = true) :
    (merged.map (·.1)).Nodup ∧
    (∀ k, k ∈ merged.map (·.1) ↔ ∃ o ∈ outs, k ∈ o.map (·.1)) ∧
    (∀ k v, (k, v) ∈ merged →
      ∃ l1 l2, outs.flatten = l1 ++ (k, v) :: l2 ∧ ∀ p ∈ l2, p.1 ≠ k) := by
  simp only [specMerge, Bool.and_eq_true, decide_eq_true_eq, List.all_eq_true, beq_iff_eq] at h
  obtain ⟨⟨hn, hval⟩, hkeys⟩ := h
  refine ⟨hn, ?_, ?_⟩
  · intro k
    constructor
    · intro hk
      obtain ⟨p, hp, rfl⟩ := List.mem_map.mp hk
      have := hval p hp
      obtain ⟨l1, l2, hsplit, _⟩ := (lastVal_eq_some_iff p.1 p.2 _).mp this
      have hmem : (p.1, p.2) ∈ outs.flatten := by rw [hsplit]; simp
      obtain ⟨o, ho, hpo⟩ := List.mem_flatten.mp hmem
      exact ⟨o, ho, List.mem_map.mpr ⟨_, hpo, rfl⟩⟩
    · rintro ⟨o, ho, hk⟩
      obtain ⟨p, hp, rfl⟩ := List.mem_map.mp hk
      exact hkeys p (List.mem_flatten.mpr ⟨o, ho, hp⟩)
  · intro k v hkv
    exact (lastVal_eq_some_iff k v _).mp (hval (k, v) hkv)

omit [DecidableEq κ] [DecidableEq υ] in
theorem c17_resetAll_reading {k : Nat} {calls : List Nat} (h : specResetAll k calls = true) :
    calls.length = k ∧ ∀ i, i < k → calls.count i = 1 := by
  simp only [specResetAll, Bool.and_eq_true, beq_iff_eq, List.all_eq_true, List.mem_range] at h
  exact h

/-- reference ledger before entry `i` of a trace -/
def ledgerAt (n : Nat) (exp : Option (List Int)) (tr : List (SEntry σ κ υ)) (i : Nat) :
    Option (List Int) := (tr.take i).foldl (ledgerNext n) exp

omit [DecidableEq κ] [DecidableEq υ] in
/-- `specRewardOnce` means: at every entry a read returns what the reference ledger holds for
the reader, and the accumulators seen after the call are the reference ledger after it -/
theorem rewardLoop_at (n : Nat) (learning : Aid → Bool) :
    ∀ (tr : List (SEntry σ κ υ)) (exp : Option (List Int)), rewardLoop n learning exp tr = true →
      ∀ i e, tr[i]? = some e →
        readOk n learning (ledgerAt n exp tr i) e = true ∧
        pendVec n e.pending = (ledgerNext n (ledgerAt n exp tr i) e).map (expVec n learning) := by
  intro tr exp h i e hi
  -- `rewardLoop` has no guard: with `skip` constantly `false` every entry of the trace is checked
  have := guardedLoop_at (skip := fun _ _ => false) (next := ledgerNext n) (loop := rewardLoop n learning)
    (chk := fun g e =>
      readOk n learning g e && (pendVec n e.pending == (ledgerNext n g e).map (expVec n learning)))
    (fun g e es => by simp [rewardLoop, Bool.and_assoc]) tr exp h i e hi (fun _ _ _ _ => rfl)
  simpa [ledgerAt] using this

end smart

/-! ## Non-vacuity and concrete instances

Four agents on a 2×3 grid: `0` (encoding 1) stands on its target `1` (encoding 2, both active,
they may overlap); `2` (encoding 3) is dead and its stale position is the cell of `3`
(encoding 1), which is active. -/

-- the `decide`s below compare `Except` values
deriving instance DecidableEq for Except

def exDoneWorld : World :=
  { rows := 2, cols := 3, overlap := [(1, [2]), (2, [1])],
    cells := [[0, 1], [], [], [], [], [3]],
    cfg := [{ enc := 1 }, { enc := 2 }, { enc := 3 }, { enc := 1 }],
    st := [{ pos := (0, 0) }, { pos := (0, 0) },
           { pos := (1, 2), health := 0, active := false }, { pos := (1, 2) }] }

def exAgentMap : AgentMap := [(0, 1), (3, 2)]
def exEncMap : EncMap := [(1, [3]), (2, [1, 3])]

example : exDoneWorld.WInv = true := by decide +kernel
example : (DoneComp.targetOverlap exAgentMap).isDict = true ∧
    (DoneComp.targetEncoding exEncMap true).isDict = true := by decide

/-- every branch: done / not done / `KeyError`; any versus all -/
example :
    getDone .active exDoneWorld 2 = .ok true ∧ getDone .active exDoneWorld 0 = .ok false ∧
    getAllDone .active exDoneWorld = .ok false ∧
    getDone (.targetOverlap exAgentMap) exDoneWorld 0 = .ok true ∧
    getDone (.targetOverlap exAgentMap) exDoneWorld 1 = .error .keyError ∧
    getDone (.targetInactive exAgentMap) exDoneWorld 0 = .ok false ∧
    getDone (.targetInactive exAgentMap) exDoneWorld 3 = .ok true ∧
    getAllDone (.targetInactive exAgentMap) exDoneWorld = .ok false ∧
    getDone (.targetEncoding exEncMap true) exDoneWorld 0 = .ok true ∧      -- nobody of encoding 3 is active
    getDone (.targetEncoding exEncMap true) exDoneWorld 1 = .ok false ∧     -- encoding 1 is
    getDone (.targetEncoding exEncMap true) exDoneWorld 2 = .ok false ∧     -- encoding 3 has no entry
    getAllDone (.targetEncoding exEncMap true) exDoneWorld = .ok true ∧     -- any team
    getAllDone (.targetEncoding exEncMap false) exDoneWorld = .ok false ∧   -- all teams
    getAllDone .oneTeam exDoneWorld = .ok false ∧
    getAllDone (.targetOverlap []) exDoneWorld = .ok true ∧                 -- `all([])`
    getAllDone (.targetEncoding [] false) exDoneWorld = .ok true ∧          -- `all([])`
    getAllDone (.targetEncoding [] true) exDoneWorld = .ok false := by decide +kernel

/-- **stale positions are compared**: agent `3` is active and alone in its
cell, its target `2` is dead and *not on the grid*, yet `TargetAgentOverlapDone` reports `3` done
because the dead agent's stored position was never cleared -/
theorem c17_overlap_stale_position :
    getDone (.targetOverlap exAgentMap) exDoneWorld 3 = .ok true ∧
    (exDoneWorld.stOf 2).active = false ∧ 2 ∉ exDoneWorld.cell (exDoneWorld.stOf 2).pos ∧
    getAllDone (.targetOverlap exAgentMap) exDoneWorld = .ok true := by decide +kernel

/-! a concrete smart simulation: simulation state = world; two done components; two observers
sharing channel `1`; two state components the second of which revives agent `2` -/

def exSmart : Smart World Nat Int :=
  { n := 4, learning := fun a => a == 0 || a == 3,
    dones := some ([.active, .targetOverlap exAgentMap].map (DoneComp.iface id)),
    observers := some [fun _ a => [(0, (a : Int)), (1, 10)], fun _ _ => [(1, 20), (2, 30)]],
    states := some [fun w => w, fun w => w.setHealth 2 1] }

def exFacts : SmartFacts World :=
  { n := 4, learning := fun a => a == 0 || a == 3,
    comps := some [.active, .targetOverlap exAgentMap], nObs := some 2, nStates := some 2,
    worldOf := id }

example : Agrees exSmart exFacts :=
  ⟨rfl, rfl, rfl, by intro cs h c hc; cases h; revert c; decide, rfl, rfl⟩

def exSmartOps : List (SOp World) :=
  [.reward 0, .reset, .step id [(0, 5), (3, 2), (0, -1)], .reward 0, .reward 0, .reward 1,
   .obs 3, .done 2, .done 1, .done 3, .allDone, .step (fun w => w.setHealth 0 0) [(3, 1)],
   .done 0, .reset, .reward 3]

/-- results as integer codes: 0 unit, 1 r, 2 bool, 3 obs items, 4 KeyError, 5 assertion, 6 other -/
def resCode : SRes Nat Int → List Int
  | .unit => [0]
  | .int r => [1, r]
  | .bool b => [2, if b then 1 else 0]
  | .obs o => 3 :: o.flatMap (fun p => [(p.1 : Int), p.2])
  | .err .keyError => [4]
  | .err .assertion => [5]
  | .err _ => [6]

/-- reads: error before the first reset; 4 = 5 − 1 once, then 0; `KeyError` for a non-learning
agent; observation: channel 1 from the later observer; agents 2 (revived by the reset) and 1 are
active and have no target (`KeyError` after `ActiveDone` said `False`); agent 3 is at its
target's position; so is agent 0, hence the simulation is done; after agent 0 died `ActiveDone`
answers first; the second reset drops agent 3's unread reward -/
example :
    (exSmart.runOps { sim := exDoneWorld } exSmartOps).1.map (fun e => resCode e.res) =
      [[6], [0], [0], [1, 4], [1, 0], [4], [3, 0, 3, 1, 20, 2, 30], [4], [4], [2, 1], [2, 1],
       [0], [2, 1], [0], [1, 0]] ∧
    specSmart exFacts (exSmart.runOps { sim := exDoneWorld } exSmartOps).1 = true := by
  decide +kernel

end Abmarl
