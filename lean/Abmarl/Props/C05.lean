import Abmarl.Lemmas.Flatten
import Abmarl.Lemmas.ListAux
/-!
# C05 — Flattening round-trips and lands inside the flattened Box

The model is `Model/Spaces.lean` (`flatdim`, `flatten`, `unflatten`, `flattenSpace` written after
`flatten_wrapper.py`; array elements are `Num = int | flt`, `np.concatenate` promotes to float
as soon as one part is float, `unflatten` casts a Box leaf back to the leaf's dtype and keeps
the array's dtype for a Discrete / MultiBinary / MultiDiscrete leaf).  The decidable
specifications are `specFlatten`, `specRoundTrip`, `specFlatSpace` in `Spec/Spaces.lean`, the proofs
are in `Lemmas/Flatten.lean`.

Every theorem is for **every** space `s` with `WF05 s` (any nesting of Discrete, MultiBinary,
MultiDiscrete, `int` Box and float Box inside Dict / Tuple) and **every** member `p`.  `WF05`
excludes `Discrete(start ≠ 0)` (finding K1), integer Boxes whose dtype is not `int`
(finding K5), unbounded Boxes, and spaces without cells or children.
-/
namespace Abmarl

/-- the flattened point has as many entries as the space's flat dimension -/
theorem C05_flatten_length (s : Space) (p : Pt) (hW : WF05 s = true) (hm : mem s p = true) :
    ∃ a, flatten s p = some a ∧ a.length = flatdim s := by
  obtain ⟨a, h1, h2⟩ := flatten_ok s p hW hm
  exact ⟨a, h1, h2.len⟩

/-- the flattened Box is integer-typed exactly when every leaf space is, and has one pair of
bounds per flat dimension -/
theorem C05_flattenSpace_int_iff (s : Space) (hW : WF05 s = true) :
    ∃ fb, flattenSpace s = some fb ∧ (fb.kind ≠ .f ↔ allLeavesInt s = true) ∧
      (fb.kind = .i64 ↔ allLeavesInt s = true) ∧
      fb.lo.length = flatdim s ∧ fb.hi.length = flatdim s := by
  obtain ⟨fb, h1, h2, h3, h4⟩ := flattenSpace_ok s hW
  refine ⟨fb, h1, ?_, ?_, h3, h4⟩ <;> rw [h2] <;> cases allLeavesInt s <;> simp

/-- the flattened point is a member of the flattened Box -/
theorem C05_flatten_mem (s : Space) (p : Pt) (hW : WF05 s = true) (hm : mem s p = true) :
    ∃ a fb, flatten s p = some a ∧ flattenSpace s = some fb ∧ memFlat fb a = true := by
  obtain ⟨a, h1, h2⟩ := flatten_ok s p hW hm
  obtain ⟨fb, g1, g2⟩ := h2.memFlat hW
  exact ⟨a, fb, h1, g1, g2⟩

/-- unflattening the flattened point returns a point with the same structure and values -/
theorem C05_unflatten_flatten (s : Space) (p : Pt) (hW : WF05 s = true) (hm : mem s p = true) :
    ∃ a q, flatten s p = some a ∧ unflatten s a = some q ∧ ptEqv q p = true := by
  obtain ⟨a, h1, h2⟩ := flatten_ok s p hW hm
  obtain ⟨q, g1, g2, _⟩ := h2.round
  exact ⟨a, q, h1, g1, g2⟩

/-- in an integer-typed space unflattening returns the very same point, hence a member -/
theorem C05_int_roundtrip_mem (s : Space) (p : Pt) (hW : WF05 s = true) (hm : mem s p = true)
    (hi : allLeavesInt s = true) :
    ∃ a, flatten s p = some a ∧ unflatten s a = some p ∧ mem s p = true := by
  obtain ⟨a, h1, h2⟩ := flatten_ok s p hW hm
  obtain ⟨q, g1, _, g3⟩ := h2.round
  exact ⟨a, h1, g3 hi ▸ g1, hm⟩

/-- the flattened point of an integer-typed space is integer-typed, of any other space
float-typed: the array's dtype follows the flattened Box's -/
theorem C05_flatten_dtype (s : Space) (p : Pt) (hW : WF05 s = true) (hm : mem s p = true) :
    ∃ a, flatten s p = some a ∧ a.all Num.isInt = allLeavesInt s := by
  obtain ⟨a, h1, h2⟩ := flatten_ok s p hW hm
  exact ⟨a, h1, h2.tags⟩

/-! ## What the specifications say (readings of the decidable predicates) -/

/-- the `true` of the outcome is the real `in` of the flattened Box -/
theorem specFlatten_reading (s : Space) (p : Pt) (out : Option (List Num × Bool)) :
    specFlatten s p out = true ↔
      ∃ a fb q, out = some (a, true) ∧ a.length = flatdim s ∧
        flattenSpace s = some fb ∧ memFlat fb a = true ∧
        unflatten s a = some q ∧ ptEqv q p = true ∧ (allLeavesInt s = true → q = p) := by
  rcases out with _ | ⟨a, b⟩
  · simp [specFlatten]
  -- the ∃ over the outcome goes first: while `a` is bound on the right, `unflatten s a` cannot be
  -- split or rewritten there; only then the inner calls and the judge
  · simp only [Option.some.injEq, Prod.mk.injEq, and_assoc, exists_and_left, exists_eq_left']
    cases hf : flattenSpace s <;> cases hu : unflatten s a <;>
      simp only [specFlatten, hf, hu, Bool.and_eq_true, bimp_iff, beq_iff_eq, decide_eq_true_eq,
        Option.some.injEq, Bool.and_false, Bool.false_eq_true, and_false, false_and,
        exists_false, reduceCtorEq, exists_eq_left', and_assoc]
    exact and_left_comm

/-- `isIn` is gymnasium's answer to `q in space` (asked for an integer space only) -/
theorem specRoundTrip_reading (s : Space) (p : Pt) (out : Option (Pt × Int)) :
    specRoundTrip s p out = true ↔
      ∃ q isIn, out = some (q, isIn) ∧ ptEqv q p = true ∧
        (allLeavesInt s = true → q = p ∧ mem s q = true ∧ isIn = 1) := by
  rcases out with _ | ⟨q, i⟩
  · simp [specRoundTrip]
  · simp only [specRoundTrip, Bool.and_eq_true, bimp_iff, beq_iff_eq, decide_eq_true_eq, Option.some.injEq,
      Prod.mk.injEq, and_assoc, exists_and_left, exists_eq_left']

theorem specFlatSpace_reading (s : Space) (out : Option (FlatBox × Nat)) :
    specFlatSpace s out = true ↔
      ∃ fb d, out = some (fb, d) ∧ (fb.kind ≠ .f ↔ allLeavesInt s = true) ∧ d = flatdim s ∧
        fb.lo.length = d ∧ fb.hi.length = d := by
  rcases out with _ | ⟨fb, d⟩
  · simp [specFlatSpace]
  · simp only [specFlatSpace, Bool.and_eq_true, beq_iff_eq, decide_eq_true_eq, Option.some.injEq,
      Prod.mk.injEq, and_assoc, exists_and_left, exists_eq_left']
    rw [Bool.eq_iff_iff, decide_eq_true_eq]

/-! ## The model's outcome satisfies each specification (what the driver self-tests) -/

theorem C05_specFlatten (s : Space) (p : Pt) (hW : WF05 s = true) (hm : mem s p = true) :
    specFlatten s p (outFlatten s p) = true := by
  obtain ⟨a, h1, h2⟩ := flatten_ok s p hW hm
  obtain ⟨fb, g1, g2⟩ := h2.memFlat hW
  obtain ⟨q, u1, u2, u3⟩ := h2.round
  exact (specFlatten_reading s p _).mpr
    ⟨a, fb, q, by simp only [outFlatten, h1, g1, g2], h2.len, g1, g2, u1, u2, u3⟩

theorem C05_specRoundTrip (s : Space) (p : Pt) (hW : WF05 s = true) (hm : mem s p = true) :
    specRoundTrip s p (outRoundTrip s p (allLeavesInt s)) = true := by
  obtain ⟨a, h1, h2⟩ := flatten_ok s p hW hm
  obtain ⟨q, u1, u2, u3⟩ := h2.round
  refine (specRoundTrip_reading s p _).mpr
    ⟨q, if allLeavesInt s then (if mem s q then 1 else 0) else 2, by simp only [outRoundTrip, h1, u1], u2,
      fun hi => ?_⟩
  obtain rfl := u3 hi
  simp only [hi, if_true, hm, and_self]

theorem C05_specFlatSpace (s : Space) (hW : WF05 s = true) :
    specFlatSpace s (outFlatSpace s) = true := by
  obtain ⟨fb, h1, h2, h3, h4⟩ := flattenSpace_ok s hW
  refine (specFlatSpace_reading s _).mpr ⟨fb, _, by simp only [outFlatSpace, h1], ?_, rfl, h3, h4⟩
  rw [h2]
  cases allLeavesInt s <;> simp

/-- the clause of `ptEqv` for arrays -/
theorem valsEq_iff (a b : List Num) : valsEq a b = true ↔ a.map Num.val = b.map Num.val := by
  induction a generalizing b with
  | nil => cases b <;> simp [valsEq]
  | cons x xs ih =>
    cases b with
    | nil => simp [valsEq]
    | cons y ys => simp [valsEq, ih]

/-! ## Non-vacuity: a nested space with every leaf kind, unequal child dimensions, a float Box
with per-cell dyadic bounds inside a Dict inside a Tuple, and an all-integer sibling. -/

def exSpace05 : Space :=
  .tuple [.discrete 3 0,
          .dict [1, 4] [.fbox [2] [-3/2, 0] [3/2, 1/4], .multiBinary 3],
          .box [2, 1] [-1, 0] [1, 1] true,
          .multiDiscrete [2, 5]]

def exPoint05 : Pt :=
  .tuple [.scalar (.int 2),
          .dict [1, 4] [.arr [.flt (1/2), .flt (1/4)], .arr [.int 1, .int 0, .int 1]],
          .arr [.int (-1), .int 1],
          .arr [.int 1, .int 4]]

def exSpace05i : Space :=
  .tuple [.discrete 3 0, .dict [1, 4] [.multiBinary 3, .box [2, 1] [-1, 0] [1, 1] true], .multiDiscrete [2, 5]]

def exPoint05i : Pt :=
  .tuple [.scalar (.int 2), .dict [1, 4] [.arr [.int 1, .int 0, .int 1], .arr [.int (-1), .int 1]],
          .arr [.int 1, .int 4]]

example : WF05 exSpace05 = true ∧ mem exSpace05 exPoint05 = true ∧ allLeavesInt exSpace05 = false ∧
    flatdim exSpace05 = 10 := by decide +kernel
example : flatten exSpace05 exPoint05 =
    some [.flt 2, .flt (1/2), .flt (1/4), .flt 1, .flt 0, .flt 1, .flt (-1), .flt 1, .flt 1, .flt 4] := by
  decide +kernel
/-- the unflattened point is *not* a member of a mixed space (the Discrete entry came back as a
float): membership is claimed for integer spaces only -/
example : (match outRoundTrip exSpace05 exPoint05 true with
    | some (q, isIn) => ptEqv q exPoint05 && decide (isIn = 0) && !(q == exPoint05)
    | none => false) = true := by decide +kernel
example : specFlatten exSpace05 exPoint05 (outFlatten exSpace05 exPoint05) = true ∧
    specRoundTrip exSpace05 exPoint05 (outRoundTrip exSpace05 exPoint05 false) = true ∧
    specFlatSpace exSpace05 (outFlatSpace exSpace05) = true := by decide +kernel
example : WF05 exSpace05i = true ∧ mem exSpace05i exPoint05i = true ∧ allLeavesInt exSpace05i = true ∧
    specFlatten exSpace05i exPoint05i (outFlatten exSpace05i exPoint05i) = true ∧
    specRoundTrip exSpace05i exPoint05i (outRoundTrip exSpace05i exPoint05i true) = true ∧
    specFlatSpace exSpace05i (outFlatSpace exSpace05i) = true := by decide +kernel
/-- K1: the flattened point of `Discrete(3, start=1)` lies outside the flattened Box -/
example : WF05 (.discrete 3 1) = false ∧ mem (.discrete 3 1) (.scalar (.int 3)) = true ∧
    specFlatten (.discrete 3 1) (.scalar (.int 3)) (outFlatten (.discrete 3 1) (.scalar (.int 3))) = false := by
  decide +kernel
/-- K5: a narrow integer Box inside a Tuple makes the flattened Box float although every leaf
is integer-typed -/
example : WF05 (.tuple [.box [1] [0] [1] false, .discrete 2 0]) = false ∧
    specFlatSpace (.tuple [.box [1] [0] [1] false, .discrete 2 0])
      (outFlatSpace (.tuple [.box [1] [0] [1] false, .discrete 2 0])) = false := by decide +kernel

end Abmarl
