import Abmarl.Lemmas.AttacksMain
/-!
# C11 — Attacks hit only eligible agents, within limits, with exact bookkeeping

The model is `Model/Attacks.lean` (`processAttack`: `AttackActorBaseComponent.process_action` with
`_basic_criteria`, `_subset_attackables`, the ammunition filter and the sequential health loop,
and `_determine_attack` of the four actors, with the exact order of tape consumption); the
decidable specification is `AttackSpec` in `Spec/Attacks.lean` (= `specWho && specHowMany &&
specBook`), written from the property text over positions, flags and the C10 shadow rule.  The
statements also use `AttackOK`, `attackOutcome` (what the judge sees) and `runAttacks` of this file and
`SelOK`, `eligList`, `totalExpected` of `Lemmas/AttacksSel.lean`.

`attackOK_of_inSpace` and its instances `binary_spec` … `restricted_spec` are for **all** worlds
satisfying the C03 invariant `WInv`, all attackers, all actions of the actor's action space, all
attack mappings / stacked flags / ranges / strengths / accuracies / ammunition levels and **all
tapes** (= all random draws).  `attack_frame`, `attack_preserves_WInv_any` and `successive_attacks`
are for `WInv` worlds and **any** action, also outside the action space, whenever the call returns.
`C11_attacks` and `C03_attacks` have no hypothesis: the judges `specC11`, `specC03Attack` hold the
precondition themselves.  `c11_*` and `healthAfter_eq` are readings: what the Bool predicate says,
clause by clause.

Hits on a victim that an earlier hit of the same call already killed (possible with stacked
attacks only) are listed among the hits and cost ammunition, but do not change the victim: the
specification counts the hits a victim takes **while alive** (`healthAfter`); for strengths
`0 ≤ s` this is the closed form `max 0 (h − m·s)` over all `m` hits (`healthAfter_eq`).
-/
namespace Abmarl
open World

/-- the call returns, its outcome satisfies `AttackSpec`, and the world after it `WInv` -/
def AttackOK (cfg : AttackCfg) (w : World) (a : Aid) (act : AttackAct) (t : Tape) : Prop :=
  ∃ st H w' t', processAttack cfg w a act t = .ok ((st, H), w', t') ∧
    AttackSpec cfg w a act H w' = true ∧ w'.WInv = true

theorem determineAttack_sound {cfg : AttackCfg} {w : World} {a : Aid} {act : AttackAct}
    (hI : w.WInv = true) (hsp : inSpace cfg w a act = true) (t : Tape) :
    ∃ st L t1, determineAttack cfg w a act t = .ok ((st, L), t1) ∧ SelOK cfg w a act L := by
  unfold inSpace at hsp
  cases hmap : cfg.mapping.lookup (w.encOf a) with
  | none => rw [hmap] at hsp; cases hsp
  | some s =>
    rw [hmap] at hsp
    -- an action of another actor's shape is outside the space: four cases remain
    cases hk : cfg.kind <;> cases act <;>
      simp only [hk, Bool.and_eq_true, decide_eq_true_eq, List.all_eq_true, List.any_eq_true, beq_iff_eq,
        Bool.false_eq_true] at hsp <;>
      simp only [determineAttack, hk]
    · exact determineBinary_sound hI hmap hk _ hsp t
    · exact determineEncoding_sound hI hmap hk _ hsp.1.1 (fun p hp => (hsp.1.2 p hp).2) hsp.2 t
    · exact determineSelective_sound hI hmap hk _ hsp.1 hsp.2 t
    · exact determineRestricted_sound hI hmap hk _ hsp.1 hsp.2 t

/-- **C11** for every actor: on a consistent world a call with an action of the actor's action
space returns, and its outcome satisfies `AttackSpec` and the invariant -/
theorem attackOK_of_inSpace {cfg : AttackCfg} {w : World} {a : Aid} {act : AttackAct}
    (hI : w.WInv = true) (hsp : inSpace cfg w a act = true) (t : Tape) : AttackOK cfg w a act t := by
  by_cases hatt : (w.cfgOf a).attacking = true
  · obtain ⟨st, L, t1, hdet, sel⟩ := determineAttack_sound hI hsp t
    obtain ⟨H, w', t', hp, hs, hI'⟩ := processAttack_of_SelOK hI hatt hdet sel
    exact ⟨st, H, w', t', hp, hs, hI'⟩
  · have hatt' : (w.cfgOf a).attacking = false := by simpa using hatt
    obtain ⟨hp, hs⟩ := processAttack_not_attacking (cfg := cfg) act t hatt'
    exact ⟨false, [], w, t, hp, hs, hI⟩

/-- **C11, BinaryAttackActor**: the instance `.count k` of `attackOK_of_inSpace`, which uses `hI` and `hsp`
only (`hsp` forces the kind; `ha` and the activity of the attacker play no part) -/
theorem binary_spec (cfg : AttackCfg) (w : World) (a : Aid) (k : Nat) (t : Tape)
    (hkind : cfg.kind = .binary) (hI : w.WInv = true) (ha : a < w.n)
    (_hact : (w.stOf a).active = true) (hsp : inSpace cfg w a (.count k) = true) :
    AttackOK cfg w a (.count k) t :=
  attackOK_of_inSpace hI hsp t

/-- **C11, EncodingBasedAttackActor**; `l` = the items of the action dictionary in iteration
order (any order) -/
theorem encoding_spec (cfg : AttackCfg) (w : World) (a : Aid) (l : List (Int × Nat)) (t : Tape)
    (hkind : cfg.kind = .encoding) (hI : w.WInv = true) (ha : a < w.n)
    (_hact : (w.stOf a).active = true) (hsp : inSpace cfg w a (.perEnc l) = true) :
    AttackOK cfg w a (.perEnc l) t :=
  attackOK_of_inSpace hI hsp t

/-- **C11, SelectiveAttackActor**; `l` = the `(2R+1)×(2R+1)` array, row-major -/
theorem selective_spec (cfg : AttackCfg) (w : World) (a : Aid) (l : List Nat) (t : Tape)
    (hkind : cfg.kind = .selective) (hI : w.WInv = true) (ha : a < w.n)
    (_hact : (w.stOf a).active = true) (hsp : inSpace cfg w a (.grid l) = true) :
    AttackOK cfg w a (.grid l) t :=
  attackOK_of_inSpace hI hsp t

/-- **C11, RestrictedSelectiveAttackActor**; `l` = the list of cell numbers (0 = unused) -/
theorem restricted_spec (cfg : AttackCfg) (w : World) (a : Aid) (l : List Nat) (t : Tape)
    (hkind : cfg.kind = .restricted) (hI : w.WInv = true) (ha : a < w.n)
    (_hact : (w.stOf a).active = true) (hsp : inSpace cfg w a (.cells l) = true) :
    AttackOK cfg w a (.cells l) t :=
  attackOK_of_inSpace hI hsp t

/-- the outcome as the driver reports it -/
def attackOutcome (cfg : AttackCfg) (w : World) (a : Aid) (act : AttackAct) (t : Tape) :
    Except GErr ((Bool × List Aid) × World) :=
  (processAttack cfg w a act t).map fun r => (r.1, r.2.1)

/-- `attackOK_of_inSpace` under the judge's hypotheses `attackPre` (of which it uses `WInv` and `inSpace`) -/
theorem attackOK_all (cfg : AttackCfg) (w : World) (a : Aid) (act : AttackAct) (t : Tape)
    (hpre : attackPre cfg w a act = true) : AttackOK cfg w a act t := by
  simp only [attackPre, Bool.and_eq_true] at hpre
  exact attackOK_of_inSpace hpre.1.1.1 hpre.2 t

/-- **C11**, in the form the judge evaluates: for every actor kind, mapping, stacked flag, world,
attacker, action and tape, the model's outcome passes `specC11` -/
theorem C11_attacks (cfg : AttackCfg) (w : World) (a : Aid) (act : AttackAct) (t : Tape) :
    specC11 cfg w a act (attackOutcome cfg w a act t) = true := by
  unfold specC11
  by_cases hpre : attackPre cfg w a act = true
  · obtain ⟨st, H, w', t', hp, hs, _⟩ := attackOK_all cfg w a act t hpre
    simp only [attackOutcome, hp, Except.map, hs, Bool.or_true]
  · simp [hpre]

/-- **nothing else changes**: whenever a call returns — any actor, any action (inside the action
space or not), any tape — an attacking agent's call satisfies the bookkeeping clause `specBook`
(ammunition, victims' health and activity, dead victims leave their cell, every other agent and
cell untouched, static part untouched), and a call by an agent that cannot attack changes
nothing at all -/
theorem attack_frame (cfg : AttackCfg) (w : World) (a : Aid) (act : AttackAct) (t : Tape)
    (hI : w.WInv = true) (ha : a < w.n) {st : Bool} {H : List Aid} {w' : World} {t' : Tape}
    (h : processAttack cfg w a act t = .ok ((st, H), w', t')) :
    ((w.cfgOf a).attacking = true → specBook w a H w' = true) ∧
    ((w.cfgOf a).attacking = false → H = [] ∧ w' = w) :=
  processAttack_book hI h

/-- the C03 invariant is kept by every call that returns: no hypothesis on the attacker, the
action or the tape -/
theorem attack_preserves_WInv_any (cfg : AttackCfg) (w : World) (a : Aid) (act : AttackAct) (t : Tape)
    (hI : w.WInv = true) :
    ∀ r w' t', processAttack cfg w a act t = .ok (r, w', t') → w'.WInv = true :=
  fun _ w' _ h => (WInv_iff_InvV w').mpr (processAttack_inv (fun _ => rfl) ((WInv_iff_InvV w).mp hI) h).1

/-- **attacks preserve the C03 invariant**, stated with the step hypotheses of the other actors;
none of the three is needed (`attack_preserves_WInv_any`) -/
theorem attack_preserves_WInv (cfg : AttackCfg) (w : World) (a : Aid) (act : AttackAct) (t : Tape)
    (h : w.WInv = true) (_ha : a < w.n) (_hact : (w.stOf a).active = true)
    (_hsp : inSpace cfg w a act = true) :
    ∀ r w' t', processAttack cfg w a act t = .ok (r, w', t') → w'.WInv = true :=
  attack_preserves_WInv_any cfg w a act t h

/-- **C03 (attack part)**, in the form the judge evaluates -/
theorem C03_attacks (cfg : AttackCfg) (w : World) (a : Aid) (act : AttackAct) (t : Tape) :
    specC03Attack cfg w a act (attackOutcome cfg w a act t) = true := by
  unfold specC03Attack
  by_cases hI : w.WInv = true
  · simp only [hI, Bool.not_true, Bool.false_or]
    cases hp : processAttack cfg w a act t with
    | ok r =>
      obtain ⟨r, w', t'⟩ := r
      simp only [attackOutcome, hp, Except.map]
      exact attack_preserves_WInv_any cfg w a act t hI r w' t' hp
    | error e =>
      simp only [attackOutcome, hp, Except.map, Bool.not_eq_true']
      by_cases hpre : attackPre cfg w a act = true
      · obtain ⟨st, H, w', t', hp', _⟩ := attackOK_all cfg w a act t hpre
        rw [hp] at hp'; cases hp'
      · simpa using hpre
  · simp [hI]

structure AttackCall where
  cfg : AttackCfg
  a   : Aid
  act : AttackAct

/-- run a sequence of attacks (any actors, attackers, actions), threading world and tape; a call
that raises stops the run -/
def runAttacks : World → List AttackCall → Tape → Except GErr (World × Tape)
  | w, [], t => .ok (w, t)
  | w, c :: cs, t =>
    match processAttack c.cfg w c.a c.act t with
    | .error e => .error e
    | .ok (_, w', t') => runAttacks w' cs t'

/-- **successive attacks**: the invariant holds after any sequence of attacks, so each call of
the sequence starts from a world to which the theorems above apply (deaths and ammunition
depletion of earlier calls included) -/
theorem successive_attacks (w : World) (cs : List AttackCall) (t : Tape) (hI : w.WInv = true) :
    ∀ w' t', runAttacks w cs t = .ok (w', t') → w'.WInv = true := by
  fun_induction runAttacks w cs t with
  | case1 w t => intro w' t' h; cases h; exact hI
  | case2 w c cs t e hp => intro w' t' h; cases h
  | case3 w c cs t r w1 t1 hp ih => exact ih (attack_preserves_WInv_any c.cfg w c.a c.act t hI r w1 t1 hp)

theorem AttackSpec_parts {cfg : AttackCfg} {w : World} {a : Aid} {act : AttackAct} {hits : List Aid}
    {w' : World} (h : AttackSpec cfg w a act hits w' = true) (hatt : (w.cfgOf a).attacking = true) :
    specWho cfg w a act hits = true ∧ specHowMany cfg w a act hits = true ∧ specBook w a hits w' = true := by
  unfold AttackSpec at h
  rw [if_pos hatt] at h
  simp only [Bool.and_eq_true] at h
  exact ⟨h.1.1, h.1.2, h.2⟩

/-- an agent that cannot attack hits nobody and changes nothing -/
theorem c11_not_attacking {cfg : AttackCfg} {w : World} {a : Aid} {act : AttackAct} {hits : List Aid}
    {w' : World} (h : AttackSpec cfg w a act hits w' = true) (hatt : (w.cfgOf a).attacking = false) :
    hits = [] ∧ w' = w := by
  unfold AttackSpec at h
  rw [hatt] at h
  simpa using h

/-- **who**: every hit is a real agent other than the attacker, currently active, of an encoding
the attack mapping allows, within the attack range in both directions, and not hidden by any
active blocking agent (rule of C10, `Mask.hiddenBySpec_iff`) -/
theorem c11_hits_eligible {cfg : AttackCfg} {w : World} {a : Aid} {act : AttackAct} {hits : List Aid}
    {w' : World} (h : AttackSpec cfg w a act hits w' = true) (hatt : (w.cfgOf a).attacking = true) :
    ∀ b ∈ hits, b < w.n ∧ b ≠ a ∧ (w.stOf b).active = true ∧ mayAttack cfg.mapping w a b = true ∧
      (-((w.cfgOf a).attackRange : Int) ≤ (w.offs a b).1 ∧ (w.offs a b).1 ≤ (w.cfgOf a).attackRange) ∧
      (-((w.cfgOf a).attackRange : Int) ≤ (w.offs a b).2 ∧ (w.offs a b).2 ≤ (w.cfgOf a).attackRange) ∧
      Mask.hiddenBySpec (w.cfgOf a).attackRange (w.specBlockers a) (w.offs a b).1 (w.offs a b).2 = false := by
  intro b hb
  obtain ⟨h1, hel, _⟩ := (specWho_iff cfg w a act hits).mp (AttackSpec_parts h hatt).1 b hb
  simp only [eligible, Bool.and_eq_true, bne_iff_ne, ne_eq, Mask.inWin_iff, Bool.not_eq_true'] at hel
  obtain ⟨⟨⟨⟨⟨h2, h3⟩, h4⟩, h5⟩, h6⟩, h7⟩ := hel
  exact ⟨h1, h2, h3, h4, h5, h6, h7⟩

/-- C11, the part a caller of the actor needs: in a world of the invariant the call of an agent whose attack — if it can
attack at all — is a point of its action space returns, and lists agents of the simulation only -/
theorem World.processAttack_returns {cfg : AttackCfg} {w : World} {a : Aid} {act : AttackAct} (t : Tape)
    (hI : w.WInv = true) (hsp : (w.cfgOf a).attacking = true → inSpace cfg w a act = true) :
    ∃ st H w' t', processAttack cfg w a act t = .ok ((st, H), w', t') ∧ ∀ v ∈ H, v < w.n := by
  by_cases hatt : (w.cfgOf a).attacking = true
  · obtain ⟨st, H, w', t', hp, hs, _⟩ := attackOK_of_inSpace hI (hsp hatt) t
    exact ⟨st, H, w', t', hp, fun v hv => (c11_hits_eligible hs hatt v hv).1⟩
  · exact ⟨false, [], w, t, (processAttack_not_attacking act t (by simpa using hatt)).1, fun _ h => by cases h⟩

/-- every hit belongs to a group the action addresses with a positive count -/
theorem c11_hits_targeted {cfg : AttackCfg} {w : World} {a : Aid} {act : AttackAct} {hits : List Aid}
    {w' : World} (h : AttackSpec cfg w a act hits w' = true) (hatt : (w.cfgOf a).attacking = true) :
    ∀ b ∈ hits, ∃ g ∈ attackGroups cfg w a act, g.mem b = true ∧ 0 < g.lim :=
  fun b hb => ((specWho_iff cfg w a act hits).mp (AttackSpec_parts h hatt).1 b hb).2.2

/-- **cell targeting, Selective**: the array entry of the victim's window cell — row
`winRow`, column `winCol` counted from the top left, read row-major — is positive -/
theorem c11_cell_targeted_selective {cfg : AttackCfg} {w : World} {a : Aid} {l : List Nat}
    {hits : List Aid} {w' : World} (h : AttackSpec cfg w a (.grid l) hits w' = true)
    (hatt : (w.cfgOf a).attacking = true) (hk : cfg.kind = .selective) :
    ∀ b ∈ hits, 0 < l.getD (w.winRow a b * (2 * (w.cfgOf a).attackRange + 1) + w.winCol a b) 0 := by
  intro b hb
  obtain ⟨g, hg, hm, hl⟩ := c11_hits_targeted h hatt b hb
  rw [attackGroups_selective w a l hk, List.mem_map] at hg
  obtain ⟨⟨i, j⟩, _, rfl⟩ := hg
  rw [selGroup, cellMem_iff] at hm
  rw [hm.1, hm.2]; exact hl

/-- **cell targeting, RestrictedSelective**: some entry `k ≥ 1` of the action names the victim's
window cell: row `(k−1) / W`, column `(k−1) % W` — cell numbers count row by row from the top
left -/
theorem c11_cell_targeted_restricted {cfg : AttackCfg} {w : World} {a : Aid} {l : List Nat}
    {hits : List Aid} {w' : World} (h : AttackSpec cfg w a (.cells l) hits w' = true)
    (hatt : (w.cfgOf a).attacking = true) (hk : cfg.kind = .restricted) :
    ∀ b ∈ hits, ∃ k ∈ l, 1 ≤ k ∧ (k - 1) / (2 * (w.cfgOf a).attackRange + 1) = w.winRow a b ∧
      (k - 1) % (2 * (w.cfgOf a).attackRange + 1) = w.winCol a b := by
  intro b hb
  obtain ⟨g, hg, hm, hl⟩ := c11_hits_targeted h hatt b hb
  rw [attackGroups_restricted w a l hk, List.mem_map] at hg
  obtain ⟨⟨i, j⟩, _, rfl⟩ := hg
  obtain ⟨k, hkl, hn⟩ := List.countP_pos_iff.mp hl
  rw [names_iff, ← ((cellMem_iff w a i j b).mp hm).1, ← ((cellMem_iff w a i j b).mp hm).2] at hn
  exact ⟨k, hkl, hn⟩

/-- **limits**: no group receives more hits than the action spends on it, nor more than
`simultaneous_attacks` (the groups of each actor: `attackGroups`, Spec/Attacks.lean) -/
theorem c11_limits {cfg : AttackCfg} {w : World} {a : Aid} {act : AttackAct} {hits : List Aid}
    {w' : World} (h : AttackSpec cfg w a act hits w' = true) (hatt : (w.cfgOf a).attacking = true) :
    ∀ g ∈ attackGroups cfg w a act, hits.countP g.mem ≤ g.lim ∧ hits.countP g.mem ≤ (w.cfgOf a).simAttacks := by
  intro g hg
  have hm := ((specHowMany_iff cfg w a act hits).mp (AttackSpec_parts h hatt).2.1).1 g hg
  exact ⟨hm.1, hm.2.1⟩

theorem c11_binary_limit {cfg : AttackCfg} {w : World} {a : Aid} {k : Nat} {hits : List Aid}
    {w' : World} (h : AttackSpec cfg w a (.count k) hits w' = true)
    (hatt : (w.cfgOf a).attacking = true) (hk : cfg.kind = .binary) :
    hits.length ≤ k ∧ hits.length ≤ (w.cfgOf a).simAttacks := by
  have := c11_limits h hatt ⟨fun _ => true, k⟩ (by rw [attackGroups_binary w a k hk]; simp)
  simpa using this

theorem c11_encoding_limit {cfg : AttackCfg} {w : World} {a : Aid} {l : List (Int × Nat)}
    {hits : List Aid} {w' : World} (h : AttackSpec cfg w a (.perEnc l) hits w' = true)
    (hatt : (w.cfgOf a).attacking = true) (hk : cfg.kind = .encoding) :
    ∀ p ∈ l, hits.countP (fun b => w.encOf b == p.1) ≤ p.2 ∧
      hits.countP (fun b => w.encOf b == p.1) ≤ (w.cfgOf a).simAttacks := by
  intro p hp
  exact c11_limits h hatt (encGroup w p) (by rw [attackGroups_encoding w a l hk]; exact List.mem_map_of_mem hp)

/-- Binary and RestrictedSelective: at most `simultaneous_attacks` hits per step in total -/
theorem c11_total_limit {cfg : AttackCfg} {w : World} {a : Aid} {act : AttackAct} {hits : List Aid}
    {w' : World} (h : AttackSpec cfg w a act hits w' = true) (hatt : (w.cfgOf a).attacking = true)
    (hk : cfg.kind = .binary ∨ cfg.kind = .restricted) : hits.length ≤ (w.cfgOf a).simAttacks :=
  ((specHowMany_iff cfg w a act hits).mp (AttackSpec_parts h hatt).2.1).2.1 hk

/-- no agent is hit twice unless stacked attacks are enabled -/
theorem c11_no_repeat {cfg : AttackCfg} {w : World} {a : Aid} {act : AttackAct} {hits : List Aid}
    {w' : World} (h : AttackSpec cfg w a act hits w' = true) (hatt : (w.cfgOf a).attacking = true)
    (hst : cfg.stacked = false) : hits.Nodup :=
  ((specHowMany_iff cfg w a act hits).mp (AttackSpec_parts h hatt).2.1).2.2.1 hst

/-- **full accuracy**: with accuracy 1 and enough ammunition for the `totalExpected` hits, every
group receives exactly `expected`: `min limit eligible` without stacking, `limit` with stacking
when somebody is eligible — no available eligible target is skipped while attacks remain; and the
total is `min ammunition totalExpected` even when the ammunition is short -/
theorem c11_full_accuracy {cfg : AttackCfg} {w : World} {a : Aid} {act : AttackAct} {hits : List Aid}
    {w' : World} (h : AttackSpec cfg w a act hits w' = true) (hatt : (w.cfgOf a).attacking = true)
    (hacc : 1 ≤ (w.cfgOf a).accuracy) :
    (((w.cfgOf a).hasAmmo = false ∨ (totalExpected cfg w a act : Int) ≤ (w.stOf a).ammo) →
      ∀ g ∈ attackGroups cfg w a act,
        hits.countP g.mem = expected cfg.stacked g.lim ((eligList cfg w a).countP g.mem)) ∧
    hits.length = (if (w.cfgOf a).hasAmmo then min (w.stOf a).ammo.toNat (totalExpected cfg w a act)
                   else totalExpected cfg w a act) := by
  have hm := (specHowMany_iff cfg w a act hits).mp (AttackSpec_parts h hatt).2.1
  exact ⟨fun hen g hg => (hm.1 g hg).2.2 hacc hen, hm.2.2.2 hacc⟩

theorem expected_reading (lim E : Nat) :
    expected false lim E = min lim E ∧ expected true lim E = if E = 0 then 0 else lim := ⟨rfl, rfl⟩

/-- **ammunition**: at least as much as there are hits, exactly that many less afterwards, never
below zero -/
theorem c11_ammo {cfg : AttackCfg} {w : World} {a : Aid} {act : AttackAct} {hits : List Aid}
    {w' : World} (h : AttackSpec cfg w a act hits w' = true) (hatt : (w.cfgOf a).attacking = true)
    (hammo : (w.cfgOf a).hasAmmo = true) :
    (hits.length : Int) ≤ (w.stOf a).ammo ∧ (w'.stOf a).ammo = (w.stOf a).ammo - hits.length ∧
      0 ≤ (w'.stOf a).ammo := by
  have hb := ((specBook_iff w a hits w').mp (AttackSpec_parts h hatt).2.2).2.1
  rw [if_pos hammo] at hb
  rw [hb.2]
  exact ⟨hb.1, rfl, by simp only; omega⟩

/-- the attacker itself: nothing but the ammunition changes -/
theorem c11_attacker {cfg : AttackCfg} {w : World} {a : Aid} {act : AttackAct} {hits : List Aid}
    {w' : World} (h : AttackSpec cfg w a act hits w' = true) (hatt : (w.cfgOf a).attacking = true) :
    w'.stOf a = { w.stOf a with ammo := (w'.stOf a).ammo } ∧
      ((w.cfgOf a).hasAmmo = false → w'.stOf a = w.stOf a) := by
  have hb := ((specBook_iff w a hits w').mp (AttackSpec_parts h hatt).2.2).2.1
  by_cases hammo : (w.cfgOf a).hasAmmo = true
  · rw [if_pos hammo] at hb
    rw [hb.2]
    exact ⟨rfl, fun hc => by rw [hammo] at hc; cases hc⟩
  · rw [if_neg hammo] at hb
    rw [hb]
    exact ⟨rfl, fun _ => rfl⟩

/-- **victims**: an agent hit `m ≥ 1` times ends with the health `healthAfter h s m` (each hit
taken while alive lowers it by exactly the strength, clamped), is active iff that is positive,
and nothing else about it changes -/
theorem c11_victim {cfg : AttackCfg} {w : World} {a : Aid} {act : AttackAct} {hits : List Aid}
    {w' : World} (h : AttackSpec cfg w a act hits w' = true) (hatt : (w.cfgOf a).attacking = true)
    {b : Aid} (hb : b < w.n) (hba : b ≠ a) (hm : hits.count b ≠ 0) :
    w'.stOf b = { w.stOf b with
      health := healthAfter (w.stOf b).health (w.cfgOf a).strength (hits.count b),
      active := decide (0 < healthAfter (w.stOf b).health (w.cfgOf a).strength (hits.count b)) } := by
  rw [((specBook_iff w a hits w').mp (AttackSpec_parts h hatt).2.2).2.2.1 b hb hba, if_neg hm]
  rfl

/-- **nobody else changes**: an agent that is neither the attacker nor hit keeps its whole state -/
theorem c11_others_unchanged {cfg : AttackCfg} {w : World} {a : Aid} {act : AttackAct} {hits : List Aid}
    {w' : World} (h : AttackSpec cfg w a act hits w' = true) (hatt : (w.cfgOf a).attacking = true)
    {b : Aid} (hb : b < w.n) (hba : b ≠ a) (hm : b ∉ hits) : w'.stOf b = w.stOf b := by
  rw [((specBook_iff w a hits w').mp (AttackSpec_parts h hatt).2.2).2.2.1 b hb hba,
    if_pos (List.count_eq_zero_of_not_mem hm)]

/-- **the cells**: every cell keeps its occupants, in order, except the victims that are now
inactive; in particular a victim that died stands in no cell, and the static part is untouched -/
theorem c11_cells {cfg : AttackCfg} {w : World} {a : Aid} {act : AttackAct} {hits : List Aid}
    {w' : World} (h : AttackSpec cfg w a act hits w' = true) (hatt : (w.cfgOf a).attacking = true) :
    sameStatic w w' = true ∧
    (∀ i < w.rows * w.cols, w'.cells.getD i [] =
      (w.cells.getD i []).filter fun b => !(decide (b ∈ hits) && !(w'.stOf b).active)) ∧
    (∀ b ∈ hits, (w'.stOf b).active = false → ∀ i < w.rows * w.cols, b ∉ w'.cells.getD i []) := by
  have hbk := (specBook_iff w a hits w').mp (AttackSpec_parts h hatt).2.2
  refine ⟨hbk.1, hbk.2.2.2, ?_⟩
  intro b hb hdead i hi hmem
  rw [hbk.2.2.2 i hi, List.mem_filter] at hmem
  simp [hb, hdead] at hmem

/-- for a strength `0 ≤ s` and a health in `[0, 1]` the hits taken while alive give the closed
form: `m` hits lower the health to `max 0 (h − m·s)` -/
theorem healthAfter_eq (h s : Rat) (m : Nat) (hs : 0 ≤ s) (h0 : 0 ≤ h) (h1 : h ≤ 1) :
    healthAfter h s m = max 0 (h - m * s) := by
  induction m generalizing h with
  | zero => rw [healthAfter, Nat.cast_zero, zero_mul, sub_zero, max_eq_right h0]
  | succ m ih =>
    have hms : 0 ≤ (m : Rat) * s := mul_nonneg (Nat.cast_nonneg m) hs
    rw [healthAfter, hitOnce_eq hs h0 h1,
      ih _ (le_max_left _ _) (max_le zero_le_one ((sub_le_self h hs).trans h1)),
      Nat.cast_succ, add_mul, one_mul]
    -- `max 0 (max 0 (h − s) − m·s) = max 0 (h − (m·s + s))`; both sides are 0 when `h < s`
    by_cases hle : s ≤ h
    · rw [max_eq_right (sub_nonneg.mpr hle), sub_sub, add_comm]
    · have hlt : h - s ≤ 0 := sub_nonpos.mpr (le_of_not_ge hle)
      rw [max_eq_left hlt, max_eq_left (sub_nonpos.mpr hms),
        max_eq_left (by rw [← sub_sub, sub_right_comm]; exact sub_nonpos.mpr (hlt.trans hms))]

/-! ## Non-vacuity (closed examples, by kernel evaluation) -/

/-- the layout of finding F6 (DESIGN.md §11.3): 3×3 grid, attacker (agent 0) in the centre, victims to the right (agent 1 at
(1, 2)) and below (agent 2 at (2, 1)) -/
def f6World : World :=
  { rows := 3, cols := 3, overlap := [],
    cells := [[], [], [], [], [0], [1], [], [2], []],
    cfg := [{ enc := 1, attacking := true, attackRange := 1, strength := 1, accuracy := 1, simAttacks := 1 },
            { enc := 2 }, { enc := 2 }],
    st := [{ pos := (1, 1) }, { pos := (1, 2) }, { pos := (2, 1) }] }

def f6Cfg : AttackCfg := ⟨.restricted, [(1, [2])], false⟩

/-- the hypotheses of the theorems are inhabited -/
example : attackPre f6Cfg f6World 0 (.cells [6]) = true := by decide +kernel

/-- cell number 6 of the 3×3 window is row 1, column 2: the agent to the **right** is hit, dies
and leaves its cell; the agent below is untouched; the outcome passes the judge -/
example :
    (match processAttack f6Cfg f6World 0 (.cells [6]) [] with
     | .ok ((st, hits), w', _) =>
       st && hits == [1] && !(w'.stOf 1).active && ((w'.stOf 1).health == 0) && (w'.stOf 2 == f6World.stOf 2) &&
         (w'.cells == [[], [], [], [], [0], [], [], [2], []]) &&
         AttackSpec f6Cfg f6World 0 (.cells [6]) hits w'
     | .error _ => false) = true := by decide +kernel

/-- the column-by-column reading of finding F6 (DESIGN.md §11.3; the agent **below** is hit) is rejected by the judge -/
example :
    AttackSpec f6Cfg f6World 0 (.cells [6]) [2]
      { f6World with cells := [[], [], [], [], [0], [1], [], [], []],
                     st := [{ pos := (1, 1) }, { pos := (1, 2) }, { pos := (2, 1), health := 0, active := false }] }
      = false := by decide +kernel

/-- stacked Binary attack with ammunition: 2×3 grid, attacker at (0, 0) with 3 rounds, strength
1/2, two simultaneous attacks, range 2; the only eligible victim is agent 1 (health 1/2) at (1, 2) -/
def stackWorld : World :=
  { rows := 2, cols := 3, overlap := [],
    cells := [[0], [], [], [], [], [1]],
    cfg := [{ enc := 1, attacking := true, attackRange := 2, strength := 1/2, accuracy := 1, simAttacks := 2,
              hasAmmo := true, initAmmo := 3 },
            { enc := 2 }],
    st := [{ pos := (0, 0), ammo := 3 }, { pos := (1, 2), health := 1/2 }] }

def stackCfg : AttackCfg := ⟨.binary, [(1, [2])], true⟩

/-- both attacks go to the same victim: the first kills it, the second is listed and paid for
but changes nothing (hits taken while alive); ammunition 3 → 1; the victim leaves the grid -/
example :
    (match processAttack stackCfg stackWorld 0 (.count 2) [0, 5, 7] with
     | .ok ((st, hits), w', _) =>
       st && hits == [1, 1] && ((w'.stOf 0).ammo == 1) && !(w'.stOf 1).active &&
         (w'.cells == [[0], [], [], [], [], []]) && w'.WInv &&
         attackPre stackCfg stackWorld 0 (.count 2) && AttackSpec stackCfg stackWorld 0 (.count 2) hits w'
     | .error _ => false) = true := by decide +kernel

/-- a blocking agent (agent 1 at (0, 1)) hides the victim behind it (agent 2 at (0, 2)) from the
attacker at (0, 0): the Selective attack aimed at both cells hits only the blocker -/
def blockWorld : World :=
  { rows := 1, cols := 3, overlap := [],
    cells := [[0], [1], [2]],
    cfg := [{ enc := 1, attacking := true, attackRange := 2, strength := 1/4, accuracy := 1, simAttacks := 1 },
            { enc := 2, blocking := true }, { enc := 2 }],
    st := [{ pos := (0, 0) }, { pos := (0, 1) }, { pos := (0, 2) }] }

def blockCfg : AttackCfg := ⟨.selective, [(1, [2])], false⟩

def blockAct : AttackAct :=
  .grid [0,0,0,0,0, 0,0,0,0,0, 0,0,0,1,1, 0,0,0,0,0, 0,0,0,0,0]

example :
    (match processAttack blockCfg blockWorld 0 blockAct [] with
     | .ok ((st, hits), w', _) =>
       st && hits == [1] && ((w'.stOf 1).health == 3/4) && (w'.stOf 1).active && (w'.stOf 2 == blockWorld.stOf 2) &&
         attackPre blockCfg blockWorld 0 blockAct && AttackSpec blockCfg blockWorld 0 blockAct hits w'
     | .error _ => false) = true := by decide +kernel

/-- the judge rejects an outcome that hits the hidden agent -/
example :
    AttackSpec blockCfg blockWorld 0 blockAct [2]
      { blockWorld with st := [{ pos := (0, 0) }, { pos := (0, 1) }, { pos := (0, 2), health := 3/4 }] }
      = false := by decide +kernel

end Abmarl
