import Abmarl.Lemmas.ResetForgetsComps
import Abmarl.Props.C03
/-!
# C08 for the grid world — reset forgets

A full reset of a grid-world simulation (a placement state, health, ammunition, orientation — in any
order, on any tape) maps two worlds with the same configuration to the **same** outcome, whatever dynamic
state they had before; so an episode played after a reset is the same seeded episode on a newly built copy.

The model keeps an `ammo` field for agents without ammunition and an `orient` field for agents
without orientation ("ghost" fields: the real agents do not have the attributes; every dump writes
the default).  No component writes them, so they are part of what has to be the same (`SameCfg`);
`ghost_needed` below shows that the clause cannot be dropped.

Neither `wfPlacement` nor the exclusion of `healthClosed` (both in `FullReset`) is needed: the
statement holds for ill-formed placement options (both runs then fail alike) and for the
out-of-domain oracle stream.  Nor need every field group be reset: `Ex.comps_reset_forgets` is the
statement for any components with a placement state among them and worlds that already agree on
the groups these do not reset (`Ex.SameBut`).  `grid_reset_forgets_covers` is its case where no
group is left (`Covers`), `grid_reset_forgets` the instance of that for `FullReset`.
-/
namespace Abmarl
open World

/-- same static part, state lists as long as the configuration, and the same ghost fields -/
structure SameCfg (w1 w2 : World) : Prop where
  rows : w1.rows = w2.rows
  cols : w1.cols = w2.cols
  overlap : w1.overlap = w2.overlap
  cfg : w1.cfg = w2.cfg
  len1 : w1.st.length = w1.cfg.length
  len2 : w2.st.length = w2.cfg.length
  ghostAmmo : ∀ a, (w1.cfgOf a).hasAmmo = false → (w1.stOf a).ammo = (w2.stOf a).ammo
  ghostOrient : ∀ a, (w1.cfgOf a).hasOrient = false → (w1.stOf a).orient = (w2.stOf a).orient

/-- the components reset every field group: a placement state, a health state (either oracle
stream), the ammunition state and the orientation state are among them (any order, repetitions and
several placement states allowed) -/
structure Covers (cs : List StateComp) : Prop where
  pos : ∃ kind o, StateComp.position kind o ∈ cs
  health : StateComp.health ∈ cs ∨ StateComp.healthClosed ∈ cs
  ammo : StateComp.ammo ∈ cs
  orient : StateComp.orient ∈ cs

theorem Covers.of_fullReset {w : World} {cs : List StateComp} (h : FullReset w cs) : Covers cs :=
  ⟨h.1, Or.inl h.2.1, h.2.2.1, h.2.2.2.1⟩

theorem Covers.any {cs : List StateComp} (hc : Covers cs) :
    cs.any StateComp.resetsPos = true ∧ cs.any StateComp.resetsHealth = true ∧
    cs.any StateComp.resetsAmmo = true ∧ cs.any StateComp.resetsOrient = true := by
  obtain ⟨kind, o, hm⟩ := hc.pos
  exact ⟨List.any_eq_true.mpr ⟨_, hm, rfl⟩,
    hc.health.elim (fun hm => List.any_eq_true.mpr ⟨_, hm, rfl⟩) (fun hm => List.any_eq_true.mpr ⟨_, hm, rfl⟩),
    List.any_eq_true.mpr ⟨_, hc.ammo, rfl⟩, List.any_eq_true.mpr ⟨_, hc.orient, rfl⟩⟩

namespace Ex

/-- same configuration (`SameCfg`: static part, ghost fields), and every field group that the
components `cs` do **not** reset is already the same in both worlds.  (`TeamBattleSim` built with
`states={PositionState, HealthState}` has no agent with ammunition or orientation: the last two
clauses then follow from the ghost clauses of `SameCfg`.) -/
structure SameBut (cs : List StateComp) (w1 w2 : World) : Prop where
  cfg : SameCfg w1 w2
  health : cs.any StateComp.resetsHealth = false →
    ∀ a, (w1.stOf a).health = (w2.stOf a).health ∧ (w1.stOf a).active = (w2.stOf a).active
  ammo : cs.any StateComp.resetsAmmo = false → ∀ a, (w1.stOf a).ammo = (w2.stOf a).ammo
  orient : cs.any StateComp.resetsOrient = false → ∀ a, (w1.stOf a).orient = (w2.stOf a).orient

/-- **reset forgets** for any set of state components that contains a placement state: two worlds that
agree on what the components do not own are mapped to the same outcome (the same error, or the same
world and the same remaining tape) — whatever cells and positions, and whatever values of the fields
the components do own, they had before. -/
theorem comps_reset_forgets (cs : List StateComp) (w1 w2 : World) (t : Tape) (h : SameBut cs w1 w2)
    (hp : cs.any StateComp.resetsPos = true) : applyComps cs w1 t = applyComps cs w2 t := by
  -- the flags: the worlds agree on the field groups the components do not reset; not on positions, not on the cells
  have hw : WAgree w1.cfg ⟨fun _ => False, fun _ => cs.any StateComp.resetsHealth = false,
      fun _ => cs.any StateComp.resetsAmmo = false, fun _ => cs.any StateComp.resetsOrient = false⟩ False w1 w2 :=
    ⟨h.cfg.rows, h.cfg.cols, h.cfg.overlap, rfl, h.cfg.cfg.symm, h.cfg.len1, by rw [h.cfg.len2, h.cfg.cfg],
      False.elim, fun a => ⟨False.elim, fun hh => (h.health hh a).1, fun hh => (h.health hh a).2,
        fun hh => hh.elim (h.ammo · a) (h.cfg.ghostAmmo a), fun hh => hh.elim (h.orient · a) (h.cfg.ghostOrient a)⟩⟩
  -- afterwards every group is one they agreed on or one that has been reset
  have e := fun f => (Bool.eq_false_or_eq_true (cs.any f)).symm
  exact (applyComps_agree cs _ _ w1 w2 t hw).eq_of fun r1 r2 hr => Prod.ext
    (hr.1.mono (fun b _ => ⟨fun _ => Or.inr hp, fun _ => e _, fun _ => e _, fun _ => e _⟩) fun _ => Or.inr hp).eq_of_all hr.2

end Ex

/-- **reset forgets** when every field group is reset: two worlds with the same configuration, on
the same tape, get the same outcome — the same error, or the same world and the same remaining
tape.  `Ex.comps_reset_forgets` with no group left to agree on. -/
theorem grid_reset_forgets_covers (cs : List StateComp) (w1 w2 : World) (t : Tape)
    (h : SameCfg w1 w2) (hc : Covers cs) : applyComps cs w1 t = applyComps cs w2 t := by
  obtain ⟨hp, hh, ha, ho⟩ := hc.any
  exact Ex.comps_reset_forgets cs w1 w2 t
    ⟨h, fun e => Bool.noConfusion (hh.symm.trans e), fun e => Bool.noConfusion (ha.symm.trans e),
      fun e => Bool.noConfusion (ho.symm.trans e)⟩ hp

/-- **reset forgets** for a `FullReset` -/
theorem grid_reset_forgets (cs : List StateComp) (w1 w2 : World) (t : Tape) (h : SameCfg w1 w2)
    (hfull : FullReset w1 cs) : applyComps cs w1 t = applyComps cs w2 t :=
  grid_reset_forgets_covers cs w1 w2 t h (Covers.of_fullReset hfull)

/-- **fresh twin** when every field group is reset: an episode played after a reset is indistinguishable from
the same seeded episode on another world of the same configuration — e.g. a newly built copy — for
every history of moves, attacks and further resets (of any kind). -/
theorem grid_fresh_twin_covers (w1 w2 : World) (cs0 : List StateComp) (t0 : Tape)
    (ops : List (GOp × Tape)) (h : SameCfg w1 w2) (h0 : Covers cs0) :
    traceGOps w1 ((.reset cs0, t0) :: ops) = traceGOps w2 ((.reset cs0, t0) :: ops) := by
  simp only [traceGOps, runGOp]
  rw [grid_reset_forgets_covers cs0 w1 w2 t0 h h0]

/-- **fresh twin** for a `FullReset` -/
theorem grid_fresh_twin (w1 w2 : World) (cs0 : List StateComp) (t0 : Tape) (ops : List (GOp × Tape))
    (h : SameCfg w1 w2) (h0 : FullReset w1 cs0) :
    traceGOps w1 ((.reset cs0, t0) :: ops) = traceGOps w2 ((.reset cs0, t0) :: ops) :=
  grid_fresh_twin_covers w1 w2 cs0 t0 ops h (Covers.of_fullReset h0)

/-- the same for the final world of the history -/
theorem grid_fresh_twin_run (w1 w2 : World) (cs0 : List StateComp) (t0 : Tape) (ops : List (GOp × Tape))
    (h : SameCfg w1 w2) (h0 : Covers cs0) :
    runGOps w1 ((.reset cs0, t0) :: ops) = runGOps w2 ((.reset cs0, t0) :: ops) := by
  simp only [runGOps, runGOp]
  rw [grid_reset_forgets_covers cs0 w1 w2 t0 h h0]

/-! ## Non-vacuity: a dirty world and a newly built one -/

/-- a newly built copy of `exDirtyWorld`: empty grid, default dynamic state -/
def exFreshWorld : World :=
  { exDirtyWorld with cells := List.replicate 6 [], st := [{}, {}, {}] }

example : exDirtyWorld ≠ exFreshWorld := by decide +kernel

theorem exSameCfg : SameCfg exDirtyWorld exFreshWorld := by
  refine ⟨rfl, rfl, rfl, rfl, rfl, rfl, ?_, ?_⟩
  -- agents 1 and 2 have no ammunition, agent 1 has no orientation; beyond the listing both worlds
  -- read the default state
  · intro a ha
    rcases a with _ | _ | _ | a
    · exact absurd ha (by decide)
    · rfl
    · rfl
    · rfl
  · intro a ha
    rcases a with _ | _ | _ | a
    · exact absurd ha (by decide)
    · rfl
    · exact absurd ha (by decide)
    · rfl

/-- the hypotheses are met by two different worlds -/
example : SameCfg exDirtyWorld exFreshWorld ∧ FullReset exDirtyWorld exResetComps :=
  ⟨exSameCfg, exDirtyFull⟩

/-- the reset succeeds (the theorem does not merely equate two failures) … -/
example : (applyComps exResetComps exDirtyWorld [3, 1, 4, 1, 5, 9, 2, 6]).toOption.isSome = true := by
  decide +kernel

/-- … and the dirty world's episode is the fresh world's episode, by the theorem -/
example : traceGOps exDirtyWorld ((.reset exResetComps, [3, 1, 4, 1, 5, 9, 2, 6]) :: exHist) =
    traceGOps exFreshWorld ((.reset exResetComps, [3, 1, 4, 1, 5, 9, 2, 6]) :: exHist) :=
  grid_fresh_twin _ _ _ _ _ exSameCfg exDirtyFull

/-- the ghost clause cannot be dropped: agent 1 has no ammunition, the model keeps its `ammo` field,
and no component writes it -/
def exGhostWorld : World :=
  { exFreshWorld with st := [{}, { ammo := 7 }, {}] }

theorem ghost_needed :
    (applyComps exResetComps exFreshWorld [3, 1, 4, 1, 5, 9, 2, 6]).toOption ≠
    (applyComps exResetComps exGhostWorld [3, 1, 4, 1, 5, 9, 2, 6]).toOption := by
  decide +kernel

end Abmarl
