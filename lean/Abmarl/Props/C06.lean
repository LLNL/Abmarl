import Abmarl.Lemmas.Wrappers
import Abmarl.Lemmas.WrappersExcl
import Abmarl.Props.C01
import Abmarl.Props.C04
import Abmarl.Props.C08
/-!
# C06 — Space-converting wrappers commute with the wrapped simulation

The model is `Model/Wrappers.lean`, the decidable specifications are in `Spec/Wrappers.lean`; helper
lemmas are in `Lemmas/Wrappers.lean` and `Lemmas/WrappersExcl.lean`, the ravel facts come from C04,
the flatten facts from `Lemmas/Flatten.lean`.

The SAR wrapper is a functor on `SimIface` with no state of its own: `step` decodes every action and
then steps the inner simulation, `get_obs` encodes the inner observation, everything else is
forwarded.  So a wrapped run is the inner run under the decoded calls seen through the encoder, for
every inner simulation, codec and history (`sar_commutes`, `sar_commutes_every_history`), and the
frame conditions that C01 and C08 need pass through (`C06_wrapped_WF`).  The three space-converting
wrappers are instances (`sar_commutes_of_decodable`), an actor wrapper is the wrapped actor on the
decoded action, the exclusive-channel encoding is a bijection (`exclusive_bijection`), and the model's
outcomes meet `specCommute`, `specUnwrapped`, `specExclusive` (each with a reading), `specExclEnc`,
`specExclDims`, `specActor` (`C06_spec…_model`).  `specRavelInit` and `specFlatInit` have no theorem: the
driver self-tests them.
-/
namespace Abmarl

section sar
variable {σ α α' ω ω' ι : Type}

/-- On every history, undecodable actions included, the wrapped run is the inner run under the
decoded calls seen through the encoder: an undecodable call raises and is a no-op on the inner
simulation. -/
theorem sar_commutes_every_history (S : SimIface σ α ω ι) (dec : Aid → α' → Except Err α)
    (enc : Aid → ω → ω') (s : σ) (cs : List (WCall α')) :
    runWith (sarCall S dec enc) s cs =
      (encTrace enc (runWith (simCallE S) s (cs.map (decodeCall dec))).1,
       (runWith (simCallE S) s (cs.map (decodeCall dec))).2) := by
  induction cs generalizing s with
  | nil => rfl
  | cons c cs ih => simp only [runWith, List.map_cons, sarCall_eq, ih, encTrace]

/-- For every inner simulation, codec, start state and history all of whose actions decode (to `ds`):
the wrapped trace is the inner trace under the decoded history with every observation encoded, the inner
simulation ends in the same state, and the inner `step` arguments are the decoded ones. -/
theorem sar_commutes (S : SimIface σ α ω ι) (dec : Aid → α' → Except Err α) (enc : Aid → ω → ω')
    (s : σ) (cs : List (WCall α')) (ds : List (WCall α)) (h : decodeCalls dec cs = .ok ds) :
    runWith (sarCall S dec enc) s cs =
      (encTrace enc (runWith (simCall S) s ds).1, (runWith (simCall S) s ds).2) := by
  rw [sar_commutes_every_history, runWith_simCallE_ok S dec cs ds s h]

/-- the inner step log of the wrapped run is the list of decoded action dictionaries -/
theorem sar_inner_steps (S : SimIface σ α ω ι) (dec : Aid → α' → Except Err α) (enc : Aid → ω → ω')
    (s : σ) (cs : List (WCall α')) (ds : List (WCall α)) (h : decodeCalls dec cs = .ok ds) :
    (runWith (sarCall S dec enc) s cs).1.map (·.2) = ds.map WCall.stepArgs := by
  rw [sar_commutes S dec enc s cs ds h]
  simp only [encTrace, List.map_map]
  exact runWith_simCall_ghosts S ds s

/-- each wrapped observation is the encoding of the inner observation (per call) -/
theorem sar_obs (S : SimIface σ α ω ι) (dec : Aid → α' → Except Err α) (enc : Aid → ω → ω')
    (s : σ) (a : Aid) :
    (sarCall S dec enc s (.obs a)).1 = .obs a (enc a (S.obs s a).1) ∧
    (sarCall S dec enc s (.obs a)).2.1 = (S.obs s a).2 := ⟨rfl, rfl⟩

/-- the total `SimIface` (`sarSim`, what the managers are run over) has the same values and states
as the faithful wrapper on every decodable history -/
theorem sarSim_commutes (S : SimIface σ α ω ι) (dec : Aid → α' → Except Err α) (enc : Aid → ω → ω') :
    ∀ (cs : List (WCall α')) (ds : List (WCall α)) (s : σ), decodeCalls dec cs = .ok ds →
      (runWith (simCall (sarSim S dec enc)) s cs).1.map (·.1) =
        (runWith (sarCall S dec enc) s cs).1.map (·.1) ∧
      (runWith (simCall (sarSim S dec enc)) s cs).2 = (runWith (sarCall S dec enc) s cs).2
  | [], _, _, _ => ⟨rfl, rfl⟩
  | c :: cs, ds, s, h => by
    obtain ⟨d, ds', hc, hcs, _⟩ := decodeCalls_cons_ok h
    obtain ⟨h1, h2⟩ := simCall_sarSim S dec enc s c d hc
    obtain ⟨g1, g2⟩ := sarSim_commutes S dec enc cs ds' (sarCall S dec enc s c).2.1 hcs
    simp only [runWith, List.map_cons, h1, h2, g1, g2, and_self]

/-- the commuting theorem on every history whose actions decode one by one: what the three
space-converting wrappers instantiate -/
theorem sar_commutes_of_decodable (S : SimIface σ α ω ι) (dec : Aid → α' → Except Err α)
    (enc : Aid → ω → ω') (s : σ) (cs : List (WCall α'))
    (h : ∀ acts, WCall.step acts ∈ cs → ∀ p ∈ acts, ∃ y, dec p.1 p.2 = .ok y) :
    ∃ ds, decodeCalls dec cs = .ok ds ∧
      runWith (sarCall S dec enc) s cs =
        (encTrace enc (runWith (simCall S) s ds).1, (runWith (simCall S) s ds).2) ∧
      (runWith (sarCall S dec enc) s cs).1.map (·.2) = ds.map WCall.stepArgs := by
  obtain ⟨ds, hds⟩ := decodeCalls_ok dec cs h
  exact ⟨ds, hds, sar_commutes S _ _ s cs ds hds, sar_inner_steps S _ _ s cs ds hds⟩

theorem C06_wrapped_lawful {S : SimIface σ α ω ι} (hS : Lawful S) (dec : Aid → α' → Except Err α)
    (enc : Aid → ω → ω') : Lawful (sarSim S dec enc) :=
  hS.of_getters (fun _ _ => rfl) rfl rfl rfl rfl rfl

theorem C06_wrapped_WF {S : SimIface σ α ω ι} {k : MKind} (hW : WF S k)
    (dec : Aid → α' → Except Err α) (enc : Aid → ω → ω') : WF (sarSim S dec enc) k where
  lawful := C06_wrapped_lawful hW.lawful dec enc
  turn := hW.turn
  dyn := hW.dyn

theorem C06_wrapped_resetForgets {S : SimIface σ α ω ι} (hR : ResetForgets S)
    (dec : Aid → α' → Except Err α) (enc : Aid → ω → ω') : ResetForgets (sarSim S dec enc) :=
  fun s1 s2 => hR s1 s2

/-- C01 for every manager over every SAR-wrapped simulation, every history -/
theorem C06_managers_over_wrapped [DecidableEq α'] (S : SimIface σ α ω ι) (k : MKind) (hW : WF S k)
    (dec : Aid → α' → Except Err α) (enc : Aid → ω → ω') (m0 : MState σ) (ops : List (Op α')) :
    specC01 k S.n S.learning m0.shuffle (runOps (sarSim S dec enc) k m0 ops) = true :=
  C01_managers_honour_done_protocol (sarSim S dec enc) k (C06_wrapped_WF hW dec enc) m0 ops

/-- C08 for every manager over every SAR-wrapped simulation whose inner reset forgets -/
theorem C06_fresh_twin_over_wrapped (S : SimIface σ α ω ι) (hR : ResetForgets S) (k : MKind)
    (hl : k = .turnBased → S.learners ≠ []) (dec : Aid → α' → Except Err α) (enc : Aid → ω → ω')
    (m0 : MState σ) (history follow : List (Op α')) (seed : Tape) :
    runOps (sarSim S dec enc) k { finalState (sarSim S dec enc) k m0 history with tape := seed }
        (.reset :: follow) =
      runOps (sarSim S dec enc) k { m0 with tape := seed } (.reset :: follow) :=
  fresh_twin_managers (sarSim S dec enc) (C06_wrapped_resetForgets hR dec enc) k hl m0 history follow seed

end sar

/-! ## RavelDiscreteWrapper -/

/-- every action of the step is a number of the agent's wrapped action space `Discrete(card)`,
over a well-formed inner action space -/
def RavelStepOK (sp : AgentSpaces) (acts : List (Aid × Nat)) : Prop :=
  ∀ p ∈ acts, ∃ s, actSpace? sp p.1 = some s ∧ WF04 s = true ∧ p.2 < card s

/-- every `step` call of the history carries such actions (the other calls carry none) -/
def RavelHistOK (sp : AgentSpaces) (cs : List (WCall Nat)) : Prop :=
  ∀ c ∈ cs, ∀ acts, c = .step acts → RavelStepOK sp acts

theorem ravel_dec_ok (sp : AgentSpaces) (a : Aid) (k : Nat) (s : Space) (hs : actSpace? sp a = some s)
    (hW : WF04 s = true) (hk : k < card s) :
    ∃ p, ravelDec sp a k = .ok p ∧ mem s p = true ∧ ravel s p = some (k : Int) := by
  obtain ⟨p, h1, h2, h3⟩ := C04_ravel_unravel s k hW hk
  exact ⟨p, by simp [ravelDec, hs, h1, optE], h2, h3⟩

/-- `RavelDiscreteWrapper`: for every inner simulation, every assignment of well-formed spaces and every
history whose actions are numbers of the wrapped action spaces, the wrapped run is the inner run under the
unravelled actions, seen through `ravel`. -/
theorem ravel_commutes {σ ι : Type} (S : SimIface σ Pt Pt ι) (sp : AgentSpaces) (s : σ)
    (cs : List (WCall Nat)) (h : RavelHistOK sp cs) :
    ∃ ds, decodeCalls (ravelDec sp) cs = .ok ds ∧
      runWith (sarCall S (ravelDec sp) (ravelEnc sp)) s cs =
        (encTrace (ravelEnc sp) (runWith (simCall S) s ds).1, (runWith (simCall S) s ds).2) ∧
      (runWith (sarCall S (ravelDec sp) (ravelEnc sp)) s cs).1.map (·.2) = ds.map WCall.stepArgs := by
  refine sar_commutes_of_decodable S _ _ s cs fun acts hm p hp => ?_
  obtain ⟨sa, hs, hW, hk⟩ := h _ hm acts rfl p hp
  obtain ⟨q, hq, _⟩ := ravel_dec_ok sp p.1 p.2 sa hs hW hk
  exact ⟨q, hq⟩

/-- the ravelled observation of a member of the (well-formed) observation space is a number of the
wrapped observation space `ravel_space(space) = Discrete(card)`, and it is *the* encoding: it
unravels to the inner observation -/
theorem ravel_obs_mem (sp : AgentSpaces) (a : Aid) (o : Pt) (s : Space) (hs : obsSpace? sp a = some s)
    (hW : WF04 s = true) (hm : mem s o = true) :
    ∃ k : Nat, ravelEnc sp a o = some (k : Int) ∧ k < card s ∧ unravel s k = some o ∧
      ravelSpace s = some (.discrete (card s) 0) ∧ ravelMemW sp a (ravelEnc sp a o) = true := by
  obtain ⟨k, hr, h2, h3⟩ := (ravel_codec (WF04_wf hW)).fwd o hm
  refine ⟨k, by simp only [ravelEnc, hs, hr], h2, h3, C04_ravelSpace_card s hW, ?_⟩
  simp only [ravelMemW, ravelEnc, hs, hr, Int.toNat_natCast, Bool.and_eq_true, decide_eq_true_eq]
  exact ⟨Int.natCast_nonneg _, h2⟩

/-! ## FlattenWrapper, FlattenActionWrapper -/

/-- every action of the step has the length of the agent's flattened action Box (in particular:
every member of that Box), over a well-formed inner action space -/
def FlatStepOK (sp : AgentSpaces) (acts : List (Aid × List Num)) : Prop :=
  ∀ p ∈ acts, ∃ s, actSpace? sp p.1 = some s ∧ WF05 s = true ∧ p.2.length = flatdim s

/-- every `step` call of the history carries such actions -/
def FlatHistOK (sp : AgentSpaces) (cs : List (WCall (List Num))) : Prop :=
  ∀ c ∈ cs, ∀ acts, c = .step acts → FlatStepOK sp acts

theorem flat_member_length (s : Space) (fb : FlatBox) (x : List Num) (hW : WF05 s = true)
    (hf : flattenSpace s = some fb) (hm : memFlat fb x = true) : x.length = flatdim s := by
  obtain ⟨fb', h1, _, h3, _⟩ := flattenSpace_ok s hW
  rw [hf] at h1
  cases h1
  simp only [memFlat, Bool.and_eq_true] at hm
  have := memBoxQ_length _ _ _ hm.2
  omega

theorem flat_dec_ok (sp : AgentSpaces) {acts : List (Aid × List Num)} (h : FlatStepOK sp acts) :
    ∀ p ∈ acts, ∃ q, flatDec sp p.1 p.2 = .ok q := by
  intro p hp
  obtain ⟨s, hs, hW, hl⟩ := h p hp
  obtain ⟨q, hq⟩ := unflatten_total s p.2 hW hl
  exact ⟨q, by simp only [flatDec, hs, hq, optE]⟩

/-- `FlattenWrapper`: the same with `unflatten` / `flatten`, for every history whose actions have the
length of the flattened action Box -/
theorem flatten_commutes {σ ι : Type} (S : SimIface σ Pt Pt ι) (sp : AgentSpaces) (s : σ)
    (cs : List (WCall (List Num))) (h : FlatHistOK sp cs) :
    ∃ ds, decodeCalls (flatDec sp) cs = .ok ds ∧
      runWith (sarCall S (flatDec sp) (flatEnc sp)) s cs =
        (encTrace (flatEnc sp) (runWith (simCall S) s ds).1, (runWith (simCall S) s ds).2) ∧
      (runWith (sarCall S (flatDec sp) (flatEnc sp)) s cs).1.map (·.2) = ds.map WCall.stepArgs :=
  sar_commutes_of_decodable S _ _ s cs fun acts hm => flat_dec_ok sp (h _ hm acts rfl)

/-- `FlattenActionWrapper`: observations pass through unchanged, so the wrapped trace
*is* the inner trace under the unflattened actions -/
theorem flattenAction_commutes {σ ι : Type} (S : SimIface σ Pt Pt ι) (sp : AgentSpaces) (s : σ)
    (cs : List (WCall (List Num))) (h : FlatHistOK sp cs) :
    ∃ ds, decodeCalls (flatDec sp) cs = .ok ds ∧
      runWith (sarCall S (flatDec sp) (fun _ o => o)) s cs = runWith (simCall S) s ds ∧
      (runWith (sarCall S (flatDec sp) (fun _ o => o)) s cs).1.map (·.2) = ds.map WCall.stepArgs := by
  obtain ⟨ds, hds, h1, h2⟩ := sar_commutes_of_decodable S (flatDec sp) (fun _ o => o) s cs
    fun acts hm => flat_dec_ok sp (h _ hm acts rfl)
  refine ⟨ds, hds, ?_, h2⟩
  rw [h1]
  simp only [encTrace, encRet_id, List.map_id']

/-- the flattened observation of a member of the (well-formed) observation space is a member of
the wrapped observation space `flatten_space(space)`, and it is *the* encoding: unflattening gives a
point with the same structure and values (the same point when every leaf is integer-typed) -/
theorem flatten_obs_mem (sp : AgentSpaces) (a : Aid) (o : Pt) (s : Space) (hs : obsSpace? sp a = some s)
    (hW : WF05 s = true) (hm : mem s o = true) :
    ∃ x fb q, flatEnc sp a o = some x ∧ flattenSpace s = some fb ∧ memFlat fb x = true ∧
      unflatten s x = some q ∧ ptEqv q o = true ∧ (allLeavesInt s = true → q = o) ∧
      flatMemW sp a (flatEnc sp a o) = true := by
  obtain ⟨x, h1, hok⟩ := flatten_ok s o hW hm
  obtain ⟨fb, h2, h3⟩ := hok.memFlat hW
  obtain ⟨q, g1, g2, g3⟩ := hok.round
  refine ⟨x, fb, q, by simp only [flatEnc, hs, h1], h2, h3, g1, g2, g3, ?_⟩
  simp only [flatMemW, flatEnc, hs, h1, h2, h3]

/-! ## the exclusive-channel encoding -/

/-- `dims = Σ nᵢ − m + 1` (`nᵢ` the number of points of channel `i`, `m` the number of channels) -/
theorem exclDims_formula (keys : List Nat) (ss : List Space) (hw : wfExcl (.dict keys ss) = true) :
    exclWrapSpace (.dict keys ss) = some (.discrete (sum (cardL ss) - ss.length + 1) 0) ∧
    exclDims (.dict keys ss) = sum (cardL ss) - ss.length + 1 ∧
    exclDims (.dict keys ss) + ss.length = sum (cardL ss) + 1 := by
  obtain ⟨keys', ss', he, _, hwl⟩ := wfExcl_dict hw
  cases he
  have hd := exclDims_eq keys ss hwl
  rw [exclDimsL, length_cardL] at hd
  -- every channel has a point, so the subtraction is exact
  have hle := length_le_sum (cardL ss) (ravelL_ok ss hwl).pos
  rw [length_cardL] at hle
  refine ⟨?_, hd, by omega⟩
  simp only [exclWrapSpace, exclChannels_wfL ss hwl, exclDimsL_pos, if_true]
  rw [exclDimsL, length_cardL]

/-- every number below `dims` decodes to a member of the Dict that uses at most one
channel and encodes back to the number -/
theorem exclusive_decode (s : Space) (k : Nat) (hw : wfExcl s = true) (hk : k < exclDims s) :
    ∃ p, exclDecode s k = some p ∧ mem s p = true ∧ usesAtMostOne s p = true ∧
      exclEncode s p = some (k : Int) := by
  obtain ⟨keys, ss, rfl, hne, hwl⟩ := wfExcl_dict hw
  rw [exclDims_eq keys ss hwl] at hk
  have hpos : allPosP (cardL ss) := (ravelL_ok ss hwl).pos
  obtain ⟨hin, hnz⟩ := xDigits_mem (cardL ss) k hpos hk
  obtain ⟨ps, h1, h2, h3⟩ := (ravelL_ok ss hwl).bwd (xDigits (cardL ss) k) hin
  refine ⟨.dict keys ps, ?_, ?_, ?_, ?_⟩
  · rw [exclDecode_dict keys hwl hk, h1]; rfl
  · simp only [mem, h2, decide_true, Bool.and_self]
  · simp only [usesAtMostOne, h3, decide_true, Bool.true_and, decide_eq_true_eq]
    exact hnz
  · rw [exclEncode_dict keys hne hwl h3 hin, exclSum_xDigits (cardL ss) k hpos hk]

/-- every member of the Dict that uses at most one channel encodes to a number below
`dims` that decodes back to it -/
theorem exclusive_encode (s : Space) (p : Pt) (hw : wfExcl s = true) (hm : mem s p = true)
    (hu : usesAtMostOne s p = true) :
    ∃ k : Nat, exclEncode s p = some (k : Int) ∧ k < exclDims s ∧ exclDecode s k = some p := by
  obtain ⟨keys, ss, rfl, hne, hwl⟩ := wfExcl_dict hw
  cases p with
  | dict pkeys ps =>
    simp only [mem, Bool.and_eq_true, decide_eq_true_eq] at hm
    obtain ⟨rfl, hml⟩ := hm
    have hpos := (ravelL_ok ss hwl).pos
    obtain ⟨ks, h1, h2, h3⟩ := (ravelL_ok ss hwl).fwd ps hml
    simp only [usesAtMostOne, h1, decide_true, Bool.true_and, decide_eq_true_eq] at hu
    -- the digits are those of some `k` below `dims`
    obtain ⟨k, hk, rfl, -⟩ := xDigits_surj (cardL ss) ks hpos h2 hu
    refine ⟨k, ?_, exclDims_eq keys ss hwl ▸ hk, ?_⟩
    · rw [exclEncode_dict keys hne hwl h1 h2, exclSum_xDigits _ k hpos hk]
    · rw [exclDecode_dict keys hwl hk, h3]; rfl
  | _ => simp [mem] at hm

/-- the two together: for the at-most-one-channel members of the Dict what `ravel_codec` is for all members -/
theorem excl_codec {s : Space} (hw : wfExcl s = true) :
    NatCodec (fun p => mem s p = true ∧ usesAtMostOne s p = true) (exclDims s) (exclEncode s)
      (exclDecode s) where
  fwd p hm := exclusive_encode s p hw hm.1 hm.2
  bwd k hk := let ⟨p, h1, h2, h3, h4⟩ := exclusive_decode s k hw hk; ⟨p, h1, ⟨h2, h3⟩, h4⟩

/-- two numbers below `dims` that decode to the same action are equal -/
theorem exclusive_decode_injective (s : Space) (k k' : Nat) (hw : wfExcl s = true)
    (hk : k < exclDims s) (hk' : k' < exclDims s) (h : exclDecode s k = exclDecode s k') : k = k' :=
  (excl_codec hw).dec_inj hk hk' h

/-- `exclDecode` is a bijection from `range (exclDims s)` onto the
actions of the Dict that use at most one channel, and `exclEncode` is its inverse -/
theorem exclusive_bijection (s : Space) (hw : wfExcl s = true) :
    ∃ f : Fin (exclDims s) → {p : Pt // mem s p = true ∧ usesAtMostOne s p = true},
      (∀ a b, f a = f b → a = b) ∧ (∀ y, ∃ a, f a = y) ∧
      (∀ a, exclDecode s a.1 = some (f a).1) ∧ (∀ a, exclEncode s (f a).1 = some ((a.1 : Nat) : Int)) := by
  obtain ⟨f, g, hgf, hfg, he, hd⟩ := (excl_codec hw).equiv
  exact ⟨g, fun a b hab => by rw [← hfg a, hab, hfg], fun y => ⟨f y, hgf y⟩, hd,
    fun a => by have := he (g a); rwa [hfg] at this⟩

/-! ## actor wrappers -/

/-- for every model actor, the wrapper hands the wrapped actor exactly the decoded
action: processing `k` through the wrapper *is* processing `dec k` with the unwrapped actor -/
theorem actorWrapper_commutes {ρ : Type} (supported : World → Aid → Bool) (fromSpace : Aid → Option Space)
    (dec : Space → Nat → Option Pt) (proc : World → Aid → Pt → ρ) (w : World) (a : Aid) (k : Nat)
    (sp : Space) (p : Pt) (hs : supported w a = true) (hf : fromSpace a = some sp)
    (hd : dec sp k = some p) :
    actorWrap supported fromSpace dec proc w a k = .ok (some (proc w a p)) := by
  simp only [actorWrap, hs, if_true, hf, hd]

/-- an unsupported agent: `None`, the wrapped actor is not called -/
theorem actorWrapper_unsupported {ρ : Type} (supported : World → Aid → Bool) (fromSpace : Aid → Option Space)
    (dec : Space → Nat → Option Pt) (proc : World → Aid → Pt → ρ) (w : World) (a : Aid) (k : Nat)
    (hs : supported w a = false) : actorWrap supported fromSpace dec proc w a k = .ok none := by
  simp only [actorWrap, hs, Bool.false_eq_true, if_false]

/-- an actor wrapper whose decoder is one half of a numbering: every number below `n` is processed as
the element it stands for -/
theorem actorWrap_codec {ρ : Type} {M : Pt → Prop} {n : Nat} {enc : Pt → Option Int}
    {dec : Space → Nat → Option Pt} (supported : World → Aid → Bool) (fromSpace : Aid → Option Space)
    (proc : World → Aid → Pt → ρ) (w : World) (a : Aid) (k : Nat) (sp : Space)
    (hc : NatCodec M n enc (dec sp)) (hs : supported w a = true) (hf : fromSpace a = some sp)
    (hk : k < n) :
    ∃ p, dec sp k = some p ∧ M p ∧ enc p = some (k : Int) ∧
      actorWrap supported fromSpace dec proc w a k = .ok (some (proc w a p)) := by
  obtain ⟨p, h1, h2, h3⟩ := hc.bwd k hk
  exact ⟨p, h1, h2, h3, actorWrapper_commutes supported fromSpace dec proc w a k sp p hs hf h1⟩

/-- `RavelActionWrapper` around any actor: every number of the wrapped channel `Discrete(card)` is
processed as the member of the original space that ravels to it -/
theorem ravelActor_commutes {ρ : Type} (supported : World → Aid → Bool) (fromSpace : Aid → Option Space)
    (proc : World → Aid → Pt → ρ) (w : World) (a : Aid) (k : Nat) (sp : Space)
    (hs : supported w a = true) (hf : fromSpace a = some sp) (hW : WF04 sp = true) (hk : k < card sp) :
    ∃ p, unravel sp k = some p ∧ mem sp p = true ∧ ravel sp p = some (k : Int) ∧
      ravelActor supported fromSpace proc w a k = .ok (some (proc w a p)) :=
  actorWrap_codec supported fromSpace proc w a k sp (ravel_codec (WF04_wf hW)) hs hf hk

/-- `ExclusiveChannelActionWrapper` around any actor: every number of the wrapped channel
`Discrete(dims)` is processed as the at-most-one-channel action it stands for -/
theorem exclusiveActor_commutes {ρ : Type} (supported : World → Aid → Bool)
    (fromSpace : Aid → Option Space) (proc : World → Aid → Pt → ρ) (w : World) (a : Aid) (k : Nat)
    (sp : Space) (hs : supported w a = true) (hf : fromSpace a = some sp) (hW : wfExcl sp = true)
    (hk : k < exclDims sp) :
    ∃ p, exclDecode sp k = some p ∧ mem sp p = true ∧ usesAtMostOne sp p = true ∧
      exclEncode sp p = some (k : Int) ∧
      exclusiveActor supported fromSpace proc w a k = .ok (some (proc w a p)) := by
  obtain ⟨p, h1, ⟨h2, h3⟩, h4, h5⟩ :=
    actorWrap_codec supported fromSpace proc w a k sp (excl_codec hW) hs hf hk
  exact ⟨p, h1, h2, h3, h4, h5⟩

/-- instance: the ravel-wrapped `CrossMoveActor` with `k` is the `CrossMoveActor` with `k`
(`Discrete(5)` ravels to itself) — for every world, agent and number -/
theorem ravelActor_cross (w : World) (a : Aid) (k : Nat) :
    ravelActor (moverSupported 1) (fun b => some (moverSpace 1 w b)) (moverPt 1) w a k =
      if (w.cfgOf a).moving then
        .ok (some ((w.crossAct a (k : Int)).map fun r => (r.1, r.2, (k : Int))))
      else .ok none := by
  simp only [ravelActor, actorWrap, moverSupported, moverSpace, unravel, moverPt, ptInt?]

/-- instance: the ravel-wrapped `DriftMoveActor` -/
theorem ravelActor_drift (w : World) (a : Aid) (k : Nat) :
    ravelActor (moverSupported 2) (fun b => some (moverSpace 2 w b)) (moverPt 2) w a k =
      if (w.cfgOf a).moving && (w.cfgOf a).hasOrient then .ok (some (w.driftAct a (k : Int)))
      else .ok none := by
  simp only [ravelActor, actorWrap, moverSupported, moverSpace, unravel, moverPt, ptInt?]

/-- instance: the ravel-wrapped `MoveActor` with `k` is the `MoveActor` with the offset
`(k / (2R+1) − R, k % (2R+1) − R)` (`R` the agent's move range) — every number of `Discrete((2R+1)²)` -/
theorem ravelActor_move (w : World) (a : Aid) (k : Nat)
    (hk : k < (2 * (w.cfgOf a).moveRange + 1) * (2 * (w.cfgOf a).moveRange + 1)) :
    ravelActor (moverSupported 0) (fun b => some (moverSpace 0 w b)) (moverPt 0) w a k =
      if (w.cfgOf a).moving then
        .ok (some ((w.moveAct a (((k / (2 * (w.cfgOf a).moveRange + 1) : Nat) : Int) - (w.cfgOf a).moveRange,
                                 ((k % (2 * (w.cfgOf a).moveRange + 1) : Nat) : Int) - (w.cfgOf a).moveRange)).map
          fun r => (r.1, r.2, (0 : Int))))
      else .ok none := by
  simp only [ravelActor, actorWrap, moverSupported, moverSpace, unravel_moveBox _ k hk, moverPt, ptPos?]

/-! ## `unwrapped` -/

/-- any non-empty stack of wrappers exposes the innermost object -/
theorem unwrapped_innermost (stack : List Layer) (b : Nat) (h : stack ≠ []) :
    (wrapAll stack (.base b)).unwrapped? = some (.base b) :=
  unwrapped_wrapAll stack b h

theorem specUnwrapped_reading (depth : Nat) (out : List Int) :
    specUnwrapped depth out = true ↔ out = List.replicate depth (depth : Int) := by
  simp only [specUnwrapped, Bool.and_eq_true, beq_iff_eq, List.all_eq_true, List.eq_replicate_iff]

/-- and so does every wrapper inside the stack: the model's outcome satisfies `specUnwrapped` -/
theorem C06_specUnwrapped_model (stack : List Layer) (b : Nat) :
    specUnwrapped stack.length (unwrappedIdx (wrapAll stack (.base b))) = true :=
  (specUnwrapped_reading _ _).mpr (by rw [unwrappedIdx, unwrappedIdxAux_wrapAll, posOf_base])

/-! ## readings of `specCommute` and the model's outcome satisfies it -/

section readings
variable {α' α ω' ω ι : Type}

/-- `commuteEntry` says: equal inner states; an undecodable action raised and nothing was stepped;
otherwise the twin answered the mirrored call, the wrapper returned the twin's value through `enc`
(`obsW = enc obs`), the inner `step` of the wrapped copy and the twin both received the decoded
actions, and a returned observation is a member of the wrapped space (model's and real `in`) -/
theorem commuteEntry_reading [BEq α] [BEq ω'] [BEq ω] [BEq ι] [LawfulBEq α] [LawfulBEq ω']
    [LawfulBEq ι] (dec : Aid → α' → Except Err α) (enc : Aid → ω → ω') (memW : Aid → ω' → Bool)
    (e : WEntry α' α ω' ω ι) :
    commuteEntry dec enc memW e = true ↔
      e.stW = e.stT ∧
      ((∃ er, decodeCall dec e.call = .error er ∧ e.retW.isRaised = true ∧ e.inW = none ∧ e.argsT = none) ∨
       (∃ c, decodeCall dec e.call = .ok c ∧ c.answers e.retT = true ∧ e.retW = encRet enc e.retT ∧
          e.inW = c.stepArgs ∧ e.argsT = c.stepArgs ∧
          ∀ a o', e.retW = .obs a o' → memW a o' = true ∧ e.isIn = true)) := by
  obtain ⟨call, retW, inW, isIn, retT, argsT, stW, stT⟩ := e
  unfold commuteEntry
  cases decodeCall dec call with
  | error er =>
    simp only [Bool.and_eq_true, beq_iff_eq, Option.isNone_iff_eq_none, and_assoc, reduceCtorEq, false_and,
      exists_false, or_false, Except.error.injEq, exists_and_right, exists_eq', true_and]
  | ok c =>
    -- the last clause of the judge is a `match` on the returned value, its reading a `∀`
    simp only [Bool.and_eq_true, beq_iff_eq, SRet.beq_iff, and_assoc, reduceCtorEq, false_and, exists_const,
      false_or, Except.ok.injEq, exists_eq_left']
    cases retW <;> simp

theorem specCommute_reading [BEq α] [BEq ω'] [BEq ω] [BEq ι] (dec : Aid → α' → Except Err α)
    (enc : Aid → ω → ω') (memW : Aid → ω' → Bool) (tr : List (WEntry α' α ω' ω ι)) :
    specCommute dec enc memW tr = true ↔ ∀ e ∈ tr, commuteEntry dec enc memW e = true := by
  simp [specCommute, List.all_eq_true]

end readings

section model
variable {σ α α' ω ω' ι : Type}

/-- `h`: whenever the call decodes, the twin's value `retT` answers that kind of call and, if it is an
observation, encodes into the wrapped space; with an undecodable call the prediction passes as it stands -/
theorem predictW_spec [BEq α] [BEq ω'] [BEq ω] [BEq ι] [LawfulBEq α] [LawfulBEq ω'] [LawfulBEq ι]
    (dec : Aid → α' → Except Err α) (enc : Aid → ω → ω') (memW : Aid → ω' → Bool) (c : WCall α')
    (retT : SRet ω ι) (stT : List Int)
    (h : ∀ d, decodeCall dec c = .ok d →
      d.answers retT = true ∧ ∀ a o, retT = .obs a o → memW a (enc a o) = true) :
    commuteEntry dec enc memW (predictW dec enc memW c retT stT) = true := by
  simp only [predictW]
  cases hd : decodeCall dec c with
  | error er => simp [commuteEntry, hd, SRet.isRaised]
  | ok d =>
    obtain ⟨h1, h2⟩ := h d hd
    simp only [commuteEntry, hd, beq_self_eq_true, Bool.true_and, h1, SRet.beq_refl]
    cases retT with
    | obs a o => simp [encRet, retIn, h2 a o rfl]
    | _ => rfl

/-- the prediction from the twin's own outcome is what the model's twin pair produces (`twinCall_eq_predictW`) -/
theorem predictW_simCallE_spec [BEq α] [BEq ω'] [BEq ω] [BEq ι] [LawfulBEq α] [LawfulBEq ω']
    [LawfulBEq ι] (S : SimIface σ α ω ι) (dec : Aid → α' → Except Err α) (enc : Aid → ω → ω')
    (memW : Aid → ω' → Bool) (s : σ) (c : WCall α') (stT : List Int)
    (hObs : ∀ a, c = .obs a → memW a (enc a (S.obs s a).1) = true) :
    commuteEntry dec enc memW
      (predictW dec enc memW c (simCallE S s (decodeCall dec c)).1 stT) = true := by
  refine predictW_spec dec enc memW c _ stT fun d hd => ?_
  rw [hd]
  refine ⟨answers_simCall S s d, fun a o ho => ?_⟩
  cases d with
  | obs b =>
    simp only [simCallE, simCall, SRet.obs.injEq] at ho
    obtain ⟨rfl, rfl⟩ := ho
    exact hObs b (decodeCall_obs hd)
  | _ => cases ho

/-- the model's twin run satisfies `specCommute` (what the driver self-tests): for every inner
simulation, codec and history, provided every observation the history asks for encodes to a member
of the wrapped observation space -/
theorem C06_specCommute_model [BEq α] [BEq ω'] [BEq ω] [BEq ι] [LawfulBEq α] [LawfulBEq ω']
    [LawfulBEq ι] (S : SimIface σ α ω ι) (dec : Aid → α' → Except Err α) (enc : Aid → ω → ω')
    (memW : Aid → ω' → Bool) (dump : σ → List Int) :
    ∀ (cs : List (WCall α')) (s : σ),
      (∀ a, WCall.obs a ∈ cs → ∀ s', memW a (enc a (S.obs s' a).1) = true) →
      specCommute dec enc memW (twinRun S dec enc memW dump (s, s) cs) = true
  | [], _, _ => rfl
  | c :: cs, s, hObs => by
    simp only [specCommute, twinRun, List.all_cons, twinCall_eq_predictW, Bool.and_eq_true]
    exact ⟨predictW_simCallE_spec S dec enc memW s c _ fun a hc => hObs a (by simp [hc]) s,
      C06_specCommute_model S dec enc memW dump cs _ fun a ha s' => hObs a (by simp [ha]) s'⟩

end model

/-! ## the scripted stub with nested spaces -/

/-- the script's observation points are members of well-formed observation spaces (what the
harness generates) -/
def StubObsOK (sc : SpaceScript) : Prop :=
  ∀ a s, obsSpace? sc.spaces a = some s →
    WF04 s = true ∧ sc.obsPts.getD a [] ≠ [] ∧ ∀ p ∈ sc.obsPts.getD a [], mem s p = true

theorem spaceStub_lawful (sc : SpaceScript) (flat : Bool) : Lawful (spaceStub sc flat) :=
  (stub_lawful sc.base).of_getters (fun _ _ => rfl) rfl rfl rfl rfl rfl

theorem spaceStub_forgets (sc : SpaceScript) : ResetForgets (spaceStub sc true) := fun _ _ => rfl

/-- on the scripted stub the ravel twins of the model pass `specCommute`, for every script with member
observations and every history -/
theorem C06_stub_ravel (sc : SpaceScript) (flat : Bool) (h : StubObsOK sc) (cs : List (WCall Nat))
    (st : StubSt) (hcs : ∀ a, WCall.obs a ∈ cs → (obsSpace? sc.spaces a).isSome = true) :
    specCommute (ravelDec sc.spaces) (ravelEnc sc.spaces) (ravelMemW sc.spaces)
      (twinRun (spaceStub sc flat) (ravelDec sc.spaces) (ravelEnc sc.spaces) (ravelMemW sc.spaces)
        stubDump (st, st) cs) = true := by
  apply C06_specCommute_model
  intro a ha s'
  obtain ⟨s, hs⟩ := Option.isSome_iff_exists.mp (hcs a ha)
  obtain ⟨hW, hne, hmem⟩ := h a s hs
  have hm : mem s ((spaceStub sc flat).obs s' a).1 = true := hmem _ (spaceObs_mem sc s' a hne)
  obtain ⟨_, _, _, _, _, h6⟩ := ravel_obs_mem sc.spaces a _ s hs hW hm
  exact h6

/-- the same for the flatten twins (observation spaces may contain float Boxes) -/
theorem C06_stub_flatten (sc : SpaceScript) (flat : Bool) (cs : List (WCall (List Num))) (st : StubSt)
    (h : ∀ a, WCall.obs a ∈ cs → ∃ s, obsSpace? sc.spaces a = some s ∧ WF05 s = true ∧
      sc.obsPts.getD a [] ≠ [] ∧ ∀ p ∈ sc.obsPts.getD a [], mem s p = true) :
    specCommute (flatDec sc.spaces) (flatEnc sc.spaces) (flatMemW sc.spaces)
      (twinRun (spaceStub sc flat) (flatDec sc.spaces) (flatEnc sc.spaces) (flatMemW sc.spaces)
        stubDump (st, st) cs) = true := by
  apply C06_specCommute_model
  intro a ha s'
  obtain ⟨s, hs, hW, hne, hmem⟩ := h a ha
  have hm : mem s ((spaceStub sc flat).obs s' a).1 = true := hmem _ (spaceObs_mem sc s' a hne)
  obtain ⟨_, _, _, _, _, _, _, _, _, h10⟩ := flatten_obs_mem sc.spaces a _ s hs hW hm
  exact h10

/-! ## the model's exclusive-channel outcomes satisfy the specifications; readings -/

/-- `specExclusive` holds of an outcome exactly when it is the decoding of `k` (accepted by the real
`in`, re-encoded to `k` by the real `unwrap_point`) -/
theorem specExclusive_reading (s : Space) (k : Nat) (hw : wfExcl s = true) (hk : k < exclDims s)
    (out : Option (Pt × Bool × Int)) :
    specExclusive s k out = true ↔ ∃ p, out = some (p, true, (k : Int)) ∧ exclDecode s k = some p := by
  cases out with
  | none => simp [specExclusive]
  | some o =>
    obtain ⟨p, isIn, re⟩ := o
    simp only [specExclusive, Bool.and_eq_true, beq_iff_eq, Option.some.injEq, Prod.mk.injEq]
    constructor
    · rintro ⟨⟨⟨⟨h1, h2⟩, h3⟩, h4⟩, h5⟩
      obtain ⟨k', g1, _, g3⟩ := exclusive_encode s p hw h2 h3
      rw [h4] at g1
      simp only [Option.some.injEq] at g1
      have : k = k' := Int.ofNat.inj g1
      subst this
      exact ⟨p, ⟨rfl, h1, h5⟩, g3⟩
    · rintro ⟨p', ⟨rfl, rfl, rfl⟩, hd⟩
      obtain ⟨q, g1, g2, g3, g4⟩ := exclusive_decode s k hw hk
      rw [hd] at g1
      cases g1
      exact ⟨⟨⟨⟨rfl, g2⟩, g3⟩, g4⟩, rfl⟩

/-- the model's decode outcome (with the model's own membership and re-encoding) passes -/
theorem C06_specExclusive_model (s : Space) (k : Nat) (hw : wfExcl s = true) (hk : k < exclDims s) :
    specExclusive s k ((exclDecode s k).map fun p => (p, mem s p, (exclEncode s p).getD (-1))) = true := by
  obtain ⟨p, h1, h2, h3, h4⟩ := exclusive_decode s k hw hk
  simp only [h1, Option.map_some, specExclusive, h2, h3, h4, Option.getD_some, beq_self_eq_true,
    Bool.and_self]

theorem C06_specExclEnc_model (s : Space) (p : Pt) (hw : wfExcl s = true) :
    specExclEnc s p (match exclEncode s p with
      | some c => (match exclDecode s c.toNat with
        | some q => some (c, q)
        | none => none)
      | none => none) = true := by
  simp only [specExclEnc]
  split
  · rename_i h
    simp only [Bool.and_eq_true] at h
    obtain ⟨k, h1, h2, h3⟩ := exclusive_encode s p hw h.1 h.2
    simp only [h1, Int.toNat_natCast, h3, Bool.and_eq_true, decide_eq_true_eq, beq_self_eq_true,
      and_true]
    exact ⟨Int.natCast_nonneg k, h2⟩
  · rfl

theorem C06_specExclDims_model (keys : List Nat) (ss : List Space) (hw : wfExcl (.dict keys ss) = true) :
    specExclDims (.dict keys ss) (some (exclDims (.dict keys ss))) = true := by
  obtain ⟨_, _, h3⟩ := exclDims_formula keys ss hw
  simp only [specExclDims, decide_eq_true_eq]
  exact h3

/-- the actor clause on the model: wrapper and twin (the unwrapped actor fed the decoded action)
trivially agree, for every actor -/
theorem C06_specActor_model (dec : Space → Nat → Option Pt) (sp : Space) (k : Nat) (p : Pt)
    (ret : List Int) (post : World) (hd : dec sp k = some p) :
    specActor dec sp k (some ⟨some p, ret, post, ret, post⟩) = true := by
  simp only [specActor, hd, beq_self_eq_true, decide_true, Bool.and_self]

/-! ## Non-vacuity -/

/-- three channels of sizes 2, 4 and 3 (a nested one in the middle): `dims = 2 + 4 + 3 − 3 + 1 = 7` -/
def exExcl : Space := .dict [1, 2, 3] [.discrete 2 0, .tuple [.multiBinary 1, .discrete 2 0], .discrete 3 0]

example : wfExcl exExcl = true ∧ exclDims exExcl = 7 := by decide
example : (exclDecode exExcl 4 ==
    some (.dict [1, 2, 3] [.scalar (.int 0), .tuple [.arr [.int 1], .scalar (.int 1)], .scalar (.int 0)])) = true := by
  decide
/-- each of the seven numbers decodes to a member that uses at most one channel and encodes back to it
(so the seven actions are pairwise different) -/
example : (List.range 7).all (fun k =>
    specExclusive exExcl k ((exclDecode exExcl k).map fun p => (p, mem exExcl p, (exclEncode exExcl p).getD (-1)))) = true := by
  rw [List.all_eq_true]
  intro k hk
  have hd : exclDims exExcl = 7 := by decide
  exact C06_specExclusive_model exExcl k (by decide) (hd ▸ List.mem_range.mp hk)
/-- an action using two channels is outside the image: it encodes to the code of its first channel -/
example : usesAtMostOne exExcl (.dict [1, 2, 3] [.scalar (.int 1), .tuple [.arr [.int 0], .scalar (.int 0)], .scalar (.int 2)]) = false ∧
    exclEncode exExcl (.dict [1, 2, 3] [.scalar (.int 1), .tuple [.arr [.int 0], .scalar (.int 0)], .scalar (.int 2)]) = some 1 := by
  decide
/-- an off-by-one decode (channel 3 shifted) is rejected by the judge -/
example : specExclusive exExcl 5 (some (.dict [1, 2, 3] [.scalar (.int 0), .tuple [.arr [.int 0], .scalar (.int 0)], .scalar (.int 2)], true, 5)) = false := by
  decide

def exSpaces : AgentSpaces :=
  [some (.tuple [.discrete 3 0, .multiBinary 1], .dict [0, 1] [.discrete 2 0, .box [2] [-1, 0] [1, 1] true]),
   none,
   some (.multiDiscrete [2, 2], .discrete 4 0)]

def exStub : SpaceScript :=
  { base := { n := 3, learning := [true, false, true], doneAt := [3, 9, 2], finishAt := 4, noms := [] },
    spaces := exSpaces,
    obsPts := [[.dict [0, 1] [.scalar (.int 1), .arr [.int (-1), .int 1]], .dict [0, 1] [.scalar (.int 0), .arr [.int 1, .int 0]]],
               [], [.scalar (.int 3), .scalar (.int 1)]] }

def exCalls : List (WCall Nat) :=
  [.reset, .obs 0, .obs 2, .step [(0, 5), (2, 3)], .obs 0, .reward 0, .obs 2, .done 2, .step [(2, 9)], .allDone]

/-- a concrete twin run: ravelled observations, a decoded step, an undecodable action (`9 ≥ 4`)
that raises, and the judge accepts the whole trace -/
example :
    let tr := twinRun (spaceStub exStub) (ravelDec exSpaces) (ravelEnc exSpaces) (ravelMemW exSpaces)
      stubDump ({}, {}) exCalls
    specCommute (ravelDec exSpaces) (ravelEnc exSpaces) (ravelMemW exSpaces) tr = true ∧
    (tr.map fun e => match e.retW with | .obs _ (some k) => k | _ => -1) = [-1, 7, 3, -1, 7, -1, 3, -1, -1, -1] ∧
    (tr.any fun e => e.retW.isRaised) = true := by
  decide +kernel

example : specUnwrapped 3 (unwrappedIdx (wrapAll [.comm, .ravel, .superAgent] (.base 0))) = true := by decide

end Abmarl
