import Abmarl.Lemmas.ManagersInv
import Abmarl.Model.StubSim
/-!
# C01 — Simulation managers honour the done protocol on every step

The model is `Model/Managers.lean` (the three managers over an arbitrary `SimIface`), the decidable
trace specification is `specC01` in `Spec/Managers.lean`; the proof is in `Lemmas/ManagersInv.lean`.

`C01_managers_honour_done_protocol`: for every simulation `S` (any state, action, observation and info
types) satisfying `WF`, every manager kind, every initial manager state and every history of resets and
steps, the trace of the model satisfies `specC01`.  `specLoop_at` says what the trace specifications mean
entry by entry, and the `c01_*` theorems read the per-entry check `c01Step` back as the clauses of the
property, so that the Bool-valued predicate the driver evaluates on implementation traces is seen to say
what the property says.  `C01_stub`: the scripted stub simulation the correspondence check drives satisfies
the hypotheses.
-/
namespace Abmarl
variable {σ α ω ι : Type}

/-- **C01** for every simulation, manager kind and history. -/
theorem C01_managers_honour_done_protocol [DecidableEq α] (S : SimIface σ α ω ι) (k : MKind)
    (hW : WF S k) (m0 : MState σ) (ops : List (Op α)) :
    specC01 k S.n S.learning m0.shuffle (runOps S k m0 ops) = true :=
  -- the fresh ghost state `{}` is not started, so the premise of the invariant is vacuous
  runOps_judged hW (c01Entry k S.n S.learning) (fun _ _ _ h => h.1) ops m0 {} (by intro h; simp at h)

/-- ghost state before entry `i` of a trace -/
def ghostAt (g0 : GSt) (tr : List (Entry α ω ι)) (i : Nat) : GSt := (tr.take i).foldl gNext g0

/-- the caller protocol holds up to and including entry `i`: no step before the first
successful reset or after an output with `__all__ = true` -/
def ProtocolOK (g0 : GSt) (tr : List (Entry α ω ι)) (i : Nat) : Prop :=
  ∀ j ≤ i, ∀ e, tr[j]? = some e → ∀ acts, e.op = .step acts →
    (ghostAt g0 tr j).started = true ∧ (ghostAt g0 tr j).over = false

/-- `specLoop` means: the per-entry check holds at every entry reached under the protocol. -/
theorem specLoop_at (chk : GSt → Entry α ω ι → Bool) :
    ∀ (tr : List (Entry α ω ι)) (g0 : GSt), specLoop chk g0 tr = true →
      ∀ i e, tr[i]? = some e → ProtocolOK g0 tr i → chk (ghostAt g0 tr i) e = true := by
  intro tr g0 hspec i e hi hp
  refine guardedLoop_at (specLoop_cons chk) tr g0 hspec i e hi fun j hj e' he' => ?_
  cases h : e'.op with
  | reset => rfl
  | step acts =>
    obtain ⟨h1, h2⟩ := hp j hj e' he' acts h
    simp only [ghostAt] at h1 h2
    simp [h1, h2]

section readings
variable [DecidableEq α] {k : MKind} {n : Nat} {learning : Aid → Bool} {sh : Bool} {g : GSt}
  {acts : List (Aid × α)} {e : Entry α ω ι} {o : Out ω ι}

/-- observation, reward, done and info entries are returned for exactly the same agents,
each agent once -/
theorem c01_keys_agree (h : c01Step k n learning sh g acts e = true) (ho : e.res = .stepOk o) :
    keys o.rewards = keys o.obs ∧ keys o.dones = keys o.obs ∧ keys o.infos = keys o.obs ∧
      (keys o.obs).Nodup :=
  let u := c01Step_unpack h ho
  ⟨u.keysR, u.keysD, u.keysI, u.nodup⟩

/-- an agent already reported done in this episode is never included again
(so each agent is reported done at most once) -/
theorem c01_never_reports_done_agent (h : c01Step k n learning sh g acts e = true)
    (ho : e.res = .stepOk o) : ∀ a ∈ keys o.obs, a ∉ g.R :=
  (c01Step_unpack h ho).notR

/-- only participating agents are reported, and when `__all__` is reported every participating
agent that was not yet reported done gets its final report in this output -/
theorem c01_final_report (h : c01Step k n learning sh g acts e = true) (ho : e.res = .stepOk o) :
    (∀ a ∈ keys o.obs, a ∈ participating k n learning) ∧
    (o.allDone = true → ∀ a ∈ participating k n learning, a ∈ g.R ∨ a ∈ keys o.obs) :=
  let u := c01Step_unpack h ho
  ⟨u.part, u.final⟩

/-- an action for an already-done agent is rejected, and the simulation was not advanced -/
theorem c01_rejects_before_step (h : c01Step k n learning sh g acts e = true)
    (hb : ∃ p ∈ acts, p.1 ∈ g.R) :
    e.res = .err .rejected ∧ e.simArgs = none ∧ e.accrued = g.pend ∧ e.ghost.pending = g.pend := by
  have hb' : (acts.any fun p => decide (p.1 ∈ g.R)) = true := by
    obtain ⟨p, hp, hpr⟩ := hb
    exact List.any_eq_true.mpr ⟨p, hp, by simpa using hpr⟩
  cases hr : e.res with
  | resetOk _ => simp [c01Step, hr] at h
  | stepOk o => simp [c01Step, hr, hb'] at h
  | err er =>
    obtain ⟨h1, h2, h3, h4, _⟩ := c01Step_err_unpack h hr
    exact ⟨by rw [h1], h2, h3, h4⟩

/-- any rejection at all happens before the simulation is advanced and only for a blocked action -/
theorem c01_error_is_clean_rejection (h : c01Step k n learning sh g acts e = true) {er : Err}
    (hr : e.res = .err er) : er = .rejected ∧ e.simArgs = none ∧ e.ghost.pending = g.pend ∧
      ∃ p ∈ acts, p.1 ∈ g.R ∨ (k ≠ .dynamic ∧ learning p.1 = false) :=
  let ⟨h1, h2, _, h4, h5⟩ := c01Step_err_unpack h hr
  ⟨h1, h2, h4, h5⟩

/-- accepted actions reach the simulation unchanged (as a permutation when the all-step manager
was asked to randomise the input order) -/
theorem c01_actions_reach_sim (h : c01Step k n learning sh g acts e = true) (ho : e.res = .stepOk o) :
    ∃ args, e.simArgs = some args ∧ (if sh then permOf args acts = true else args = acts) := by
  have h6 := (c01Step_unpack h ho).args
  cases hs : e.simArgs with
  | none => simp [hs] at h6
  | some args =>
    refine ⟨args, rfl, ?_⟩
    cases sh <;> simpa [hs] using h6

/-- `__all__` is true exactly when the simulation declares itself finished or every
participating agent has been reported done -/
theorem c01_allDone_iff (h : c01Step k n learning sh g acts e = true) (ho : e.res = .stepOk o) :
    o.allDone = true ↔
      (e.ghost.simAllDone = true ∨ ∀ a ∈ participating k n learning, a ∈ g.R ++ newlyDone o.dones) := by
  rw [(c01Step_unpack h ho).allDone]
  simp [List.all_eq_true]

/-- every reward pending for a reported agent after the simulation step is delivered in this
output and its accumulator is empty afterwards; an unreported agent's pending reward is kept -/
theorem c01_ledger (h : c01Step k n learning sh g acts e = true) (ho : e.res = .stepOk o) :
    ∀ a < n, (∀ r, o.rewards.lookup a = some r → r = e.accrued.getD a 0 ∧ e.ghost.pending.getD a 0 = 0) ∧
             (o.rewards.lookup a = none → e.ghost.pending.getD a 0 = e.accrued.getD a 0) := by
  have hl := (c01Step_unpack h ho).ledger
  unfold ledgerOk at hl
  rw [List.all_eq_true] at hl
  intro a ha
  have := hl a (by simpa using ha)
  cases hlk : o.rewards.lookup a with
  | none => simpa [hlk] using this
  | some r =>
    simp only [hlk, Bool.and_eq_true, beq_iff_eq] at this
    exact ⟨fun r' hr' => by cases hr'; exact this, by simp⟩

end readings

/-- scripts the harness generates for the dynamic-order manager -/
def ScriptWF (sc : Script) : Prop :=
  0 < sc.n ∧ ∀ l ∈ sc.noms, l.Nodup ∧ ∀ a ∈ l, a < sc.n

theorem stub_lawful (sc : Script) : Lawful (stubSim sc) where
  obs_done := by intros; rfl
  obs_allDone := by intros; rfl
  obs_next := by intros; rfl
  obs_pending := by intros; rfl
  rew_done := by intros; rfl
  rew_allDone := by intros; rfl
  rew_next := by intros; rfl
  rew_val := by intros; rfl
  rew_pending := by
    intro s a b
    show (s.pend.set a 0).getD b 0 = if b = a then 0 else s.pend.getD b 0
    by_cases h : b = a
    · -- `0` is also the default: past the end nothing is written, and it is read all the same
      rw [if_pos h, h, getD_set, ite_eq_left_iff]
      intro hb
      rw [List.getD_eq_getElem?_getD, List.getElem?_eq_none (by simpa using hb)]
      rfl
    · rw [if_neg h, getD_set_ne _ _ _ _ _ (Ne.symm h)]

theorem stub_WF (sc : Script) (k : MKind) (hl : k = .turnBased → ∃ a < sc.n, sc.learning.getD a false = true)
    (hd : k = .dynamic → ScriptWF sc) : WF (stubSim sc) k where
  lawful := stub_lawful sc
  turn := by
    intro hk
    obtain ⟨a, ha, hla⟩ := hl hk
    exact learners_ne_nil (S := stubSim sc) ha hla
  dyn := by
    intro hk
    obtain ⟨h0, hn⟩ := hd hk
    refine ⟨h0, fun s => ?_⟩
    show ((sc.noms[s.t]?).getD (List.range sc.n)).Nodup ∧ ∀ a ∈ (sc.noms[s.t]?).getD (List.range sc.n), a < sc.n
    cases hg : sc.noms[s.t]? with
    | none => simp [List.nodup_range]
    | some l =>
      have := hn l (List.mem_of_getElem? hg)
      simpa using this

theorem C01_stub (sc : Script) (k : MKind) (m0 : MState StubSt) (ops : List (Op Int))
    (hl : k = .turnBased → ∃ a < sc.n, sc.learning.getD a false = true)
    (hd : k = .dynamic → ScriptWF sc) :
    specC01 k sc.n (stubSim sc).learning m0.shuffle (runOps (stubSim sc) k m0 ops) = true :=
  C01_managers_honour_done_protocol (stubSim sc) k (stub_WF sc k hl hd) m0 ops

/-! ## Non-vacuity: a concrete turn-based history (four agents, one of them not learning; two agents
finish at the same time, one is done from the start) meets the hypotheses.  Its second step reports three
done agents at once and ends the episode; the steps that follow it are outside the caller protocol, so
`specLoop` judges entries 0–2 only (the rejections, the second reset and the last step are not judged). -/

def exScript : Script :=
  { n := 4, learning := [true, true, false, true], doneAt := [2, 2, 9, 0], finishAt := 9, noms := [] }

def exOps : List (Op Int) :=
  [.reset, .step [(0, 1)], .step [(1, 2)], .step [(0, 3)], .step [(1, 1)], .reset, .step [(0, 0)]]

example : WF (stubSim exScript) .turnBased :=
  stub_WF exScript .turnBased (fun _ => ⟨0, by decide, by decide⟩) (by intro h; cases h)

/-- the trace of the example history contains a done report and, after `__all__`, a rejection (which ends the
obligation: it is not judged), and passes `specC01` -/
example :
    let tr := runOps (stubSim exScript) .turnBased (mgrInit {} false []) exOps
    (tr.any fun e => match e.res with | .err .rejected => true | _ => false) = true ∧
    (tr.any fun e => match e.res with | .stepOk o => o.dones.any (·.2) | _ => false) = true ∧
    specC01 .turnBased 4 (stubSim exScript).learning false tr = true := by
  decide +kernel

end Abmarl
