import Abmarl.Props.C07
import Abmarl.Lemmas.ExamplesKept
import Abmarl.Lemmas.ExamplesJudge
/-!
# The packaged example simulations as instances of the general theorems (C01, C02, C03, C07, C08)

Model: `Model/Examples.lean` (`Ex.Cfg`, `Ex.St`, `Ex.reset`, `Ex.step`, the getters; transcribed from
`abmarl/examples/sim/{team_battle_example, predator_prey_resources, maze_navigation,
multi_maze_navigation, traffic_corridor}.py` and `gridworld/smart.py`), tied to the real classes by
the driver ops `gexample` (direct calls) and `mgrx` (real managers over the real example).  Every
theorem is for **every configuration** `cfg` of the class (`Ex.Cfg`: any agent mix, grid, overlap
table, attack mapping, set of state / observer / done components in any iteration order), every
number of agents, every tape and every history.

* **C01 / C07**: all five classes satisfy `Lawful` / `WF` (`Ex.ex_lawful`, `Ex.ex_WF`), so the manager theorems hold
  of every manager that can drive them (all-step, turn-based): `C01_examples`, `C07_examples`,
  `C07_examples_every_call_returns`, and the named instances `C01_TeamBattle` … `C07_TrafficCorridor`.
* **C03**: `examples_step_is_history`, `examples_reachable_WInv`; `examples_simIface_reachable`: the states the
  managers can drive the `SimIface` instance into (`Ex.Reach`) are `Ex.Good`.
* **C02**: `examples_observations_in_space`, `examples_step_noRaise`, `examples_get_reward_total`.
* **the judge**: `examples_hist` — under `Ex.exPre` the model's own trace satisfies `Ex.specEx`, the Boolean the
  driver evaluates on the implementation's trace (op `gexample`).
* **C08**: `examples_reset_forgets`, `examples_fresh_twin`; for every used object the managers can reach,
  `examples_used_sameBut_fresh` and `examples_fresh_twin_reachable`.  Form: two states related by `Ex.SameBut` (same
  configuration, and equal on the field groups the class's state components do not own) — not `ResetForgets` (which
  would ask it of *all* pairs of states, false for states of different configurations or with different tapes).
-/
namespace Abmarl
open World

/-- **C01 for the packaged examples** (all five modelled classes), under every manager that can drive them -/
theorem C01_examples (cfg : Ex.Cfg) (n : Nat) (k : MKind) (hk : k ≠ .dynamic)
    (hl : k = .turnBased → ∃ a < n, cfg.isLearning a = true) (m0 : MState Ex.St) (ops : List (Op Ex.Act)) :
    specC01 k n cfg.isLearning m0.shuffle (runOps (Ex.toSimIface cfg n) k m0 ops) = true :=
  C01_managers_honour_done_protocol (Ex.toSimIface cfg n) k (Ex.ex_WF cfg n k hk hl) m0 ops

/-- **C07 for the packaged examples** -/
theorem C07_examples (cfg : Ex.Cfg) (n : Nat) (k : MKind) (hk : k ≠ .dynamic)
    (hl : k = .turnBased → ∃ a < n, cfg.isLearning a = true) (m0 : MState Ex.St) (ops : List (Op Ex.Act)) :
    specC07 k n cfg.isLearning (runOps (Ex.toSimIface cfg n) k m0 ops) = true :=
  C07_fair_turns_and_progress (Ex.toSimIface cfg n) k (Ex.ex_WF cfg n k hk hl) m0 ops

/-- every manager call over a packaged example made under the caller protocol returns normally or
with the documented rejection -/
theorem C07_examples_every_call_returns (cfg : Ex.Cfg) (n : Nat) (k : MKind)
    (hk : k ≠ .dynamic) (hl : k = .turnBased → ∃ a < n, cfg.isLearning a = true) (m0 : MState Ex.St)
    (ops : List (Op Ex.Act)) (i : Nat) (e : Entry Ex.Act Ex.ObsOut Unit)
    (hi : (runOps (Ex.toSimIface cfg n) k m0 ops)[i]? = some e)
    (hp : ProtocolOK {} (runOps (Ex.toSimIface cfg n) k m0 ops) i) :
    ∀ er, e.res = .err er → er = .rejected :=
  C07_every_call_returns (Ex.toSimIface cfg n) k (Ex.ex_WF cfg n k hk hl) m0 ops i e hi hp

section named
variable (cfg : Ex.Cfg) (n : Nat) (k : MKind) (hk : k ≠ .dynamic)
  (hl : k = .turnBased → ∃ a < n, cfg.isLearning a = true) (m0 : MState Ex.St) (ops : List (Op Ex.Act))
include hk hl

theorem C01_TeamBattle (_hc : cfg.which = .teamBattle) :
    specC01 k n cfg.isLearning m0.shuffle (runOps (Ex.toSimIface cfg n) k m0 ops) = true :=
  C01_examples cfg n k hk hl m0 ops
theorem C01_PredatorPrey (_hc : cfg.which = .predatorPrey) :
    specC01 k n cfg.isLearning m0.shuffle (runOps (Ex.toSimIface cfg n) k m0 ops) = true :=
  C01_examples cfg n k hk hl m0 ops
theorem C01_MazeNavigation (_hc : cfg.which = .mazeNav) :
    specC01 k n cfg.isLearning m0.shuffle (runOps (Ex.toSimIface cfg n) k m0 ops) = true :=
  C01_examples cfg n k hk hl m0 ops
theorem C01_MultiMaze (_hc : cfg.which = .multiMaze) :
    specC01 k n cfg.isLearning m0.shuffle (runOps (Ex.toSimIface cfg n) k m0 ops) = true :=
  C01_examples cfg n k hk hl m0 ops
theorem C01_TrafficCorridor (_hc : cfg.which = .traffic) :
    specC01 k n cfg.isLearning m0.shuffle (runOps (Ex.toSimIface cfg n) k m0 ops) = true :=
  C01_examples cfg n k hk hl m0 ops
theorem C07_TeamBattle (_hc : cfg.which = .teamBattle) :
    specC07 k n cfg.isLearning (runOps (Ex.toSimIface cfg n) k m0 ops) = true :=
  C07_examples cfg n k hk hl m0 ops
theorem C07_PredatorPrey (_hc : cfg.which = .predatorPrey) :
    specC07 k n cfg.isLearning (runOps (Ex.toSimIface cfg n) k m0 ops) = true :=
  C07_examples cfg n k hk hl m0 ops
theorem C07_MazeNavigation (_hc : cfg.which = .mazeNav) :
    specC07 k n cfg.isLearning (runOps (Ex.toSimIface cfg n) k m0 ops) = true :=
  C07_examples cfg n k hk hl m0 ops
theorem C07_MultiMaze (_hc : cfg.which = .multiMaze) :
    specC07 k n cfg.isLearning (runOps (Ex.toSimIface cfg n) k m0 ops) = true :=
  C07_examples cfg n k hk hl m0 ops
theorem C07_TrafficCorridor (_hc : cfg.which = .traffic) :
    specC07 k n cfg.isLearning (runOps (Ex.toSimIface cfg n) k m0 ops) = true :=
  C07_examples cfg n k hk hl m0 ops

end named

/-- **`step` is a history of component calls**: in a good state (the invariant of the class holds), for
an action dict whose moves are points of the declared spaces (`Ex.ActsOK`), if `step` returns then the
world and the rest of the tape it leaves are those of the component calls `Ex.stepOps cfg acts` —
attacks in dict order then moves in dict order for `TeamBattleSim` / `PredatorPreyResourcesSim`, moves
in dict order for `MultiMazeNavigationSim` / `TrafficCorridorSimulation`, the navigator's move for
`MazeNavigationSim` — run one after the other on the ONE tape; and the invariant holds again.  (The proof does not
use `hcfg`: every call of a move actor and every attack that returns keeps the invariant, `Ex.XInv.call`.) -/
theorem examples_step_is_history (cfg : Ex.Cfg) (w0 : World) (hcfg : CfgOK w0) (s s' : Ex.St)
    (acts : List (Aid × Ex.Act)) (hG : Ex.Good cfg w0 s) (hA : Ex.ActsOK cfg w0 acts)
    (h : Ex.step cfg s acts = .ok s') :
    runGOpsSeq s.w s.tape (Ex.stepOps cfg acts) = .ok (s'.w, s'.tape) ∧ Ex.Inv cfg w0 s'.w := by
  obtain ⟨r, p, hr, hp, rfl⟩ := Ex.step_shape h
  obtain ⟨h1, h2, _⟩ := Ex.stepPS_hist (P := fun _ => True) (fun _ _ _ => trivial) (Ex.good_inv hG hr) trivial hA hp
  exact ⟨h1, h2.1⟩

/-- **every reachable world satisfies `WInv`**: from the constructed world `w0` (everybody alive with
legal vitals: `vitalsAlive`; configuration facts `CfgOK`), after ANY history of resets (component
order and tape arbitrary, each covered by `Ex.ResetOK`), steps (any action dicts whose moves are in
the declared spaces, any tapes), observations, reward reads and done queries — as soon as one reset
has succeeded the world satisfies the C03 invariant and has the static part it was built with. -/
theorem examples_reachable_WInv (cfg : Ex.Cfg) (w0 : World) (hcfg : CfgOK w0) (hfresh : w0.vitalsAlive = true)
    (t0 : Tape) (ops : List Ex.EOp) (hops : ∀ op ∈ ops, Ex.OpOK cfg w0 op) :
    let s := (Ex.runOps cfg { w := w0, tape := t0 } ops).2
    s.rewards.isSome = true → s.w.WInv = true ∧ SFrame w0 s.w := by
  intro s hs
  have hG : Ex.Good cfg w0 s := (Ex.runOps_live hcfg hfresh ops _ hops (Ex.live_init cfg w0 t0)).good
  obtain ⟨r, hr⟩ := Option.isSome_iff_exists.mp hs
  exact ⟨(Ex.good_inv hG hr).xinv.inv, hG.frame⟩

/-- the states a manager can drive the `SimIface` instance into: resets (in the order `cfg.comps`), getter
calls, and steps whose action dicts satisfy `Ex.ActsOK` (moves in the declared spaces) -/
inductive Ex.Reach (cfg : Ex.Cfg) (w0 : World) (n : Nat) : Ex.St → Prop where
  | init (t : Tape) : Ex.Reach cfg w0 n { w := w0, tape := t }
  | reset {s} : Ex.Reach cfg w0 n s → Ex.Reach cfg w0 n ((Ex.toSimIface cfg n).reset s)
  | step {s} (acts) : Ex.Reach cfg w0 n s → Ex.ActsOK cfg w0 acts → Ex.Reach cfg w0 n ((Ex.toSimIface cfg n).step s acts)
  | obs {s} (a) : Ex.Reach cfg w0 n s → Ex.Reach cfg w0 n ((Ex.toSimIface cfg n).obs s a).2
  | reward {s} (a) : Ex.Reach cfg w0 n s → Ex.Reach cfg w0 n ((Ex.toSimIface cfg n).reward s a).2

/-- the calls a manager makes are calls of a history: what every covered call keeps (covered: `Ex.OpOK`, resets in
the order `cfg.comps`) holds in every state the managers can reach -/
theorem Ex.Reach.call {cfg : Ex.Cfg} {w0 : World} {n : Nat} {P : Ex.St → Prop} (hR : Ex.ResetOK cfg w0 cfg.comps)
    (h0 : ∀ t, P { w := w0, tape := t })
    (hcall : ∀ s op, Ex.OpOK cfg w0 op → (∀ o t, op = .reset o t → o = cfg.comps) → P s → P (Ex.runOp cfg s op).2)
    {s : Ex.St} (h : Ex.Reach cfg w0 n s) : P s := by
  induction h with
  | init t => exact h0 t
  | @reset s _ ih =>
    rw [Ex.simIface_reset_eq]
    exact hcall s _ hR (fun _ _ e => by cases e; rfl) ih
  | @step s acts _ hA ih =>
    rw [Ex.simIface_step_eq]
    exact hcall s _ hA (fun _ _ e => by cases e) ih
  | @obs s a _ ih =>
    rw [Ex.simIface_obs_eq]
    exact hcall s (.obs a s.tape) trivial (fun _ _ e => by cases e) ih
  | @reward s a _ ih =>
    rw [Ex.simIface_reward_eq]
    exact hcall s (.rew a) trivial (fun _ _ e => by cases e) ih

theorem Ex.Reach.live {cfg : Ex.Cfg} {w0 : World} {n : Nat} (hcfg : CfgOK w0) (hfresh : w0.vitalsAlive = true)
    (hR : Ex.ResetOK cfg w0 cfg.comps) {s : Ex.St} (h : Ex.Reach cfg w0 n s) : Ex.Live cfg w0 s :=
  h.call hR (Ex.live_init cfg w0) (fun s op hop _ => Ex.runOp_live hcfg hfresh s op hop)

/-- every state the managers can reach is good: after the first successful reset its world satisfies
`WInv` -/
theorem examples_simIface_reachable (cfg : Ex.Cfg) (w0 : World) (n : Nat) (hcfg : CfgOK w0)
    (hfresh : w0.vitalsAlive = true) (hR : Ex.ResetOK cfg w0 cfg.comps) {s : Ex.St}
    (h : Ex.Reach cfg w0 n s) : Ex.Good cfg w0 s :=
  (h.live hcfg hfresh hR).good

/-- **a `step` with in-space actions does not raise** (C02: "every action drawn from an agent's declared
action space is accepted and processed without error"): in every state reached by a history as in
`examples_reachable_WInv` (after a successful reset), for every action dict satisfying `Ex.StepOK` —
each item a point of the declared action space of a learning agent of the simulation; for
`MazeNavigationSim` the dict has an item for the navigator, for `TrafficCorridorSimulation` the done
components answer for the acting agents; nothing else (any number of simultaneous attacks, victims
with or without a reward entry: the situations of findings C02-E2 / C02-E3) —
and every tape, `step` returns.  So the totalisation of `Ex.toSimIface` is never used there.  (`Ex.StepOK`
is weaker than the judge's `Ex.stepMustNotRaise`: distinct keys and "nobody is dead" are not needed.) -/
theorem examples_step_noRaise (cfg : Ex.Cfg) (w0 : World) (hcfg : CfgOK w0) (hfresh : w0.vitalsAlive = true)
    (t0 : Tape) (ops : List Ex.EOp) (hops : ∀ op ∈ ops, Ex.OpOK cfg w0 op)
    (acts : List (Aid × Ex.Act)) (hS : Ex.StepOK cfg w0 acts) (t : Tape) :
    let s := (Ex.runOps cfg { w := w0, tape := t0 } ops).2
    s.rewards.isSome = true → ∃ s', Ex.step cfg { s with tape := t } acts = .ok s' := by
  intro s hs
  have hL : Ex.Live cfg w0 s := Ex.runOps_live hcfg hfresh ops _ hops (Ex.live_init cfg w0 t0)
  obtain ⟨r, hr⟩ := Option.isSome_iff_exists.mp hs
  exact Ex.step_ok { s with tape := t } hL.good hr (hL.full r hr) acts hS

/-- `get_reward` does not raise either: in such a state `get_reward` of a learning agent returns (the
reward dict has an entry for every learning agent).  (For `SmartGridWorldSimulation.get_done` see
`Ex.smartDone_ok`.) -/
theorem examples_get_reward_total (cfg : Ex.Cfg) (w0 : World) (hcfg : CfgOK w0) (hfresh : w0.vitalsAlive = true)
    (t0 : Tape) (ops : List Ex.EOp) (hops : ∀ op ∈ ops, Ex.OpOK cfg w0 op)
    (a : Aid) (ha : a < w0.n) (hl : cfg.isLearning a = true) :
    let s := (Ex.runOps cfg { w := w0, tape := t0 } ops).2
    s.rewards.isSome = true → ∃ x s', Ex.getReward cfg s a = .ok (x, s') := by
  intro s hs
  have hL : Ex.Live cfg w0 s := Ex.runOps_live hcfg hfresh ops _ hops (Ex.live_init cfg w0 t0)
  obtain ⟨r, hr⟩ := Option.isSome_iff_exists.mp hs
  obtain ⟨x, hx⟩ : ∃ x, r.lookup a = some x := Option.isSome_iff_exists.mp (hL.full r hr a ha hl)
  unfold Ex.getReward
  simp only [hr, Ex.rewardVal, hx]
  exact ⟨_, _, rfl⟩

/-- **observations of a packaged example lie in the declared spaces**: in every state reached by a
history as in `examples_reachable_WInv` (after a successful reset), for **every** agent of the
simulation, alive or dead (a dead agent's stored position stays on the grid: `Ex.AllInGrid`), and every
tape, `get_obs` returns; the observation is a dict with exactly the keys of the observers that support
the agent, each value inside the space that observer declared (`Ex.obsInSpace`, the Boolean the judge
evaluates) — in particular every channel is the channel of one of the class's observers with a value
inside `Observers.declared`.  Hypotheses as in `C02_grid_observations`: positive encodings,
non-negative initial ammunition. -/
theorem examples_observations_in_space (cfg : Ex.Cfg) (w0 : World) (hcfg : CfgOK w0)
    (hfresh : w0.vitalsAlive = true) (t0 : Tape) (ops : List Ex.EOp) (hops : ∀ op ∈ ops, Ex.OpOK cfg w0 op)
    (ks : List Observers.Kind) (hobs : cfg.observers = some ks)
    (henc : ∀ b < w0.n, 0 < w0.encOf b) (hammo : ∀ b < w0.n, 0 ≤ (w0.cfgOf b).initAmmo)
    (a : Aid) (ha : a < w0.n) :
    let s := (Ex.runOps cfg { w := w0, tape := t0 } ops).2
    s.rewards.isSome = true →
    ∀ t, ∃ o s', Ex.getObs cfg { s with tape := t } a = .ok (o, s') ∧ Ex.obsInSpace s.w a ks o = true ∧
      ∀ p ∈ o, ∃ k ∈ ks, Ex.keyOf k = p.1 ∧ Observers.declared s.w a k p.2 = true := by
  intro s hs t
  have hL : Ex.Live cfg w0 s := Ex.runOps_live hcfg hfresh ops _ hops (Ex.live_init cfg w0 t0)
  obtain ⟨hI, hF⟩ := examples_reachable_WInv cfg w0 hcfg hfresh t0 ops hops hs
  have ha' : a < s.w.n := by rw [hF.sameG.n]; exact ha
  obtain ⟨r, hr⟩ := Option.isSome_iff_exists.mp hs
  obtain ⟨o, s', hget, hin⟩ := Ex.getObs_total (s := { s with tape := t }) hobs hs (.of_WInv hI) ha'
    (hL.inGrid r hr a ha') (sframe_encPos hF henc) (sframe_ammoNonneg hF hammo a ha')
  exact ⟨o, s', hget, hin, Ex.obsInSpace_items hin⟩

/-- **the form the judge evaluates**: for every configuration, constructed world, tape and history, if
the hypotheses `exPre` hold — the world is as the constructors leave it, the history starts with a
reset, every reset order is covered, every step's moves are in the declared spaces — then the model's
own trace satisfies `specEx`: every world after a reset / step
satisfies `WInv` and has the constructed static part; every observation is a dict with exactly the
keys of the observers that support the agent, each value inside the space that observer declared;
`get_obs` / `get_done` / `get_all_done` change neither world nor reward dict and the done getters
return the class's done rule on the current world; `reset` leaves exactly a zero entry per learning
agent, `step` keeps the key list, `get_reward` returns what was in the entry it read and leaves 0
there (read-and-reset, all five classes); a `step` that `stepMustNotRaise` does not raise; the trace
ends with the first call that raises.  Of `exPre` the proof uses the configuration facts, `vitalsAlive`,
the encoding / ammunition clause and the per-call clauses; the conjuncts `noAmmoCb w0` and "the history
starts with a reset" are not needed. -/
theorem examples_hist (cfg : Ex.Cfg) (w0 : World) (t0 : Tape) (ops : List Ex.EOp)
    (hpre : Ex.exPre cfg w0 ops = true) :
    Ex.specEx cfg w0 (Ex.zipOps ops (Ex.runOps cfg { w := w0, tape := t0 } ops).1) = true := by
  obtain ⟨hW, hops⟩ := Ex.exPre_hyps hpre
  exact Ex.specFrom_model hW ops { w := w0, tape := t0 } hops (Ex.live_init cfg w0 t0)

/-- **`reset` of a packaged example forgets**: two objects of the same configuration whose worlds agree
on what the class's state components do not own (`Ex.SameBut`: for `TeamBattleSim` with
`PositionState` and `HealthState` and agents without ammunition or orientation that is just "same
configuration"), reset under the same seed, end in the SAME state — the same world, the same zeroed
reward dict, the same remaining tape — or raise the same error, whatever cells, positions, health,
rewards either had before. -/
theorem examples_reset_forgets (cfg : Ex.Cfg) (order : List StateComp) (s1 s2 : Ex.St)
    (hw : Ex.SameBut order s1.w s2.w) (ht : s1.tape = s2.tape) (hp : order.any StateComp.resetsPos = true) :
    Ex.reset cfg order s1 = Ex.reset cfg order s2 :=
  Ex.reset_forgets cfg order s1 s2 hw ht hp

/-- **C08, used versus fresh twin, for the packaged examples under every manager**: a manager whose
example simulation went through anything (`m1`) and a manager over a newly built one (`m2`), same
kind, same `randomize_action_input`, same seeds: if the reset returns, the episode after it — any
follow-up history — has the same trace on both. -/
theorem examples_fresh_twin (cfg : Ex.Cfg) (n : Nat) (k : MKind)
    (hl : k = .turnBased → (Ex.toSimIface cfg n).learners ≠ []) (m1 m2 : MState Ex.St)
    (hw : Ex.SameBut cfg.comps m1.sim.w m2.sim.w) (hp : cfg.comps.any StateComp.resetsPos = true)
    (hseed : m1.sim.tape = m2.sim.tape) (hok : ∃ s', Ex.reset cfg cfg.comps m2.sim = .ok s')
    (hsh : m1.shuffle = m2.shuffle) (ht : m1.tape = m2.tape) (follow : List (Op Ex.Act)) :
    runOps (Ex.toSimIface cfg n) k m1 (.reset :: follow) = runOps (Ex.toSimIface cfg n) k m2 (.reset :: follow) := by
  apply runOps_reset_eq_of (Ex.toSimIface cfg n) k hl m1 m2 ?_ hsh ht
  obtain ⟨s', hs'⟩ := hok
  have := Ex.reset_forgets cfg cfg.comps m1.sim m2.sim hw hseed hp
  simp only [Ex.toSimIface, this, hs']

/-- in every state the managers can reach, what the class's state components do not own is what it
was in the constructed world: the ghost fields, and health / activity if there is no `HealthState`.  (`hlen` is not
used: it is a clause of the well-formed options in `hR`.) -/
theorem examples_reach_keeps (cfg : Ex.Cfg) (w0 : World) (n : Nat) (hcfg : CfgOK w0)
    (hfresh : w0.vitalsAlive = true) (hR : Ex.ResetOK cfg w0 cfg.comps) (hlen : w0.st.length = w0.cfg.length)
    {s : Ex.St} (h : Ex.Reach cfg w0 n s) : SFrame w0 s.w ∧ Ex.Keeps (Ex.NoHealthComp cfg) w0 s.w := by
  -- along the calls of the managers (the reset order is `cfg.comps`) `Keeps` composes
  suffices hh : Ex.Live cfg w0 s ∧ Ex.Keeps (Ex.NoHealthComp cfg) w0 s.w from ⟨hh.1.good.frame, hh.2⟩
  refine h.call (P := fun s => Ex.Live cfg w0 s ∧ Ex.Keeps (Ex.NoHealthComp cfg) w0 s.w) hR
    (fun t => ⟨Ex.live_init cfg w0 t, Ex.Keeps.refl _ _⟩) (fun s op hop hord hP => ?_)
  refine ⟨Ex.runOp_live hcfg hfresh s op hop hP.1, ?_⟩
  have hc := Ex.runOp_call cfg s op
  generalize (Ex.runOp cfg s op).1 = e at hc
  generalize (Ex.runOp cfg s op).2 = s' at hc ⊢
  have hF := hP.1.good.frame
  cases hc with
  | @reset order tape w' t' h =>
    cases hord order tape rfl
    exact hP.2.trans (Ex.comps_keeps hcfg hR hF h) hF.sameG.cfgOf
  | @step acts tape s1 h =>
    exact hP.2.trans (Ex.step_keeps hR hop (s := { s with tape := tape }) hP.1.good h) hF.sameG.cfgOf
  | _ => exact hP.2

/-- a used object and a newly built one are `Ex.SameBut`: the used world — whatever history of manager
calls as in `Ex.Reach` (steps with `Ex.ActsOK` actions) it went through — agrees with the constructed one on everything the class's state components do
not reset.  Hypotheses: an `AmmoState` is among the components or no agent has ammunition; an
`OrientationState` is among them or no agent has an orientation (otherwise spent ammunition and the
orientation really do survive `reset`). -/
theorem examples_used_sameBut_fresh (cfg : Ex.Cfg) (w0 : World) (n : Nat) (hcfg : CfgOK w0)
    (hfresh : w0.vitalsAlive = true) (hR : Ex.ResetOK cfg w0 cfg.comps) (hlen : w0.st.length = w0.cfg.length)
    (hammo : cfg.comps.any StateComp.resetsAmmo = true ∨ ∀ a, (w0.cfgOf a).hasAmmo = false)
    (horient : cfg.comps.any StateComp.resetsOrient = true ∨ ∀ a, (w0.cfgOf a).hasOrient = false)
    {s : Ex.St} (h : Ex.Reach cfg w0 n s) : Ex.SameBut cfg.comps s.w w0 := by
  obtain ⟨hF, hK⟩ := examples_reach_keeps cfg w0 n hcfg hfresh hR hlen h
  exact Ex.SameBut.of_keeps hF hK hlen id hammo horient

/-- **C08 for the packaged examples, used versus fresh, full form**: a manager whose example simulation
went through any history of manager calls as in `Ex.Reach` (`m1.sim` reachable from the constructed world
by resets, getter calls and steps with `Ex.ActsOK` actions) and a manager
over the newly built simulation (`m2.sim` is the constructed world), same kind, same
`randomize_action_input`, same seeds: if the reset returns, the episode after it — any follow-up
history — has the same trace on both. -/
theorem examples_fresh_twin_reachable (cfg : Ex.Cfg) (w0 : World) (n : Nat) (k : MKind) (hcfg : CfgOK w0)
    (hfresh : w0.vitalsAlive = true) (hR : Ex.ResetOK cfg w0 cfg.comps) (hlen : w0.st.length = w0.cfg.length)
    (hammo : cfg.comps.any StateComp.resetsAmmo = true ∨ ∀ a, (w0.cfgOf a).hasAmmo = false)
    (horient : cfg.comps.any StateComp.resetsOrient = true ∨ ∀ a, (w0.cfgOf a).hasOrient = false)
    (hl : k = .turnBased → (Ex.toSimIface cfg n).learners ≠ []) (m1 m2 : MState Ex.St)
    (hused : Ex.Reach cfg w0 n m1.sim) (seed : Tape) (hnew : m2.sim = { w := w0, tape := seed })
    (hseed : m1.sim.tape = seed) (hok : ∃ s', Ex.reset cfg cfg.comps m2.sim = .ok s')
    (hsh : m1.shuffle = m2.shuffle) (ht : m1.tape = m2.tape) (follow : List (Op Ex.Act)) :
    runOps (Ex.toSimIface cfg n) k m1 (.reset :: follow) = runOps (Ex.toSimIface cfg n) k m2 (.reset :: follow) := by
  have hsb := examples_used_sameBut_fresh cfg w0 n hcfg hfresh hR hlen hammo horient hused
  have hp : cfg.comps.any StateComp.resetsPos = true := by
    obtain ⟨kind, o, hm⟩ := hR.pos
    exact List.any_eq_true.mpr ⟨_, hm, rfl⟩
  exact examples_fresh_twin cfg n k hl m1 m2 (by rw [hnew]; exact hsb) hp (by rw [hnew]; exact hseed) hok hsh ht follow

/-! ## Non-vacuity: a concrete `TeamBattleSim` history with a kill, reward reads, two episodes -/

/-- a `TeamBattleSim` with two `BattleAgent`s of opposing teams facing each other on a 1×2 grid -/
def exTBCfg : Ex.Cfg :=
  { which := .teamBattle, learning := [true, true], comps := [.position .position {}, .health],
    observers := some [.centered true], dones := some [.oneTeam],
    attack := ⟨.binary, [(1, [2]), (2, [1])], false⟩ }

def exTBAgent (enc : Int) (p : Pos) : AgentCfg :=
  { enc := enc, initPos := some p, initHealth := some 1, moving := true, moveRange := 1, attacking := true,
    attackRange := 1, strength := 1, accuracy := 1, simAttacks := 1, observing := true, viewRange := 1 }

def exTBWorld : World :=
  { rows := 1, cols := 2, overlap := [(1, [1]), (2, [2])], cells := [[], []],
    cfg := [exTBAgent 1 (0, 0), exTBAgent 2 (0, 1)], st := [{}, {}] }

/-- reset; agent 0 attacks (and kills agent 1, which tries to move) — rewards +1−0.01 and −1−0.01; reads;
a second episode -/
def exTBOps : List Ex.EOp :=
  [.reset [.health, .position .position {}] [],
   .step [(1, { move := (0, -1), attack := .count 0 }), (0, { move := (0, 0), attack := .count 1 })] [0, 0, 0],
   .rew 0, .rew 1, .rew 1, .done 1, .allDone, .obs 0 [0, 0, 0],
   .reset [.position .position {}, .health] [], .allDone]

example : Ex.exPre exTBCfg exTBWorld exTBOps = true := by decide +kernel

/-- the history really contains a death, the rewards 0.99 and −1.01 (in hundredths), a second read that
gives 0, a finished episode and a second one that is not finished -/
example :
    ((Ex.runOps exTBCfg { w := exTBWorld } exTBOps).1.map (·.res)) =
      [.unit, .unit, .int 99, .int (-101), .int 0, .bool true, .bool true,
       .obs [("position_centered_encoding", .grid [[-1, -1, -1], [-1, 1, 0], [-1, -1, -1]])],
       .unit, .bool false] := by
  decide +kernel

/-- the history passes the judge, by the theorem -/
example : Ex.specEx exTBCfg exTBWorld
    (Ex.zipOps exTBOps (Ex.runOps exTBCfg { w := exTBWorld } exTBOps).1) = true :=
  examples_hist _ _ _ _ (by decide +kernel)

/-- the judge rejects a trace in which the dead agent's reward is delivered twice -/
example :
    let tr := (Ex.runOps exTBCfg { w := exTBWorld } exTBOps).1
    Ex.specEx exTBCfg exTBWorld
      (Ex.zipOps exTBOps (tr.modify 4 fun e => { e with res := .int (-101) })) = false := by
  decide +kernel

/-- a `MultiMazeNavigationSim`: the target (agent 0, encoding 1) and a navigator (agent 1, encoding 3)
on a 1×2 grid -/
def exMMCfg : Ex.Cfg :=
  { which := .multiMaze, learning := [false, true], comps := [.position .position {}],
    observers := some [.centered true], dones := none, target := 0, navs := [1] }

def exMMWorld : World :=
  { rows := 1, cols := 2, overlap := [(1, [3]), (3, [1, 3])], cells := [[], []],
    cfg := [{ enc := 1, initPos := some (0, 1) },
            { enc := 3, initPos := some (0, 0), moving := true, moveRange := 1, observing := true, viewRange := 1 }],
    st := [{}, {}] }

/-- reset; the navigator bumps into the border (−0.1 −0.01), then steps onto the target (+1 −0.01);
the reward is read twice -/
def exMMOps : List Ex.EOp :=
  [.reset [.position .position {}] [],
   .step [(1, { move := (0, -1) })] [], .rew 1,
   .step [(1, { move := (0, 1) })] [], .done 1, .allDone, .rew 1, .rew 1]

/-- the reward for reaching the target is delivered exactly once (what finding C01-E1 was about): 0.99
at the first read after the arrival, 0 at the second, although the navigator still stands there -/
example :
    ((Ex.runOps exMMCfg { w := exMMWorld } exMMOps).1.map (·.res)) =
      [.unit, .unit, .int (-11), .unit, .bool true, .bool true, .int 99, .int 0] := by
  decide +kernel

example : Ex.specEx exMMCfg exMMWorld
    (Ex.zipOps exMMOps (Ex.runOps exMMCfg { w := exMMWorld } exMMOps).1) = true :=
  examples_hist _ _ _ _ (by decide +kernel)

end Abmarl
