import Abmarl.Lemmas.PlacementSpec
/-!
# C13 — Reset places every agent legally and as the placement options prescribe

Model: `Model/Placement.lean` (`PositionState`, `TargetBarriersFreePlacementState`,
`MazePlacementState`), `Model/Maze.lean` (`generate_maze`).  Specification: `Spec/Placement.lean`
(`specPlacement`, `specMaze`, hypothesis `wfPlacement`).

The theorems are for every prior world, option combination and tape: `place_ok_spec` (the three resets),
`avail_sound`, `avail_invariant`, `avail_sorted`, `avail_takes_last` (the availability lists), `fail_explicit`,
`reset_establishes_position_invariant` (reused by C03), `maze_connected`, `maze_terminates`.  The readings `c13_*`
say in Prop form what the Bool specifications mean.
-/
namespace Abmarl
open World

theorem placementReset_position (o : PlaceOpts) (w : World) (t : Tape) :
    placementReset .position o w t = positionReset o w t := rfl
theorem placementReset_target (o : PlaceOpts) (w : World) (t : Tape) :
    placementReset .target o w t = targetReset o w t := rfl
theorem placementReset_maze (o : PlaceOpts) (w : World) (t : Tape) :
    placementReset .maze o w t = mazeReset o w t := rfl

/-- **C13** — for every placement state, every prior world, option combination and tape, the
outcome of the model's `reset` satisfies the decidable specification `specPlacement`. -/
theorem place_ok_spec (kind : PKind) (o : PlaceOpts) (w : World) (t : Tape)
    (hwf : wfPlacement kind o w = true) :
    specPlacement kind o w t (resetX kind o w t).1 = true := by
  unfold resetX
  by_cases hk : kind = .position
  · subst hk
    simp only [beq_self_eq_true, if_true]
    exact position_spec o w t hwf
  · have : (kind == PKind.position) = false := by simpa using hk
    simp only [this, Bool.false_eq_true, if_false]
    exact tb_spec kind hk o w t hwf

theorem place_ok_spec_position (o : PlaceOpts) (w : World) (t : Tape)
    (hwf : wfPlacement .position o w = true) :
    specPlacement .position o w t (positionResetX o w t).1 = true := position_spec o w t hwf

theorem place_ok_spec_target (o : PlaceOpts) (w : World) (t : Tape)
    (hwf : wfPlacement .target o w = true) :
    specPlacement .target o w t (tbResetX .target o w t).1 = true :=
  tb_spec .target (by decide) o w t hwf

theorem place_ok_spec_maze (o : PlaceOpts) (w : World) (t : Tape)
    (hwf : wfPlacement .maze o w = true) :
    specPlacement .maze o w t (tbResetX .maze o w t).1 = true :=
  tb_spec .maze (by decide) o w t hwf

/-- In every state of a reset (`PInv`), the availability list of an encoding
contains exactly the cells of its base list that `Grid.query` accepts for an agent of that
encoding — with no-overlap-at-reset: exactly the empty ones.  (Uses the symmetry of the table.) -/
theorem avail_sound {w0 : World} {no : Bool} {base : Int → List Nat} {s : PSt}
    (hI : PInv w0 no base s) (hsym : w0.wOverlapSym = true) {x : Int × List Nat} (hx : x ∈ s.av)
    {a : Aid} (henc : s.w.encOf a = x.1) {c : Nat} (hc : c < w0.rows * w0.cols) :
    c ∈ x.2 ↔ (c ∈ base x.1 ∧
      (if no then s.w.cells.getD c [] = [] else s.w.query a (s.w.unravel c) = true)) := by
  rw [hI.avail x hx, List.mem_filter, okCell_eq_availRule (hI.sym hsym), ← henc]
  cases no with
  | true => simp [availRule]
  | false =>
    have := joinOK_query s.w a (s.w.unravel c)
    rw [idx_unravel] at this
    simp [availRule, this]

/-- `PInv` holds right after `grid.reset()` + `_build_available_positions`,
and every successful `place` + `_update_available_positions` keeps it. -/
theorem avail_invariant :
    (∀ (w : World) (no : Bool) (base : Int → List Nat) (av : Avail) (t : Tape),
      w.st.length = w.cfg.length → (∀ x ∈ av, x.2 = base x.1) →
      PInv w.gridReset no base ⟨w.gridReset, av, t⟩) ∧
    (∀ {w0 : World} {no : Bool} {base : Int → List Nat} {s : PSt} {a : Aid} {p : Pos},
      PInv w0 no base s → w0.wOverlapSym = true → (∀ e, (base e).Nodup) → a < w0.n →
      Unplaced s.w a → s.w.inGrid p = true → s.w.query a p = true →
      ∃ s', placeAt no s a p = .ok s' ∧ PInv w0 no base s') :=
  ⟨pinv_init, fun hI hs hb ha hu hi hq => ⟨_, placeAt_eq hi hq (hu _), hI.placed hs hb ha hu hi hq⟩⟩

/-- (1) `_update_available_positions` keeps every list sorted, whatever the
order relation; (2) in every state of a reset the lists are sorted as their base lists are;
(3) in a sorted list every element is related to the last one (the cell the clustered / scattered
placement takes: `avail_takes_last`). -/
theorem avail_sorted :
    (∀ (R : Nat → Nat → Prop) (w : World) (no : Bool) (av : Avail) (pe : Int) (k : Nat),
      (∀ x ∈ av, x.2.Pairwise R) → ∀ x ∈ updateAvail w no av pe k, x.2.Pairwise R) ∧
    (∀ (R : Nat → Nat → Prop) {w0 : World} {no : Bool} {base : Int → List Nat} {s : PSt},
      PInv w0 no base s → ∀ x ∈ s.av, (base x.1).Pairwise R → x.2.Pairwise R) ∧
    (∀ (R : Nat → Nat → Prop) (l : List Nat) (k c : Nat), l.Pairwise R → l.getLast? = some k → c ∈ l →
      c = k ∨ R c k) := by
  refine ⟨?_, ?_, fun R l k c h1 h2 h3 => pairwise_last h1 h2 h3⟩
  · intro R w no av pe k h x hx
    simp only [updateAvail, List.mem_map] at hx
    obtain ⟨y, hy, rfl⟩ := hx
    split
    · exact (h y hy).sublist List.erase_sublist
    · exact h y hy
  · intro R w0 no base s hI x hx hR
    rw [hI.avail x hx]; exact hR.filter _

/-- the clustered / scattered placement takes the last element of the list of its encoding -/
theorem avail_takes_last {o : PlaceOpts} {s : PSt} {a : Aid} {l : List Nat} {k : Nat}
    (hu : o.useLast (s.w.encOf a) = true) (hl : s.av.lookup (s.w.encOf a) = some l)
    (hk : l.getLast? = some k) :
    placeVarTB o s a = placeAt o.noOverlap s a (s.w.unravel k) := by
  simp [placeVarTB, hu, hl, hk]

/-- **C13, failure** — a failure that `specPlacement` accepts is explicit and justified -/
theorem c13_failure_reading {kind : PKind} {o : PlaceOpts} {w : World} {t : Tape} {out : PlaceOut}
    {e : GErr} (h : specPlacement kind o w t out = true) (herr : out.err = some e) :
    (e = .assertion ∨ e = .noCell) ∧
    ∃ a ∈ placementOrder kind o w t, placedIn out.post a = false ∧
      errJustified kind o out.post (mazeOf kind o w t out.post) out.post.cells a (some e) = true := by
  obtain ⟨a, ha, h1, h2⟩ := (replay_reading _ _ (specPlacement_iff.mp h).2.2).2 e herr
  exact ⟨by cases e <;> simp [errJustified] at h2 ⊢, a, ha, h1, h2⟩

/-- If a reset fails, it fails with the explicit `assertion` or `noCell`
error (never another exception), and some agent of the placement order is not in the grid while the
documented reason holds for it (`c13_noCell_reading`, `c13_assertion_reading`). -/
theorem fail_explicit (kind : PKind) (o : PlaceOpts) (w : World) (t : Tape)
    (hwf : wfPlacement kind o w = true) (e : GErr) (herr : (resetX kind o w t).1.err = some e) :
    (e = .assertion ∨ e = .noCell) ∧
    ∃ a ∈ placementOrder kind o w t, placedIn (resetX kind o w t).1.post a = false ∧
      errJustified kind o (resetX kind o w t).1.post (mazeOf kind o w t (resetX kind o w t).1.post)
        (resetX kind o w t).1.post.cells a (some e) = true :=
  c13_failure_reading (place_ok_spec kind o w t hwf) herr

theorem spec_ok_parts {kind : PKind} {o : PlaceOpts} {w : World} {t : Tape} {out : PlaceOut}
    (h : specPlacement kind o w t out = true) (herr : out.err = none) :
    out.post.posInv = true ∧ fixedOnInit out.post = true ∧ aloneFinal o out.post = true ∧
    (kind = .maze → Maze.specMaze out.post.rows out.post.cols (out.post.stOf o.target).pos
      (mazeOf kind o w t out.post) = true) ∧
    replay kind o out.post (mazeOf kind o w t out.post) none (placementOrder kind o w t)
      (List.replicate (w.rows * w.cols) []) = true := by
  obtain ⟨-, hs, hr⟩ := specPlacement_iff.mp h
  obtain ⟨h1, h2, h3, h4⟩ := hs herr
  exact ⟨h1, h2, h3, h4, herr ▸ hr⟩

/-- from the `Except`-typed view to `resetX`, of which `place_ok_spec` speaks -/
theorem placementReset_ok {kind : PKind} {o : PlaceOpts} {w : World} {t : Tape} {w' : World} {t' : Tape}
    (h : placementReset kind o w t = .ok (w', t')) :
    (resetX kind o w t).1.err = none ∧ (resetX kind o w t).1.post = w' := by
  unfold placementReset PlaceOut.toExcept at h
  cases herr : (resetX kind o w t).1.err with
  | some e => rw [herr] at h; cases h
  | none =>
    rw [herr] at h
    simp only [Except.ok.injEq, Prod.mk.injEq] at h
    exact ⟨rfl, h.1⟩

/-- Whatever the prior world (dirty cells, moved or dead
agents), after a successful reset of any of the three placement states the cell table has the
right shape, whoever is stored in a cell is a real agent whose position is that cell, once,
co-occupants may pairwise overlap, and every agent is stored in the cell of its in-grid position
(`c13_posInv_reading`).  Health, ammunition and orientation are other components' business. -/
theorem reset_establishes_position_invariant (kind : PKind) (o : PlaceOpts) (w : World) (t : Tape)
    (w' : World) (t' : Tape) (hwf : wfPlacement kind o w = true)
    (h : placementReset kind o w t = .ok (w', t')) : w'.posInv = true := by
  obtain ⟨herr, hw⟩ := placementReset_ok h
  rw [← hw]
  exact (spec_ok_parts (place_ok_spec kind o w t hwf) herr).1

/-- the reading of `specMaze`: a table of `rows*cols` cells with values 0/1, the start is a passage
inside the grid, and every passage is connected to the start through passages -/
theorem c13_maze_reading {rows cols : Nat} {start : Pos} {m : List Nat}
    (h : Maze.specMaze rows cols start m = true) :
    m.length = rows * cols ∧ (∀ v ∈ m, v ≤ 1) ∧ Maze.startInGrid rows cols start ∧
    m.getD (Maze.startIdx cols start) 1 = 0 ∧
    ∀ i, i < rows * cols → m.getD i 1 = 0 →
      Maze.Conn rows cols m (Maze.startIdx cols start) i := by
  obtain ⟨h1, h2, h3, h4, h5⟩ := Maze.specMaze_iff.mp h
  exact ⟨h1, h2, h3, h4, fun i hi hz => (h5 i hi hz).conn⟩

/-- For every size, start and tape: the maze returned by `generateMaze`
satisfies `specMaze`; in particular (`c13_maze_reading`) the start is a passage and every passage
is connected to it through 4-adjacent passages. -/
theorem maze_connected (rows cols : Nat) (start : Pos) (t : Tape) (m : List Nat) (t' : Tape)
    (h : Maze.generateMaze rows cols start t = .ok (m, t')) :
    Maze.specMaze rows cols start m = true ∧
    ∀ i, i < rows * cols → m.getD i 1 = 0 → Maze.Conn rows cols m (Maze.startIdx cols start) i :=
  ⟨Maze.generateMaze_spec h, (c13_maze_reading (Maze.generateMaze_spec h)).2.2.2.2⟩

/-- With the start inside the grid the frontier loop ends within the fuel
`(rows+2)*(cols+2)`: `generateMaze` returns a maze for every tape. -/
theorem maze_terminates (rows cols : Nat) (start : Pos) (t : Tape)
    (hs : 0 ≤ start.1 ∧ start.1 < rows ∧ 0 ≤ start.2 ∧ start.2 < cols) :
    ∃ m t', Maze.generateMaze rows cols start t = .ok (m, t') := by
  obtain ⟨r, hr⟩ := Maze.generateMaze_ok rows cols start t hs
  exact ⟨r.1, r.2, hr⟩

/-- the position part of the C03 invariant, in Prop form -/
theorem c13_posInv_reading {w : World} (h : w.posInv = true) :
    w.cells.length = w.rows * w.cols ∧ w.st.length = w.cfg.length ∧
    (∀ i, i < w.rows * w.cols →
      (w.cells.getD i []).Nodup ∧
      (∀ a ∈ w.cells.getD i [], a < w.n ∧ w.inGrid (w.stOf a).pos = true ∧ w.idx (w.stOf a).pos = i) ∧
      (∀ a ∈ w.cells.getD i [], ∀ b ∈ w.cells.getD i [], a ≠ b →
        w.pairOK (w.encOf a) (w.encOf b) = true)) ∧
    (∀ a, a < w.n → w.inGrid (w.stOf a).pos = true ∧ a ∈ w.cell (w.stOf a).pos) :=
  (posInv_iff w).mp h

theorem c13_fixed_reading {w' : World} (h : fixedOnInit w' = true) :
    ∀ a, a < w'.n → ∀ q, (w'.cfgOf a).initPos = some q → (w'.stOf a).pos = q :=
  fixedOnInit_iff.mp h

theorem c13_alone_reading {o : PlaceOpts} {w' : World} (h : aloneFinal o w' = true)
    (hn : o.noOverlap = true) :
    ∀ a, a < w'.n → (w'.cfgOf a).initPos = none → w'.cell (w'.stOf a).pos = [a] :=
  aloneFinal_iff.mp h hn

/-- what `stepOK` says about an agent at the moment it is placed (`cells` = the cell table then):
inside the grid; may overlap with everybody on its cell; on its initial position if it has one;
otherwise (and unless it is the target of a target/maze state): alone when no-overlap-at-reset is
on, on a wall (barrier encoding) / passage (free encoding) cell of the maze, and — when its
encoding is clustered (scattered) — not farther from (nearer to) the target than any cell that
was available to its encoding. -/
theorem c13_stepOK_reading {kind : PKind} {o : PlaceOpts} {w' : World} {mz : List Nat}
    {cells : List (List Aid)} {a : Aid} (h : stepOK kind o w' mz cells a = true) :
    w'.inGrid (w'.stOf a).pos = true ∧
    (∀ b ∈ cells.getD (w'.idx (w'.stOf a).pos) [], w'.pairOK (w'.encOf a) (w'.encOf b) = true) ∧
    (∀ q, (w'.cfgOf a).initPos = some q → (w'.stOf a).pos = q) ∧
    ((w'.cfgOf a).initPos = none → isTargetRole kind o a = false →
      (o.noOverlap = true → cells.getD (w'.idx (w'.stOf a).pos) [] = []) ∧
      baseOK kind o mz (w'.encOf a) (w'.idx (w'.stOf a).pos) = true ∧
      (kind ≠ .position → o.useLast (w'.encOf a) = true → ∀ c, c < w'.rows * w'.cols →
        baseOK kind o mz (w'.encOf a) c = true →
        availRule w' o.noOverlap cells (w'.encOf a) c = true →
        ((o.barrier.contains (w'.encOf a) && o.cluster) = true →
          sqDist (w'.stOf a).pos (w'.stOf o.target).pos ≤
            sqDist (w'.unravel c) (w'.stOf o.target).pos) ∧
        ((o.barrier.contains (w'.encOf a) && o.cluster) = false →
          sqDist (w'.unravel c) (w'.stOf o.target).pos ≤
            sqDist (w'.stOf a).pos (w'.stOf o.target).pos))) := by
  obtain ⟨⟨h1, h2, _⟩, h3, h4⟩ := stepOK_iff.mp h
  refine ⟨h1, by simpa [joinOK, List.all_eq_true] using h2, h3, fun hi ht => ?_⟩
  obtain ⟨g1, g2, g3⟩ := h4 hi ht
  refine ⟨g1, g2, fun hk hu c hc hb hav => ?_⟩
  have := g3 hk hu c hc hb hav
  unfold Better at this
  constructor
  · intro hd
    rwa [if_pos hd] at this
  · intro hd
    rwa [if_neg (Bool.eq_false_iff.mp hd)] at this

/-- a `noCell` failure is justified only for a freely placed agent to whose encoding no cell of the
grid (no wall / passage cell of the maze) was available -/
theorem c13_noCell_reading {kind : PKind} {o : PlaceOpts} {w' : World} {mz : List Nat}
    {cells : List (List Aid)} {a : Aid} (h : errJustified kind o w' mz cells a (some .noCell) = true) :
    isTargetRole kind o a = false ∧ (w'.cfgOf a).initPos = none ∧
    ∀ c, c < w'.rows * w'.cols →
      ¬ (baseOK kind o mz (w'.encOf a) c = true ∧ availRule w' o.noOverlap cells (w'.encOf a) c = true) := by
  simp only [errJustified, Bool.and_eq_true, Bool.not_eq_true', List.all_eq_true, isFixed] at h
  obtain ⟨⟨h1, h2⟩, h3⟩ := h
  refine ⟨h1, ?_, ?_⟩
  · cases hi : (w'.cfgOf a).initPos with
    | none => rfl
    | some q => rw [hi] at h2; cases h2
  · intro c hc ⟨hb, hav⟩
    have := h3 c (by simpa [allCells] using hc)
    rw [hb, hav] at this; cases this

/-- an `assertion` failure is justified only (a) at the target of a target/maze state, when some encoding
is neither a barrier nor a free encoding, or (b) for another agent, whose initial position is a cell
inside the grid that it may not join -/
theorem c13_assertion_reading {kind : PKind} {o : PlaceOpts} {w' : World} {mz : List Nat}
    {cells : List (List Aid)} {a : Aid}
    (h : errJustified kind o w' mz cells a (some .assertion) = true) :
    (isTargetRole kind o a = true ∧ ∃ c ∈ w'.cfg, (o.barrier ++ o.free).contains c.enc = false) ∨
    (isTargetRole kind o a = false ∧ ∃ q, (w'.cfgOf a).initPos = some q ∧ w'.inGrid q = true ∧
      ∃ b ∈ cells.getD (w'.idx q) [], w'.pairOK (w'.encOf a) (w'.encOf b) = false) := by
  unfold errJustified at h
  simp only at h
  cases ht : isTargetRole kind o a with
  | true =>
    left
    rw [ht] at h
    simp only [if_true, Bool.not_eq_true', List.all_eq_false] at h
    obtain ⟨c, hc, hcc⟩ := h
    exact ⟨rfl, c, hc, by simpa using hcc⟩
  | false =>
    right
    rw [ht] at h
    simp only [Bool.false_eq_true, if_false] at h
    cases hi : (w'.cfgOf a).initPos with
    | none => rw [hi] at h; cases h
    | some q =>
      rw [hi] at h
      simp only [Bool.and_eq_true, Bool.not_eq_true', joinOK, List.all_eq_false] at h
      obtain ⟨h1, b, hb, hbb⟩ := h
      exact ⟨rfl, q, rfl, h1, b, hb, by simpa using hbb⟩

/-- **C13, success** — whenever a reset that `specPlacement` accepts succeeded: the position
invariant holds, agents with an initial position stand on it, with no-overlap-at-reset every
agent without an initial position is alone, the maze (maze state) is connected to the target, and
every agent of the placement order is in the grid and satisfies `stepOK` for SOME cell table (the
table of its moment is what `replay` inside `specPlacement` uses; here it is existential). -/
theorem c13_success_reading {kind : PKind} {o : PlaceOpts} {w : World} {t : Tape} {out : PlaceOut}
    (h : specPlacement kind o w t out = true) (herr : out.err = none) :
    out.post.posInv = true ∧ fixedOnInit out.post = true ∧ aloneFinal o out.post = true ∧
    (kind = .maze → Maze.specMaze out.post.rows out.post.cols (out.post.stOf o.target).pos
      (mazeOf kind o w t out.post) = true) ∧
    ∀ a ∈ placementOrder kind o w t, placedIn out.post a = true ∧
      ∃ cells, stepOK kind o out.post (mazeOf kind o w t out.post) cells a = true := by
  obtain ⟨h1, h2, h3, h4, h5⟩ := spec_ok_parts h herr
  exact ⟨h1, h2, h3, h4, (replay_reading _ _ h5).1 rfl⟩

/-- a 2×3 world, dirty from an earlier episode (agent 1 is dead, the cell table is stale): agent 0
(encoding 1) has the initial position (0,1); agents 1 (encoding 2) and 2 (encoding 1) are placed
freely; encodings 1 and 2 may overlap with each other but not with themselves -/
def exPlace : World :=
  { rows := 2, cols := 3, overlap := [(1, [2]), (2, [1])],
    cells := [[2], [], [], [], [0, 1], []],
    cfg := [{ enc := 1, initPos := some (0, 1) }, { enc := 2 }, { enc := 1 }],
    st := [{ pos := (1, 1) }, { pos := (1, 1), health := 0, active := false }, { pos := (0, 0) }] }

example : wfPlacement .position {} exPlace = true := by decide +kernel
/-- the draws 3 and 4 put agent 1 on cell 3 = (1,0) and agent 2 on the fifth cell that is still
available to encoding 1, (1,2); vitals are untouched -/
example : (positionResetX {} exPlace [3, 4]).1 =
    ⟨none, { exPlace with
      cells := [[], [0], [], [1], [], [2]],
      st := [{ pos := (0, 1) }, { pos := (1, 0), health := 0, active := false }, { pos := (1, 2) }] }⟩ := by
  decide +kernel
example : specPlacement .position {} exPlace [3, 4] (positionResetX {} exPlace [3, 4]).1 = true := by decide +kernel
/-- an illegal outcome is rejected by the judge: agents 0 and 2 (both encoding 1) on one cell -/
example : specPlacement .position {} exPlace [3, 4]
    ⟨none, { exPlace with
      cells := [[], [0, 2], [], [1], [], []],
      st := [{ pos := (0, 1) }, { pos := (1, 0), health := 0, active := false }, { pos := (0, 1) }] }⟩ = false := by
  decide +kernel
/-- and so is a made-up failure -/
example : specPlacement .position {} exPlace [3, 4]
    ⟨some .noCell, { exPlace with
      cells := [[], [0], [], [], [], []],
      st := [{ pos := (0, 1) }, { pos := (1, 1), health := 0, active := false }, { pos := (0, 0) }] }⟩ = false := by
  decide +kernel

/-- a 3×3 maze from the corner -/
example : (match Maze.generateMaze 3 3 (0, 0) [1, 0, 2, 1, 0, 5] with
    | .ok r => r.1 == [0, 0, 0, 0, 1, 0, 0, 0, 1] | .error _ => false) = true := by decide +kernel
example : Maze.specMaze 3 3 (0, 0) [0, 0, 0, 0, 1, 0, 0, 0, 1] = true := by decide +kernel
/-- a maze with a passage cut off from the start is rejected -/
example : Maze.specMaze 3 3 (0, 0) [0, 1, 0, 0, 1, 0, 0, 1, 0] = false := by decide +kernel

/-- **finding C13-K1** (outside `wfPlacement`): no-overlap-at-reset is on, the target (agent 0) has
no initial position and is drawn onto (0,0); agent 1, whose initial position is (0,0) and which may
overlap with the target, is placed on the same cell.  The model reproduces the real outcome and the
specification rejects it: the randomly placed target is not alone. -/
def exK1 : World :=
  { rows := 1, cols := 2, overlap := [(1, [1])], cells := [[], []],
    cfg := [{ enc := 1 }, { enc := 1, initPos := some (0, 0) }], st := [{}, {}] }
def optsK1 : PlaceOpts := { noOverlap := true, free := [1] }
example : wfPlacement .target optsK1 exK1 = false := by decide +kernel
example : (tbResetX .target optsK1 exK1 [0, 0]).1.post.cells = [[0, 1], []] := by decide +kernel
example : specPlacement .target optsK1 exK1 [0, 0] (tbResetX .target optsK1 exK1 [0, 0]).1 = false := by decide +kernel

end Abmarl
