import Abmarl.Props.Pacman
/-!
# The packaged configuration (`examples/rllib_pacman.py`: `PacmanSimSimple.example_grid`) satisfies `PM.cfgWF ∧ PM.teleSafe`

`exGrid` is `PacmanSimSimple.example_grid` of `abmarl/examples/sim/pacman.py` (21 rows × 19 columns) with the encodings of the
object registry of `examples/rllib_pacman.py` in place of the characters (`_` = 0, `P` = 1, `W` = 2, `F` = 3, `B` = 4);
`build_sim_from_array` creates the agents in row-major order (366 of them: pacman, 5 baddies `baddie_0 … baddie_4` in that
order, 166 pieces of food, 194 walls).  `exGridWorld` is the world after `reset` (everybody on its initial position, alive,
orientation 1); the overlap table is `{1: {3, 4}, 4: {3, 4}}` as the setter of `Grid.overlapping` symmetrises it;
`exGridCfg` the `PM.Cfg` of that `PacmanSimSimple` (reward scheme `bad_move 0, entropy -0.01, eat_food 0.2, die -1`).

All 366 agents are covered by an argument that holds for every layout: each object is an agent with the vitals of a
constructed agent, it stands alone on its own cell, and its class is read off its encoding.  Only single facts about the
packaged layout are evaluated (which object is pacman, which are the baddies, the teleport cells are empty).
-/
namespace Abmarl
open World

/-- `PacmanSimSimple.example_grid`, encodings for characters -/
def exGrid : List (List Nat) :=
  [[2, 2, 2, 2, 2, 2, 2, 2, 2, 2, 2, 2, 2, 2, 2, 2, 2, 2, 2],
   [2, 4, 3, 3, 3, 3, 3, 3, 3, 2, 3, 3, 3, 3, 3, 3, 3, 4, 2],
   [2, 3, 2, 2, 3, 2, 2, 2, 3, 2, 3, 2, 2, 2, 3, 2, 2, 3, 2],
   [2, 3, 3, 3, 3, 3, 3, 3, 3, 3, 3, 3, 3, 3, 3, 3, 3, 3, 2],
   [2, 3, 2, 2, 3, 2, 3, 2, 2, 2, 2, 2, 3, 2, 3, 2, 2, 3, 2],
   [2, 3, 3, 3, 3, 2, 3, 3, 3, 2, 3, 3, 3, 2, 3, 3, 3, 3, 2],
   [2, 2, 2, 2, 3, 2, 2, 2, 0, 2, 0, 2, 2, 2, 3, 2, 2, 2, 2],
   [2, 3, 3, 2, 3, 2, 0, 0, 0, 0, 0, 0, 0, 2, 3, 2, 3, 3, 2],
   [2, 3, 3, 2, 3, 2, 0, 2, 2, 3, 2, 2, 0, 2, 3, 2, 3, 3, 2],
   [0, 0, 0, 0, 3, 0, 0, 2, 3, 3, 3, 2, 4, 0, 3, 0, 0, 0, 0],
   [2, 3, 3, 2, 3, 2, 0, 2, 2, 2, 2, 2, 0, 2, 3, 2, 3, 3, 2],
   [2, 3, 3, 2, 3, 2, 0, 0, 0, 0, 0, 0, 0, 2, 3, 2, 3, 3, 2],
   [2, 2, 2, 2, 3, 2, 0, 2, 2, 2, 2, 2, 0, 2, 3, 2, 2, 2, 2],
   [2, 4, 3, 3, 3, 3, 3, 3, 3, 2, 3, 3, 3, 3, 3, 3, 3, 4, 2],
   [2, 3, 2, 2, 3, 2, 2, 2, 3, 2, 3, 2, 2, 2, 3, 2, 2, 3, 2],
   [2, 3, 3, 2, 3, 3, 3, 3, 3, 1, 3, 3, 3, 3, 3, 2, 3, 3, 2],
   [2, 2, 3, 2, 3, 2, 3, 2, 2, 2, 2, 2, 3, 2, 3, 2, 3, 2, 2],
   [2, 3, 3, 3, 3, 2, 3, 3, 3, 2, 3, 3, 3, 2, 3, 3, 3, 3, 2],
   [2, 3, 2, 2, 2, 2, 2, 2, 3, 2, 3, 2, 2, 2, 2, 2, 2, 3, 2],
   [2, 3, 3, 3, 3, 3, 3, 3, 3, 3, 3, 3, 3, 3, 3, 3, 3, 3, 2],
   [2, 2, 2, 2, 2, 2, 2, 2, 2, 2, 2, 2, 2, 2, 2, 2, 2, 2, 2]]

/-- the objects in row-major order: `(position, encoding)` -/
def exGridObjs : List (Pos × Nat) :=
  (exGrid.zipIdx.map fun (row, r) => (row.zipIdx.filter fun (e, _) => e != 0).map fun (e, c) => (((r : Int), (c : Int)), e)).flatten

/-- the cell table after `reset`: the `k`-th object (row-major) stands alone on its cell -/
def gridCells : List Nat → Nat → List (List Aid)
  | [], _ => []
  | e :: es, k => if e = 0 then [] :: gridCells es k else [k] :: gridCells es (k + 1)

def gridAgentCfg (p : Pos) (e : Nat) : AgentCfg :=
  if e = 1 then
    { enc := 1, initPos := some p, initHealth := some 1, moving := true, moveRange := 1, hasOrient := true,
      initOrient := some 1, observing := true, viewRange := 2 }
  else if e = 4 then
    { enc := 4, initPos := some p, initHealth := some 1, moving := true, moveRange := 1, hasOrient := true,
      initOrient := some 1, observing := true, viewRange := 0 }
  else { enc := e, initPos := some p, initHealth := some 1 }

/-- the world of the packaged `PacmanSimSimple` after `reset` -/
def exGridWorld : World :=
  { rows := 21, cols := 19, overlap := [(1, [3, 4]), (4, [3, 4, 1]), (3, [1, 4])],
    cells := gridCells exGrid.flatten 0,
    cfg := exGridObjs.map fun x => gridAgentCfg x.1 x.2,
    st := exGridObjs.map fun x => { pos := x.1 } }

def idxsOf (e : Nat) : List Aid := (exGridObjs.zipIdx.filter fun (x, _) => x.2 == e).map (·.2)

/-- the `PM.Cfg` of the packaged `PacmanSimSimple` -/
def exGridCfg : PM.Cfg :=
  { simple := true, learning := exGridObjs.map fun x => x.2 == 1 || x.2 == 4,
    comps := [.position .position {}, .orient, .health], observers := some [.absolute],
    pacman := (idxsOf 1).headD 0, food := idxsOf 3, baddies := idxsOf 4,
    scheme := { badMove := some 0, entropy := some (-1), eatFood := some 20, kill := none, die := some (-100) },
    named := (idxsOf 4).map some }

/-- the objects `(position, encoding)` of a flat layout in row-major order, where `pos j` is the position of flat index `j` and
the head of the layout has flat index `i` -/
def flatObjs (pos : Nat → Pos) : List Nat → Nat → List (Pos × Nat)
  | [], _ => []
  | e :: es, i => if e = 0 then flatObjs pos es (i + 1) else (pos i, e) :: flatObjs pos es (i + 1)

theorem gridCells_length (fl : List Nat) (k : Nat) : (gridCells fl k).length = fl.length := by
  induction fl generalizing k with
  | nil => rfl
  | cons x fl ih => unfold gridCells; split <;> simp [ih]

theorem gridAgentCfg_enc (p : Pos) (e : Nat) : (gridAgentCfg p e).enc = e := by
  unfold gridAgentCfg
  split_ifs <;> simp [*]

/-- the `DriftMoveActor` moves `PacmanAgent` (1) and `BaddieAgent` (4) -/
theorem gridAgentCfg_mover (p : Pos) (e : Nat) :
    ((gridAgentCfg p e).moving && (gridAgentCfg p e).hasOrient) = (e == 1 || e == 4) := by
  unfold gridAgentCfg
  split_ifs <;> simp [*]

section Layout
variable {pos : Nat → Pos} {fl : List Nat} {w : World} {objs : List (Pos × Nat)} {cfg : PM.Cfg} {a : Aid} {p : Pos} {e : Nat}

/-- a cell of the table is empty or holds exactly the object that the layout puts there -/
theorem gridCells_cell {i k j : Nat} {c : List Aid} (h : (c, j) ∈ (gridCells fl k).zipIdx i) :
    c = [] ∨ ∃ e a, c = [a] ∧ ((pos j, e), a) ∈ (flatObjs pos fl i).zipIdx k := by
  induction fl generalizing i k with
  | nil => simp [gridCells] at h
  | cons x fl ih =>
    by_cases hx : x = 0
    · simp only [gridCells, flatObjs, hx, if_true, List.zipIdx_cons, List.mem_cons, Prod.mk.injEq] at h ⊢
      exact h.elim (fun h => .inl h.1) ih
    · simp only [gridCells, flatObjs, hx, if_false, List.zipIdx_cons, List.mem_cons, Prod.mk.injEq] at h ⊢
      rcases h with ⟨rfl, rfl⟩ | h
      · exact .inr ⟨x, k, rfl, .inl ⟨⟨rfl, rfl⟩, rfl⟩⟩
      · exact (ih h).imp_right fun ⟨e, a, h1, h2⟩ => ⟨e, a, h1, .inr h2⟩

/-- every object stands alone on the cell of its position -/
theorem flatObjs_cell {i k : Nat} (h : ((p, e), a) ∈ (flatObjs pos fl i).zipIdx k) :
    ∃ j, p = pos j ∧ ([a], j) ∈ (gridCells fl k).zipIdx i := by
  induction fl generalizing i k with
  | nil => simp [flatObjs] at h
  | cons x fl ih =>
    by_cases hx : x = 0
    · simp only [gridCells, flatObjs, hx, if_true, List.zipIdx_cons, List.mem_cons] at h ⊢
      exact (ih h).imp fun j hj => ⟨hj.1, .inr hj.2⟩
    · simp only [gridCells, flatObjs, hx, if_false, List.zipIdx_cons, List.mem_cons, Prod.mk.injEq] at h ⊢
      rcases h with ⟨⟨rfl, rfl⟩, rfl⟩ | h
      · exact ⟨i, rfl, .inl ⟨rfl, rfl⟩⟩
      · exact (ih h).imp fun j hj => ⟨hj.1, .inr hj.2⟩

/-- the agents of encoding `e`, as `idxsOf` lists them -/
theorem mem_idxs : a ∈ (objs.zipIdx.filter fun (x, _) => x.2 == e).map (·.2) ↔ ∃ p, objs[a]? = some (p, e) := by
  simp [List.mem_zipIdx_iff_getElem?]

theorem obj_of_lt_n (hn : w.n = objs.length) (h : a < w.n) : ∃ p e, objs[a]? = some (p, e) :=
  ⟨_, _, List.getElem?_eq_getElem (hn ▸ h)⟩

theorem lt_n_of_obj (hn : w.n = objs.length) (h : objs[a]? = some (p, e)) : a < w.n :=
  hn ▸ (List.getElem?_eq_some_iff.mp h).1

theorem stOf_layout (hst : w.st = objs.map fun x => { pos := x.1 }) (h : objs[a]? = some (p, e)) :
    w.stOf a = { pos := p } := by
  simp [stOf, hst, h]

theorem cfgOf_layout (hcfg : w.cfg = objs.map fun x => gridAgentCfg x.1 x.2) (h : objs[a]? = some (p, e)) :
    w.cfgOf a = gridAgentCfg p e := by
  simp [cfgOf, hcfg, h]

theorem active_layout (hst : w.st = objs.map fun x => { pos := x.1 }) (h : objs[a]? = some (p, e)) :
    (w.stOf a).active = true := by
  rw [stOf_layout hst h]

theorem mover_layout (hcfg : w.cfg = objs.map fun x => gridAgentCfg x.1 x.2) (h : objs[a]? = some (p, e)) :
    PM.mover w a = (e == 1 || e == 4) := by
  rw [PM.mover, cfgOf_layout hcfg h, gridAgentCfg_mover]

theorem encOf_layout (hcfg : w.cfg = objs.map fun x => gridAgentCfg x.1 x.2) (h : objs[a]? = some (p, e)) :
    w.encOf a = e := by
  rw [encOf, cfgOf_layout hcfg h, gridAgentCfg_enc]

/-- an agent with the vitals of a constructed agent: all that `wAgent` asks is that it stands in the cell of its position -/
theorem wAgent_fresh (h : w.stOf a = { pos := p }) : w.wAgent a = (w.inGrid p && decide (a ∈ w.cell p)) := by
  simp [wAgent, h]

/-- **the world after `reset` of a simulation built from a layout satisfies the invariant**: the cell table and the agents
come from the same flat layout `fl`, so a cell holds at most the one agent whose position it is -/
theorem WInv_of_layout (hl : fl.length = w.rows * w.cols) (hcells : w.cells = gridCells fl 0)
    (hobjs : objs = flatObjs w.unravel fl 0) (hst : w.st = objs.map fun x => { pos := x.1 })
    (hn : w.n = objs.length) (ho : w.wOverlapSym = true) : w.WInv = true := by
  have hlen : w.cells.length = w.rows * w.cols := by rw [hcells, gridCells_length, hl]
  have hs : w.wShape = true := by simp [wShape, hlen, hst, ← hn, n]
  simp only [WInv_scan, hs, ho, Bool.true_and, Bool.and_true, Bool.and_eq_true, List.all_eq_true]
  refine ⟨fun ⟨c, j⟩ hc => ?_, fun a ha => ?_⟩
  · have hj : j < w.rows * w.cols := by have := (List.mem_zipIdx hc).2.1; omega
    rw [hcells] at hc
    rcases gridCells_cell (pos := w.unravel) hc with rfl | ⟨e, a, rfl, ha⟩
    · simp [wCellOf]
    · rw [← hobjs, List.mk_mem_zipIdx_iff_getElem?] at ha
      simp [wCellOf, stOf_layout hst ha, lt_n_of_obj hn ha, unravel_inGrid hj, idx_unravel]
  · obtain ⟨p, e, hg⟩ := obj_of_lt_n hn (List.mem_range.mp ha)
    have hm := List.mk_mem_zipIdx_iff_getElem?.mpr hg
    rw [hobjs] at hm
    obtain ⟨j, hp, hc⟩ := flatObjs_cell hm
    rw [← hcells] at hc
    have hj : j < w.rows * w.cols := by have := (List.mem_zipIdx hc).2.1; omega
    rw [List.mk_mem_zipIdx_iff_getElem?] at hc
    rw [wAgent_fresh (stOf_layout hst hg), hp, unravel_inGrid hj, cell, idx_unravel, List.getD_eq_getElem?_getD, hc]
    simp

/-- **`PM.cfgWF` of a simulation built from a layout**: the learning agents are the objects of encoding 1 or 4, pacman has
encoding 1, the food 3, the baddies 4, and the ids `baddie_0 …` name the baddies in their order, at least five -/
theorem cfgWF_of_layout (hcfg : w.cfg = objs.map fun x => gridAgentCfg x.1 x.2)
    (hlearn : cfg.learning = objs.map fun x => x.2 == 1 || x.2 == 4) (hpac : ∃ p, objs[cfg.pacman]? = some (p, 1))
    (hfood : ∀ a ∈ cfg.food, ∃ p, objs[a]? = some (p, 3)) (hbad : ∀ a ∈ cfg.baddies, ∃ p, objs[a]? = some (p, 4))
    (hscheme : cfg.scheme.full cfg.simple = true) (hnamed : cfg.named = cfg.baddies.map some)
    (hfive : 5 ≤ cfg.baddies.length) : PM.cfgWF cfg w = true := by
  have hn : w.n = objs.length := by simp [n, hcfg]
  have hlrn : ∀ {a p e}, objs[a]? = some (p, e) → cfg.isLearning a = (e == 1 || e == 4) := by
    intro a p e h
    simp [PM.Cfg.isLearning, hlearn, h]
  obtain ⟨p, hp⟩ := hpac
  refine (PM.cfgWF_iff cfg w).mpr
    { qn := lt_n_of_obj hn hp, qmover := mover_layout hcfg hp, qlearn := hlrn hp, full := hscheme
      qfood := fun h => ?_, qbad := fun h => ?_, learn := fun a ha => ?_, food := fun a ha => ?_,
      bad := fun a ha => ?_, named := fun _ i hi => ?_ }
  · obtain ⟨q, hq⟩ := hfood _ h
    cases hp.symm.trans hq
  · obtain ⟨q, hq⟩ := hbad _ h
    cases hp.symm.trans hq
  · obtain ⟨q, e, hq⟩ := obj_of_lt_n hn ha
    rw [hlrn hq, mover_layout hcfg hq]
  · obtain ⟨q, hq⟩ := hfood a ha
    refine ⟨lt_n_of_obj hn hq, mover_layout hcfg hq, fun h => ?_⟩
    obtain ⟨q', hq'⟩ := hbad a h
    cases hq.symm.trans hq'
  · obtain ⟨q, hq⟩ := hbad a ha
    exact ⟨lt_n_of_obj hn hq, mover_layout hcfg hq⟩
  · have hi' : i < cfg.baddies.length := by omega
    exact ⟨cfg.baddies[i], by simp [hnamed, hi'], List.getElem_mem hi'⟩

/-- **`PM.teleSafe` of a simulation built from a layout**: the teleport cells are empty, so only movers matter; two
different movers are not both pacman, and every other pair of the encodings 1 and 4 may overlap -/
theorem teleSafe_of_layout (hcfg : w.cfg = objs.map fun x => gridAgentCfg x.1 x.2)
    (htele : ∀ p ∈ PM.teleCells cfg, w.inGrid p = true ∧ w.cell p = [])
    (hone : ∀ {a b : Aid} {p q : Pos}, objs[a]? = some (p, 1) → objs[b]? = some (q, 1) → a = b)
    (h14 : w.pairOK 1 4 = true) (h41 : w.pairOK 4 1 = true) (h44 : w.pairOK 4 4 = true) : PM.teleSafe cfg w = true := by
  have hn : w.n = objs.length := by simp [n, hcfg]
  have h0 := htele (9, 0) (by simp [PM.teleCells])
  have hF := htele (9, cfg.far) (by simp [PM.teleCells])
  refine (PM.ts_iff cfg w).mpr ⟨h0.1, hF.1, fun m hm hmv b hb hor => ?_⟩
  obtain ⟨p, e, hp⟩ := obj_of_lt_n hn hm
  obtain ⟨q, e', hq⟩ := obj_of_lt_n hn hb
  rw [h0.2, hF.2, mover_layout hcfg hq] at hor
  rw [mover_layout hcfg hp] at hmv
  rw [encOf_layout hcfg hp, encOf_layout hcfg hq]
  have he : e = 1 ∨ e = 4 := by simpa using hmv
  have he' : e' = 1 ∨ e' = 4 := by simpa using hor
  rcases he with rfl | rfl <;> rcases he' with rfl | rfl
  · exact .inl (hone hp hq)
  · exact .inr h14
  · exact .inr h41
  · exact .inr h44

end Layout

/-- what is read off the transcription, in one statement because the kernel then evaluates `exGridObjs` once -/
theorem exGrid_facts : exGridObjs = flatObjs exGridWorld.unravel exGrid.flatten 0 ∧ exGridWorld.n = 366 ∧
    idxsOf 1 = [261] ∧ idxsOf 4 = [20, 36, 166, 215, 231] ∧ (exGridWorld.stOf 261).pos = (15, 9) ∧ (idxsOf 3).length = 166 ∧
    exGridWorld.cell (9, 0) = [] ∧ exGridWorld.cell (9, 18) = [] := by decide +kernel

theorem exGridObjs_flat : exGridObjs = flatObjs exGridWorld.unravel exGrid.flatten 0 := exGrid_facts.1
theorem exGrid_n : exGridWorld.n = 366 := exGrid_facts.2.1
theorem idxsOf_one : idxsOf 1 = [261] := exGrid_facts.2.2.1
theorem idxsOf_four : idxsOf 4 = [20, 36, 166, 215, 231] := exGrid_facts.2.2.2.1

theorem exGrid_WInv : exGridWorld.WInv = true :=
  WInv_of_layout (fl := exGrid.flatten) (by decide +kernel) rfl exGridObjs_flat rfl (List.length_map _) (by decide)

/-- the transcription has the shape of the packaged layout: 21 × 19, 366 agents, pacman is agent 261 at (15, 9), five baddies,
166 pieces of food; both teleport cells `(9, 0)`, `(9, 18)` of `PacmanSimSimple` are empty -/
example : exGrid.length = 21 ∧ exGrid.all (fun r => r.length == 19) = true ∧ exGridWorld.n = 366 ∧
    exGridCfg.pacman = 261 ∧ (exGridWorld.stOf 261).pos = (15, 9) ∧ exGridCfg.baddies = [20, 36, 166, 215, 231] ∧
    exGridCfg.food.length = 166 ∧ exGridWorld.cell (9, 0) = [] ∧ exGridWorld.cell (9, 18) = [] ∧ exGridCfg.far = 18 := by
  obtain ⟨-, hn, h1, h4, hp, hf, h0, h18⟩ := exGrid_facts
  exact ⟨by decide, by decide, hn, by rw [exGridCfg, h1]; rfl, hp, h4, hf, h0, h18, rfl⟩

theorem exGrid_pacman : ∃ p, exGridObjs[exGridCfg.pacman]? = some (p, 1) := by
  have h : exGridCfg.pacman = 261 := by
    rw [exGridCfg, idxsOf_one]
    rfl
  refine mem_idxs.mp (?_ : _ ∈ idxsOf 1)
  rw [h, idxsOf_one]
  exact List.mem_singleton_self _

/-- **the packaged `example_grid` configuration satisfies `PM.cfgWF ∧ PM.teleSafe`** — all 366 agents -/
theorem pacman_example_grid_cfgWF_teleSafe :
    PM.cfgWF exGridCfg exGridWorld = true ∧ PM.teleSafe exGridCfg exGridWorld = true := by
  have hone : ∀ {a : Aid} {p : Pos}, exGridObjs[a]? = some (p, 1) → a = 261 := by
    intro a p h
    have : a ∈ idxsOf 1 := mem_idxs.mpr ⟨p, h⟩
    rwa [idxsOf_one, List.mem_singleton] at this
  constructor
  · refine cfgWF_of_layout (objs := exGridObjs) rfl rfl exGrid_pacman (fun a h => mem_idxs.mp h) (fun a h => mem_idxs.mp h)
      rfl rfl (?_ : 5 ≤ (idxsOf 4).length)
    rw [idxsOf_four]
    decide
  · exact teleSafe_of_layout (objs := exGridObjs) rfl (by decide +kernel) (fun h h' => (hone h).trans (hone h').symm)
      (by decide) (by decide) (by decide)

/-- the action dict of the first step — pacman left, `baddie_0` down — holds points of `Discrete(5)` for learning agents,
pacman among them -/
theorem exGrid_first_acts :
    ((List.lookup exGridCfg.pacman [(261, (1 : Int)), (20, 2)]).isSome && PM.keysNodup [(261, 1), (20, 2)] &&
    [((261 : Aid), (1 : Int)), (20, 2)].all (fun x => PM.actInSpace exGridWorld x && exGridCfg.isLearning x.1)) = true := by
  decide +kernel

/-- hence the first step of the packaged simulation — here: pacman left, `baddie_0` down — is a `PM.stepPre` step: it returns
and leaves `WInv` and `teleSafe` (`pacman_step_keeps_WInv`) -/
theorem pacman_example_grid_first_step :
    let s : PM.St := { ex := { w := exGridWorld, rewards := some (Ex.zeroRewards exGridCfg.toEx 366) } }
    (PM.step exGridCfg s [(261, 1), (20, 2)]).2 = none ∧ (PM.step exGridCfg s [(261, 1), (20, 2)]).1.ex.w.WInv = true ∧
    PM.teleSafe exGridCfg (PM.step exGridCfg s [(261, 1), (20, 2)]).1.ex.w = true := by
  intro s
  refine pacman_step_keeps_WInv exGridCfg s _ _ rfl ?_
  show PM.stepPre exGridCfg exGridWorld _ _ = true
  have h2 := pacman_example_grid_cfgWF_teleSafe
  have h3 := exGrid_first_acts
  obtain ⟨p, hp⟩ := exGrid_pacman
  simp only [Bool.and_eq_true] at h3
  simp only [PM.stepPre, Bool.and_eq_true]
  refine ⟨⟨⟨⟨⟨⟨⟨⟨exGrid_WInv, h2.1⟩, h2.2⟩, active_layout rfl hp⟩, List.all_eq_true.mpr fun a ha => ?_⟩, h3.1.1⟩, h3.1.2⟩,
    h3.2⟩, ?_⟩
  · obtain ⟨q, e, hq⟩ := obj_of_lt_n (w := exGridWorld) (objs := exGridObjs) (List.length_map _) (List.mem_range.mp ha)
    rw [active_layout rfl hq, Bool.or_true]
  · rw [exGrid_n]
    exact Ex.ledgerFullb_zeroRewards _ _

end Abmarl
