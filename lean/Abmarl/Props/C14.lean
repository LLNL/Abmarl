import Abmarl.Lemmas.SuperAgentInv
import Abmarl.Lemmas.SuperAgentLawful
import Abmarl.Model.StubSim
import Abmarl.Props.C07
import Abmarl.Props.C15
import Abmarl.Props.C16
/-!
# C14 — Super agents faithfully aggregate, mask and filter their covered agents

Model: `Model/SuperAgent.lean` (the wrapper as a functor `superSim` on `SimIface`, and the call-level
interface `supCall` / `supRun` / `supSession`).  Specification: `specC14` in `Spec/SuperAgent.lean`.

`C14_trace`: for **every** inner simulation `S` satisfying the frame conditions `Lawful`, every
mapping (one that is not a partition of learning agents is rejected by the constructor), every
initial state and **every** history of calls, the model's session satisfies `specC14`.  The judge
`c14Loop` stops at the first call other than `reset` made before any `reset` and accepts whatever
follows, a later `reset` included; hence (`C14_every_call`) a call satisfies its clause `c14Entry` in
the ghost state folded from the trace before it provided `StartedOK` holds of it: every call up to and
including it is a `reset` or was made after one.  The hypothesis `NullTruthy` says that `_get_null_obs`
hands out every declared null observation (`cfg.nullTruthy` records the outcome of the code's test,
which is for the empty dict, not for truthiness).

The clauses of the property are first read off the Bool specification (`c14_*`: it says what the
property says, also when the driver evaluates it on an implementation trace) and then, applied to
`C14_every_call`, hold of the model for any `S`, partition and history (`mask_iff`, `obs_handover`,
`reward_sum`, `done_iff_all`, `actions_filtered`, `uncovered_transparent`, `covered_rejected`).

With the functor lemma (`superSim_lawful`, `superSim_WF` in `Lemmas/SuperAgentLawful.lean`) every
manager / adapter / trainer theorem holds of a wrapped simulation (`C01_wrapped` … `C16_wrapped`).
The scripted family the correspondence check drives satisfies the hypotheses (`C14_stub`).
-/
namespace Abmarl
variable {σ α ω ι : Type}

section main
variable [DecidableEq α] [DecidableEq ω] [DecidableEq ι]

/-- **C14** for every lawful inner simulation, every mapping, every initial state and every history. -/
theorem C14_trace (S : SimIface σ α ω ι) (hS : Lawful S) (cfg : SuperCfg ω) (hn : NullTruthy cfg)
    (s0 : σ) (calls : List (SCall α)) :
    specC14 S.n S.learning cfg (supSession S cfg s0 calls) = true := by
  unfold specC14 supSession
  by_cases hc : ctorOK S.n S.learning cfg = true
  · simp only [hc, if_true]
    exact supRun_sound hS hc hn calls _ {} (by intro h; simp at h)
  · simp [hc]

/-- ghost state before entry `i` of a trace -/
def sgAt (cfg : SuperCfg ω) (g0 : SG) (tr : List (SupEntry α ω ι)) (i : Nat) : SG :=
  (tr.take i).foldl (sgNext cfg) g0

/-- the caller protocol holds up to and including entry `i`: no getter or step before the first reset -/
def StartedOK (cfg : SuperCfg ω) (g0 : SG) (tr : List (SupEntry α ω ι)) (i : Nat) : Prop :=
  ∀ j ≤ i, ∀ e, tr[j]? = some e → sup_isReset e.call = false → (sgAt cfg g0 tr j).started = true

/-- `c14Loop` means: the per-call clause holds at every call reached under the protocol. -/
theorem c14Loop_at (n : Nat) (cfg : SuperCfg ω) :
    ∀ (tr : List (SupEntry α ω ι)) (g0 : SG), c14Loop n cfg g0 tr = true →
      ∀ i e, tr[i]? = some e → StartedOK cfg g0 tr i → c14Entry n cfg (sgAt cfg g0 tr i) e = true := by
  intro tr g0 hspec i e hi hp
  refine guardedLoop_at (loop := c14Loop n cfg) (next := sgNext cfg)
    (skip := fun g e => !sup_isReset e.call && !g.started)
    (fun g e es => by rw [c14Loop]) tr g0 hspec i e hi fun j hj e' he' => ?_
  cases hr : sup_isReset e'.call with
  | true => rfl
  | false =>
    have hs : ((tr.take j).foldl (sgNext cfg) g0).started = true := hp j hj e' he' hr
    simp [hs]

/-- `e` is the `i`-th call of the model's trace for the history `calls` started in `s0`, reached
under the caller protocol, and `g` is the ghost state (inner done flags and pending rewards after
the previous call, hand-over sets) folded from the trace before it -/
structure ModelCall (S : SimIface σ α ω ι) (cfg : SuperCfg ω) (s0 : σ) (calls : List (SCall α))
    (i : Nat) (e : SupEntry α ω ι) (g : SG) : Prop where
  entry : (supRun S cfg { st := { sim := s0 } } calls)[i]? = some e
  proto : StartedOK cfg {} (supRun S cfg { st := { sim := s0 } } calls) i
  ghost : g = sgAt cfg {} (supRun S cfg { st := { sim := s0 } } calls) i

theorem C14_every_call {S : SimIface σ α ω ι} (hS : Lawful S) {cfg : SuperCfg ω}
    (hc : ctorOK S.n S.learning cfg = true) (hn : NullTruthy cfg) {s0 : σ} {calls : List (SCall α)}
    {i : Nat} {e : SupEntry α ω ι} {g : SG} (hm : ModelCall S cfg s0 calls i e g) :
    c14Entry S.n cfg g e = true := by
  rw [hm.ghost]
  exact c14Loop_at S.n cfg _ {} (supRun_sound hS hc hn calls _ {} (by intro h; simp at h)) i e hm.entry hm.proto

end main

section readings
variable [DecidableEq α] [DecidableEq ω] [DecidableEq ι] {n : Nat} {cfg : SuperCfg ω} {g : SG}
  {e : SupEntry α ω ι}

omit [DecidableEq α] [DecidableEq ω] [DecidableEq ι] in
theorem resolve_sup_of {j : Nat} {cov : List Aid} (hg : cfg.groups[j]? = some cov) :
    resolve n cfg (.sup j) = .ok (.sup cov) := by
  simp [resolve, hg]

omit [DecidableEq α] [DecidableEq ω] [DecidableEq ι] in
theorem resolve_inner_of {a : Aid} (hnc : a ∉ cfg.covered) (hlt : a < n) :
    resolve n cfg (.inner a) = .ok (.unc a) := by
  simp [resolve, hnc, hlt]

omit [DecidableEq α] [DecidableEq ω] [DecidableEq ι] in
theorem resolve_covered {c : Aid} (hc : c ∈ cfg.covered) :
    resolve n cfg (.inner c) = .error .rejected := by
  simp [resolve, hc]

/-- the mask: a super observation's mask entry for covered agent `c` is true exactly while the inner
simulation does not report `c` done; there is one observation entry per covered agent, in mapping
order; the call neither steps the simulation nor changes done flags or pending rewards -/
theorem c14_mask_iff (h : c14Entry n cfg g e = true) {j : Nat} {cov : List Aid}
    (hcall : e.call = .getObs (.sup j)) (hg : cfg.groups[j]? = some cov) :
    ∃ ol, e.res = .obs (.super (cov.map fun c => (c, !g.isDone c)) ol) ∧ ol.map (·.1) = cov ∧
      e.simArgs = none ∧ e.simDone = g.done ∧ e.pending = g.pend := by
  simp only [c14Entry, hcall, resolve_sup_of hg, Bool.and_eq_true, frameOK, beq_iff_eq,
    Option.isNone_iff_eq_none] at h
  obtain ⟨⟨h1, ⟨⟨h2, h3⟩, _⟩⟩, h5⟩ := h
  cases hx : expectObs (g.obsDue cfg) cfg.declared cov e.obsReads with
  | none => simp [hx] at h1
  | some ol =>
    simp only [hx, beq_iff_eq] at h1
    exact ⟨ol, h1, (expectObs_spec _ _ cov _ ol hx).1, h2, h3, h5⟩

/-- the entry of covered agent `c` in a super observation is the value of
an inner `get_obs(c)` made during this very call ("its own observation") as long as `c` is not done
or has not yet been reported after it became done (or declares no null observation: the code's
fallback), and is the declared null observation otherwise — in which case the inner simulation is
not read for `c` at all: the inner reads of the call are exactly the due ones, in mapping order -/
theorem c14_obs_handover (h : c14Entry n cfg g e = true) {j : Nat} {cov : List Aid}
    (hcall : e.call = .getObs (.sup j)) (hg : cfg.groups[j]? = some cov) :
    ∃ mask ol, e.res = .obs (.super mask ol) ∧
      e.obsReads.map (·.1) = cov.filter (g.obsDue cfg) ∧
      ∀ p ∈ ol,
        ((g.isDone p.1 = false ∨ p.1 ∉ g.obsRep ∨ cfg.declared p.1 = none) → p ∈ e.obsReads) ∧
        ((g.isDone p.1 = true ∧ p.1 ∈ g.obsRep) → ∀ o, cfg.declared p.1 = some o → p.2 = o) := by
  simp only [c14Entry, hcall, resolve_sup_of hg, Bool.and_eq_true] at h
  obtain ⟨⟨h1, _⟩, _⟩ := h
  cases hx : expectObs (g.obsDue cfg) cfg.declared cov e.obsReads with
  | none => simp [hx] at h1
  | some ol =>
    simp only [hx, beq_iff_eq] at h1
    obtain ⟨s1, s2, s3⟩ := expectObs_spec _ _ cov _ ol hx
    refine ⟨_, ol, h1, by rw [s2, ← s1, List.filter_map]; rfl, ?_⟩
    intro p hp
    constructor
    · intro hdue
      rw [s2]
      refine List.mem_filter.mpr ⟨hp, ?_⟩
      unfold SG.obsDue
      rcases hdue with h' | h' | h'
      · simp [h']
      · simp [h']
      · simp [h']
    · rintro ⟨hd, hr⟩ o ho
      have hnd : g.obsDue cfg p.1 = false := by
        unfold SG.obsDue; simp [hd, hr, ho]
      have := s3 p hp hnd
      rw [ho] at this
      exact (Option.some.inj this).symm

omit [DecidableEq α] [DecidableEq ω] [DecidableEq ι] in
/-- when is a covered agent "reported after done": it was so before, or this super observation was
taken while it is done -/
theorem c14_obsRep_next (cfg : SuperCfg ω) (g : SG) (e : SupEntry α ω ι) {j : Nat} {cov : List Aid}
    (hcall : e.call = .getObs (.sup j)) (hg : cfg.groups[j]? = some cov) {o : SObs ω}
    (hres : e.res = .obs o) (c : Aid) :
    c ∈ (sgNext cfg g e).obsRep ↔ c ∈ g.obsRep ∨ (c ∈ cov ∧ g.isDone c = true) := by
  simp [sgNext, hcall, hres, hg, List.mem_filter]

omit [DecidableEq α] [DecidableEq ω] [DecidableEq ι] in
/-- `reset` forgets who was reported after done and who was finally counted -/
theorem c14_reset_clears (cfg : SuperCfg ω) (g : SG) (e : SupEntry α ω ι) (hcall : e.call = .reset) :
    (sgNext cfg g e).obsRep = [] ∧ (sgNext cfg g e).rewRep = [] ∧ (sgNext cfg g e).started = true := by
  simp [sgNext, hcall]

theorem mem_counted {g : SG} {cov : List Aid} {c : Aid} :
    c ∈ g.counted cov ↔ c ∈ cov ∧ ¬(g.isDone c = true ∧ c ∈ g.rewRep) := by
  simp only [SG.counted, List.mem_filter, and_congr_right_iff]
  intro _
  cases g.isDone c <;> simp

/-- a super agent's reward is the sum of what was pending for its covered agents that
have not had their final count; exactly those agents are left with nothing pending, every other
agent of the simulation (in particular a finally counted one) keeps what it had: nothing is lost,
nothing is delivered twice, nothing is delivered after the final count -/
theorem c14_reward_sum (h : c14Entry n cfg g e = true) {j : Nat} {cov : List Aid}
    (hcall : e.call = .getReward (.sup j)) (hg : cfg.groups[j]? = some cov) :
    e.res = .reward ((g.counted cov).map g.pendOf).sum ∧
    (∀ a < n, e.pending.getD a 0 = if a ∈ g.counted cov then 0 else g.pendOf a) ∧
    e.simArgs = none ∧ e.simDone = g.done ∧ e.obsReads = [] := by
  simp only [c14Entry, hcall, resolve_sup_of hg, Bool.and_eq_true, frameOK, beq_iff_eq,
    Option.isNone_iff_eq_none, pendingAfter, List.all_eq_true, List.mem_range, List.isEmpty_iff] at h
  obtain ⟨⟨⟨h1, ⟨_, h2⟩⟩, ⟨⟨h3, h4⟩, _⟩⟩, h6⟩ := h
  exact ⟨h1, h2, h3, h4, h6⟩

omit [DecidableEq α] [DecidableEq ω] [DecidableEq ι] in
/-- a covered agent that is done when its super agent's reward is taken
is finally counted from then on, and a finally counted agent that is (still) done is not counted -/
theorem c14_counted_once (cfg : SuperCfg ω) (g : SG) (e : SupEntry α ω ι) {j : Nat} {cov : List Aid}
    (hcall : e.call = .getReward (.sup j)) (hg : cfg.groups[j]? = some cov) {r : Int}
    (hres : e.res = .reward r) (c : Aid) :
    (c ∈ (sgNext cfg g e).rewRep ↔ c ∈ g.rewRep ∨ (c ∈ cov ∧ g.isDone c = true)) ∧
    (∀ cov', c ∈ g.rewRep → g.isDone c = true → c ∉ g.counted cov') := by
  refine ⟨by simp [sgNext, hcall, hres, hg, List.mem_filter], ?_⟩
  intro cov' hr hd hm
  exact (mem_counted.mp hm).2 ⟨hd, hr⟩

/-- a super agent is done exactly when all its covered agents are done -/
theorem c14_done_iff_all (h : c14Entry n cfg g e = true) {j : Nat} {cov : List Aid}
    (hcall : e.call = .getDone (.sup j)) (hg : cfg.groups[j]? = some cov) :
    ∃ b, e.res = .done b ∧ (b = true ↔ ∀ c ∈ cov, g.isDone c = true) ∧ untouched g e = true := by
  simp only [c14Entry, hcall, resolve_sup_of hg, Bool.and_eq_true, beq_iff_eq] at h
  exact ⟨_, h.1, by simp [List.all_eq_true], h.2⟩

omit [DecidableEq α] [DecidableEq ω] [DecidableEq ι] in
theorem mem_expect1 {g : SG} {p : Outer × SAct α} {q : Aid × α} :
    q ∈ expect1 g p ↔
      (∃ cov l, p = (Outer.sup cov, SAct.joint l) ∧ q ∈ l ∧ g.isDone q.1 = false) ∨
      (∃ a v, p = (Outer.unc a, SAct.plain v) ∧ q = (a, v)) := by
  obtain ⟨o, a⟩ := p
  cases o <;> cases a <;> simp [expect1, and_assoc]

/-- an accepted `step` hands the inner simulation exactly the dictionary built
from the joint actions' entries for covered agents that are not done at that moment and from the
uncovered agents' actions, unchanged and in the order given; no getter is involved -/
theorem c14_actions_filtered (h : c14Entry n cfg g e = true) {acts : List (Ref × SAct α)}
    {oacts : List (Outer × SAct α)} (hcall : e.call = .step acts)
    (hchk : checkActs n cfg acts = .ok oacts) :
    e.res = .unit ∧ e.simArgs = some (supDictOf (oacts.flatMap (expect1 g))) ∧ e.obsReads = [] ∧
      e.pending = e.accrued := by
  simp only [c14Entry, hcall, hchk, Bool.and_eq_true, beq_iff_eq, List.isEmpty_iff] at h
  exact ⟨h.1.1.1, h.1.1.2, h.1.2, h.2⟩

/-- when no agent is named twice the dictionary of `c14_actions_filtered` is literally the list of those
actions -/
theorem c14_actions_filtered_nodup (h : c14Entry n cfg g e = true) {acts : List (Ref × SAct α)}
    {oacts : List (Outer × SAct α)} (hcall : e.call = .step acts)
    (hchk : checkActs n cfg acts = .ok oacts)
    (hnd : ((oacts.flatMap (expect1 g)).map (·.1)).Nodup) :
    e.simArgs = some (oacts.flatMap (expect1 g)) := by
  rw [(c14_actions_filtered h hcall hchk).2.1, dictOf_nodup _ hnd]

/-- an action dict that names a covered agent, or is ill-shaped, is refused before anything reaches
the simulation -/
theorem c14_step_refused (h : c14Entry n cfg g e = true) {acts : List (Ref × SAct α)} {er : Err}
    (hcall : e.call = .step acts) (hchk : checkActs n cfg acts = .error er) :
    e.res = .err er ∧ untouched g e = true := by
  simp only [c14Entry, hcall, hchk, Bool.and_eq_true, beq_iff_eq] at h
  exact h

/-- uncovered agents behave as if unwrapped: every getter returns the inner getter's value —
`get_obs` makes exactly one inner read of that agent and returns it, `get_reward` returns what was
pending for the agent and empties only its accumulator, `get_done` / `get_info` / `get_all_done` are
the inner values and touch nothing -/
theorem c14_uncovered_transparent (h : c14Entry n cfg g e = true) {a : Aid}
    (hnc : a ∉ cfg.covered) (hlt : a < n) :
    (e.call = .getObs (.inner a) →
      ∃ o, e.obsReads = [(a, o)] ∧ e.res = .obs (.plain o) ∧ e.simDone = g.done ∧ e.pending = g.pend) ∧
    (e.call = .getReward (.inner a) →
      e.res = .reward (g.pendOf a) ∧ e.simDone = g.done ∧
      ∀ b < n, e.pending.getD b 0 = if b = a then 0 else g.pendOf b) ∧
    (e.call = .getDone (.inner a) → e.res = .done (g.isDone a) ∧ untouched g e = true) ∧
    (e.call = .getInfo (.inner a) →
      ∃ i, e.res = .info (.plain i) ∧ e.simInfos[a]? = some i ∧ untouched g e = true) ∧
    (e.call = .getAllDone → e.res = .done e.simAllDone ∧ untouched g e = true) := by
  refine ⟨?_, ?_, ?_, ?_, ?_⟩
  · intro hcall
    simp only [c14Entry, hcall, resolve_inner_of hnc hlt, Bool.and_eq_true, frameOK, beq_iff_eq] at h
    obtain ⟨⟨h1, ⟨⟨_, h3⟩, _⟩⟩, h5⟩ := h
    split at h1
    · next a' o hr =>
      simp only [Bool.and_eq_true, beq_iff_eq] at h1
      exact ⟨o, by rw [hr, h1.1], h1.2, h3, h5⟩
    · cases h1
  · intro hcall
    simp only [c14Entry, hcall, resolve_inner_of hnc hlt, Bool.and_eq_true, frameOK, beq_iff_eq,
      pendingAfter, List.all_eq_true, List.mem_range, List.mem_singleton] at h
    obtain ⟨⟨⟨h1, ⟨_, h2⟩⟩, ⟨⟨_, h4⟩, _⟩⟩, _⟩ := h
    exact ⟨h1, h4, h2⟩
  · intro hcall
    simp only [c14Entry, hcall, resolve_inner_of hnc hlt, Bool.and_eq_true, beq_iff_eq] at h
    exact h
  · intro hcall
    simp only [c14Entry, hcall, resolve_inner_of hnc hlt, Bool.and_eq_true] at h
    split at h
    · next i hr =>
      simp only [beq_iff_eq] at h
      exact ⟨i, hr, h.1, h.2⟩
    · simp at h
  · intro hcall
    simp only [c14Entry, hcall, Bool.and_eq_true, beq_iff_eq] at h
    exact h

/-- a getter called with a covered agent's own id is rejected and nothing reaches the simulation -/
theorem c14_covered_rejected (h : c14Entry n cfg g e = true) {c : Aid} (hc : c ∈ cfg.covered)
    (hcall : e.call = .getObs (.inner c) ∨ e.call = .getReward (.inner c) ∨
      e.call = .getDone (.inner c) ∨ e.call = .getInfo (.inner c)) :
    e.res = .err .rejected ∧ untouched g e = true := by
  rcases hcall with hcall | hcall | hcall | hcall <;>
    (simp only [c14Entry, hcall, resolve_covered hc, Bool.and_eq_true, beq_iff_eq] at h; exact h)

/-- the info of a super agent is the dictionary of its covered agents' infos -/
theorem c14_super_info (h : c14Entry n cfg g e = true) {j : Nat} {cov : List Aid}
    (hcall : e.call = .getInfo (.sup j)) (hg : cfg.groups[j]? = some cov) :
    ∃ l, e.res = .info (.super l) ∧ l.map (·.1) = cov ∧ (∀ p ∈ l, e.simInfos[p.1]? = some p.2) ∧
      untouched g e = true := by
  simp only [c14Entry, hcall, resolve_sup_of hg, Bool.and_eq_true] at h
  split at h
  · next l hr =>
    simp only [Bool.and_eq_true, beq_iff_eq, List.all_eq_true] at h
    exact ⟨l, hr, h.1.1, h.1.2, h.2⟩
  · simp at h

/-- what a call delivers for inner agent `a`: its whole pending reward if the call is a `get_reward`
that counts it (of the agent itself if uncovered, of its super agent if it is among the counted), and
nothing otherwise -/
def paidIn (n : Nat) (cfg : SuperCfg ω) (g : SG) (e : SupEntry α ω ι) (a : Aid) : Int :=
  match e.call with
  | .getReward r =>
    (match resolve n cfg r with
     | .ok (.sup cov) => if a ∈ g.counted cov then g.pendOf a else 0
     | .ok (.unc b) => if a = b then g.pendOf a else 0
     | _ => 0)
  | _ => 0

/-- per-call reward ledger of every inner agent: what is pending after a call is what had accrued
(pending before, plus the accrual of an inner `step`) minus what the call delivered for the agent -/
theorem c14_ledger (h : c14Entry n cfg g e = true) :
    ∀ a < n, e.pending.getD a 0 = e.accrued.getD a 0 - paidIn n cfg g e a := by
  intro a ha
  have hsame : paidIn n cfg g e a = 0 → e.pending = e.accrued →
      e.pending.getD a 0 = e.accrued.getD a 0 - paidIn n cfg g e a := by
    intro h0 h'; rw [h', h0]; omega
  have hunt : paidIn n cfg g e a = 0 → untouched g e = true →
      e.pending.getD a 0 = e.accrued.getD a 0 - paidIn n cfg g e a := by
    intro h0 hu
    simp only [untouched, frameOK, Bool.and_eq_true, beq_iff_eq] at hu
    exact hsame h0 (by rw [hu.2, hu.1.1.2])
  -- an answered `get_reward` empties exactly the agents in `read` (`g.counted cov` for a super agent,
  -- `[b]` for an uncovered one), which are the ones it pays
  have hpaid : ∀ read : List Aid, pendingAfter n g read e = true → frameOK g e = true →
      paidIn n cfg g e a = (if a ∈ read then g.pendOf a else 0) →
      e.pending.getD a 0 = e.accrued.getD a 0 - paidIn n cfg g e a := by
    intro read hpa hf hp
    simp only [pendingAfter, frameOK, Bool.and_eq_true, beq_iff_eq, List.all_eq_true, List.mem_range]
      at hpa hf
    rw [hpa.2 a ha, hf.2, hp]
    show _ = g.pendOf a - _
    by_cases hm : a ∈ read <;> simp [hm]
  cases hcall : e.call with
  | reset =>
    simp only [c14Entry, hcall, Bool.and_eq_true, beq_iff_eq] at h
    exact hsame (by simp [paidIn, hcall]) h.2
  | step acts =>
    have h0 : paidIn n cfg g e a = 0 := by simp [paidIn, hcall]
    simp only [c14Entry, hcall] at h
    cases hchk : checkActs n cfg acts with
    | error er => simp only [hchk, Bool.and_eq_true] at h; exact hunt h0 h.2
    | ok oacts => simp only [hchk, Bool.and_eq_true, beq_iff_eq] at h; exact hsame h0 h.2
  | getObs r =>
    have h0 : paidIn n cfg g e a = 0 := by simp [paidIn, hcall]
    simp only [c14Entry, hcall] at h
    cases hres : resolve n cfg r with
    | error er => simp only [hres, Bool.and_eq_true] at h; exact hunt h0 h.2
    | ok o =>
      cases o with
      | bad => simp [hres] at h
      | sup _ | unc _ =>
        simp only [hres, Bool.and_eq_true, frameOK, beq_iff_eq] at h
        exact hsame h0 (by rw [h.2, h.1.2.2])
  | getDone r | getInfo r =>
    have h0 : paidIn n cfg g e a = 0 := by simp [paidIn, hcall]
    simp only [c14Entry, hcall] at h
    cases hres : resolve n cfg r with
    | error er => simp only [hres, Bool.and_eq_true] at h; exact hunt h0 h.2
    | ok o =>
      cases o with
      | bad => simp [hres] at h
      | sup _ | unc _ => simp only [hres, Bool.and_eq_true] at h; exact hunt h0 h.2
  | getAllDone =>
    simp only [c14Entry, hcall, Bool.and_eq_true] at h
    exact hunt (by simp [paidIn, hcall]) h.2
  | getReward r =>
    simp only [c14Entry, hcall] at h
    cases hres : resolve n cfg r with
    | error er =>
      simp only [hres, Bool.and_eq_true] at h
      exact hunt (by simp [paidIn, hcall, hres]) h.2
    | ok o =>
      cases o with
      | bad => simp [hres] at h
      | sup _ | unc _ =>
        simp only [hres, Bool.and_eq_true] at h
        exact hpaid _ h.1.1.2 h.1.2 (by simp [paidIn, hcall, hres])

/-- what the calls of a trace delivered for inner agent `a` (to the agent itself if uncovered, to its
super agent if covered) -/
def paidAlong (n : Nat) (cfg : SuperCfg ω) (a : Aid) : SG → List (SupEntry α ω ι) → Int
  | _, [] => 0
  | g, e :: es => paidIn n cfg g e a + paidAlong n cfg a (sgNext cfg g e) es

/-- what accrued for inner agent `a` during the inner `step`s (and `reset`s) of a trace -/
def grewAlong (cfg : SuperCfg ω) (a : Aid) : SG → List (SupEntry α ω ι) → Int
  | _, [] => 0
  | g, e :: es => (e.accrued.getD a 0 - g.pendOf a) + grewAlong cfg a (sgNext cfg g e) es

omit [DecidableEq α] [DecidableEq ω] [DecidableEq ι] in
theorem sgNext_frame (cfg : SuperCfg ω) (g : SG) (e : SupEntry α ω ι) :
    (sgNext cfg g e).pend = e.pending ∧ (g.started = true → (sgNext cfg g e).started = true) := by
  unfold sgNext
  cases e.call with
  | reset => exact ⟨rfl, fun _ => rfl⟩
  | step _ | getDone _ | getAllDone | getInfo _ => exact ⟨rfl, id⟩
  | getObs r | getReward r =>
    cases r with
    | inner _ => exact ⟨rfl, id⟩
    | sup _ =>
      simp only []
      split <;> exact ⟨rfl, id⟩

/-- reward conservation along any history that satisfies the specification: for every agent of
the inner simulation, what is pending at the end plus everything delivered for it equals what was
pending at the start plus everything that accrued — nothing is lost and nothing is delivered twice
(`paidIn` is zero for a covered agent once it has had its final count, `c14_counted_once`) -/
theorem c14_reward_conservation (n : Nat) (cfg : SuperCfg ω) (a : Aid) (ha : a < n) :
    ∀ (tr : List (SupEntry α ω ι)) (g : SG), g.started = true → c14Loop n cfg g tr = true →
      (tr.foldl (sgNext cfg) g).pendOf a + paidAlong n cfg a g tr = g.pendOf a + grewAlong cfg a g tr := by
  intro tr
  induction tr with
  | nil => intro g _ _; simp [paidAlong, grewAlong]
  | cons e es ih =>
    intro g hs h
    unfold c14Loop at h
    simp only [hs, Bool.not_true, Bool.and_false, Bool.false_eq_true, if_false, Bool.and_eq_true] at h
    have hi := ih (sgNext cfg g e) ((sgNext_frame cfg g e).2 hs) h.2
    have hl := c14_ledger h.1 a ha
    have hp : (sgNext cfg g e).pendOf a = e.pending.getD a 0 := by
      unfold SG.pendOf; rw [(sgNext_frame cfg g e).1]
    simp only [List.foldl_cons, paidAlong, grewAlong]
    omega

/-- the constructor: a mapping that is not a partition of learning agents is rejected, otherwise the
whole trace is judged by the per-call clauses -/
theorem c14_ctor {learning : Aid → Bool} {out : Except Err (List (SupEntry α ω ι))}
    (h : specC14 n learning cfg out = true) :
    (ctorOK n learning cfg = false → out = .error .rejected) ∧
    (ctorOK n learning cfg = true → ∃ tr, out = .ok tr ∧ c14Loop n cfg {} tr = true) := by
  unfold specC14 at h
  constructor
  · intro hc
    simp only [hc, Bool.false_eq_true, if_false] at h
    cases out with
    | ok tr => simp at h
    | error er => cases er <;> simp at h ⊢
  · intro hc
    simp only [hc, if_true] at h
    cases out with
    | ok tr => exact ⟨tr, rfl, h⟩
    | error er => simp at h

end readings

/-! ## The clauses of the property for the model (any lawful simulation, any partition, any history):
each is the reading `c14_*` of the same name at `C14_every_call` -/

section model
variable [DecidableEq α] [DecidableEq ω] [DecidableEq ι] {S : SimIface σ α ω ι} {cfg : SuperCfg ω}
  {s0 : σ} {calls : List (SCall α)} {i : Nat} {e : SupEntry α ω ι} {g : SG}

theorem mask_iff (hS : Lawful S) (hc : ctorOK S.n S.learning cfg = true) (hn : NullTruthy cfg)
    (hm : ModelCall S cfg s0 calls i e g) {j : Nat} {cov : List Aid}
    (hcall : e.call = .getObs (.sup j)) (hg : cfg.groups[j]? = some cov) :
    ∃ ol, e.res = .obs (.super (cov.map fun c => (c, !g.isDone c)) ol) ∧ ol.map (·.1) = cov ∧
      e.simArgs = none ∧ e.simDone = g.done ∧ e.pending = g.pend :=
  c14_mask_iff (C14_every_call hS hc hn hm) hcall hg

theorem obs_handover (hS : Lawful S) (hc : ctorOK S.n S.learning cfg = true) (hn : NullTruthy cfg)
    (hm : ModelCall S cfg s0 calls i e g) {j : Nat} {cov : List Aid}
    (hcall : e.call = .getObs (.sup j)) (hg : cfg.groups[j]? = some cov) :
    ∃ mask ol, e.res = .obs (.super mask ol) ∧
      e.obsReads.map (·.1) = cov.filter (g.obsDue cfg) ∧
      ∀ p ∈ ol,
        ((g.isDone p.1 = false ∨ p.1 ∉ g.obsRep ∨ cfg.declared p.1 = none) → p ∈ e.obsReads) ∧
        ((g.isDone p.1 = true ∧ p.1 ∈ g.obsRep) → ∀ o, cfg.declared p.1 = some o → p.2 = o) :=
  c14_obs_handover (C14_every_call hS hc hn hm) hcall hg

theorem reward_sum (hS : Lawful S) (hc : ctorOK S.n S.learning cfg = true) (hn : NullTruthy cfg)
    (hm : ModelCall S cfg s0 calls i e g) {j : Nat} {cov : List Aid}
    (hcall : e.call = .getReward (.sup j)) (hg : cfg.groups[j]? = some cov) :
    e.res = .reward ((g.counted cov).map g.pendOf).sum ∧
    (∀ a < S.n, e.pending.getD a 0 = if a ∈ g.counted cov then 0 else g.pendOf a) ∧
    e.simArgs = none ∧ e.simDone = g.done ∧ e.obsReads = [] :=
  c14_reward_sum (C14_every_call hS hc hn hm) hcall hg

theorem done_iff_all (hS : Lawful S) (hc : ctorOK S.n S.learning cfg = true) (hn : NullTruthy cfg)
    (hm : ModelCall S cfg s0 calls i e g) {j : Nat} {cov : List Aid}
    (hcall : e.call = .getDone (.sup j)) (hg : cfg.groups[j]? = some cov) :
    ∃ b, e.res = .done b ∧ (b = true ↔ ∀ c ∈ cov, g.isDone c = true) ∧ untouched g e = true :=
  c14_done_iff_all (C14_every_call hS hc hn hm) hcall hg

theorem actions_filtered (hS : Lawful S) (hc : ctorOK S.n S.learning cfg = true) (hn : NullTruthy cfg)
    (hm : ModelCall S cfg s0 calls i e g) {acts : List (Ref × SAct α)}
    {oacts : List (Outer × SAct α)} (hcall : e.call = .step acts)
    (hchk : checkActs S.n cfg acts = .ok oacts) :
    e.res = .unit ∧ e.simArgs = some (supDictOf (oacts.flatMap (expect1 g))) ∧ e.obsReads = [] ∧
      e.pending = e.accrued :=
  c14_actions_filtered (C14_every_call hS hc hn hm) hcall hchk

theorem uncovered_transparent (hS : Lawful S) (hc : ctorOK S.n S.learning cfg = true)
    (hn : NullTruthy cfg) (hm : ModelCall S cfg s0 calls i e g) {a : Aid}
    (hnc : a ∉ cfg.covered) (hlt : a < S.n) :
    (e.call = .getObs (.inner a) →
      ∃ o, e.obsReads = [(a, o)] ∧ e.res = .obs (.plain o) ∧ e.simDone = g.done ∧ e.pending = g.pend) ∧
    (e.call = .getReward (.inner a) →
      e.res = .reward (g.pendOf a) ∧ e.simDone = g.done ∧
      ∀ b < S.n, e.pending.getD b 0 = if b = a then 0 else g.pendOf b) ∧
    (e.call = .getDone (.inner a) → e.res = .done (g.isDone a) ∧ untouched g e = true) ∧
    (e.call = .getInfo (.inner a) →
      ∃ i, e.res = .info (.plain i) ∧ e.simInfos[a]? = some i ∧ untouched g e = true) ∧
    (e.call = .getAllDone → e.res = .done e.simAllDone ∧ untouched g e = true) :=
  c14_uncovered_transparent (C14_every_call hS hc hn hm) hnc hlt

theorem covered_rejected (hS : Lawful S) (hc : ctorOK S.n S.learning cfg = true) (hn : NullTruthy cfg)
    (hm : ModelCall S cfg s0 calls i e g) {c : Aid} (hcov : c ∈ cfg.covered)
    (hcall : e.call = .getObs (.inner c) ∨ e.call = .getReward (.inner c) ∨
      e.call = .getDone (.inner c) ∨ e.call = .getInfo (.inner c)) :
    e.res = .err .rejected ∧ untouched g e = true :=
  c14_covered_rejected (C14_every_call hS hc hn hm) hcov hcall

end model

section wrapped
variable {S : SimIface σ α ω ι} {k : MKind} {cfg : SuperCfg ω}

/-- C01 holds of every manager over a wrapped simulation -/
theorem C01_wrapped [DecidableEq α] (hW : WF S k) (hk : k ≠ .dynamic) (hP : Partition cfg)
    (hcomplete : ∀ a < S.n, a ∈ cfg.covered ∨ a ∈ cfg.uncovered) (m0 : MState (SupSt σ))
    (ops : List (Op (SAct α))) :
    specC01 k (superSim S cfg).n (superSim S cfg).learning m0.shuffle
      (runOps (superSim S cfg) k m0 ops) = true :=
  C01_managers_honour_done_protocol _ k (superSim_WF hW hk hP hcomplete) m0 ops

/-- C07 holds of every manager over a wrapped simulation -/
theorem C07_wrapped [DecidableEq α] (hW : WF S k) (hk : k ≠ .dynamic) (hP : Partition cfg)
    (hcomplete : ∀ a < S.n, a ∈ cfg.covered ∨ a ∈ cfg.uncovered) (m0 : MState (SupSt σ))
    (ops : List (Op (SAct α))) :
    specC07 k (superSim S cfg).n (superSim S cfg).learning (runOps (superSim S cfg) k m0 ops) = true :=
  C07_fair_turns_and_progress _ k (superSim_WF hW hk hP hcomplete) m0 ops

/-- C15 (OpenSpiel adapter) holds over a wrapped simulation -/
theorem C15_wrapped [DecidableEq α] [DecidableEq ω] (hW : WF S k) (hk : k ≠ .dynamic)
    (hP : Partition cfg) (hcomplete : ∀ a < S.n, a ∈ cfg.covered ∨ a ∈ cfg.uncovered)
    (hl : S.learners ≠ []) (m0 : MState (SupSt σ)) (calls : List (Option (List (SAct α)))) :
    specC15 k (superSim S cfg).n (superSim S cfg).learning calls
      (osRun (superSim S cfg) k { m := m0 } calls) = true :=
  C15_openspiel _ k (superSim_WF hW hk hP hcomplete) hk (superSim_learners_ne_nil hcomplete hl) m0 calls

/-- C16 (episode generation) holds over a wrapped simulation -/
theorem C16_wrapped [DecidableEq α] [DecidableEq ω] (hW : WF S k) (hk : k ≠ .dynamic)
    (hP : Partition cfg) (hcomplete : ∀ a < S.n, a ∈ cfg.covered ∨ a ∈ cfg.uncovered)
    (P : Policies (SAct α) (SObs ω)) (horizon : Nat) (m : MState (SupSt σ)) :
    specC16 (superSim S cfg).n horizon P.pmap (generateEpisode (superSim S cfg) k P horizon m) = true :=
  C16_generate_episode _ k (superSim_WF hW hk hP hcomplete) P horizon m

end wrapped

/-- the judge is sound on the scripted family: the model's own session always passes -/
theorem C14_stub (sc : Script) (cfg : SuperCfg (List Int)) (hn : NullTruthy cfg) (s0 : StubSt)
    (calls : List (SCall Int)) :
    specC14 sc.n (stubSim sc).learning cfg (supSession (stubSim sc) cfg s0 calls) = true :=
  C14_trace (stubSim sc) (stub_lawful sc) cfg hn s0 calls

/-- the manager model over the wrapped stub passes the judges of C01 and C07 -/
theorem C14_stub_managers (sc : Script) (cfg : SuperCfg (List Int)) (k : MKind) (hk : k ≠ .dynamic)
    (hl : ∃ a < sc.n, sc.learning.getD a false = true) (hP : Partition cfg)
    (hcomplete : ∀ a < sc.n, a ∈ cfg.covered ∨ a ∈ cfg.uncovered) (m0 : MState (SupSt StubSt))
    (ops : List (Op (SAct Int))) :
    specC01 k (superSim (stubSim sc) cfg).n (superSim (stubSim sc) cfg).learning m0.shuffle
      (runOps (superSim (stubSim sc) cfg) k m0 ops) = true ∧
    specC07 k (superSim (stubSim sc) cfg).n (superSim (stubSim sc) cfg).learning
      (runOps (superSim (stubSim sc) cfg) k m0 ops) = true := by
  have hW : WF (stubSim sc) k := stub_WF sc k (fun _ => hl) (fun h => absurd h hk)
  exact ⟨C01_wrapped hW hk hP hcomplete m0 ops, C07_wrapped hW hk hP hcomplete m0 ops⟩

/-! ## Non-vacuity

The script has four learning agents and a non-learning entity, two of which finish at the same step;
the mapping two super agents and two uncovered agents (one of them the entity), covered agents with and
without a declared null observation; the history repeated reads, a call with a covered agent's id and a
second `reset`. -/

def exScript14 : Script :=
  { n := 5, learning := [true, true, true, true, false], doneAt := [1, 1, 9, 2, 9], finishAt := 9, noms := [] }

def exCfg14 : SuperCfg (List Int) :=
  { groups := [[1, 0], [3]], uncovered := [2, 4],
    nullObs := [some [999, 99, 0, 0], none, none, some [999, 99, 3, 0], none],
    nullTruthy := [true, false, false, true, false] }

def exCalls14 : List (SCall Int) :=
  [.reset, .getObs (.sup 0), .getReward (.sup 0),
   .step [(.sup 0, .joint [(1, 3), (0, 2)]), (.inner 2, .plain 1), (.sup 1, .joint [(3, 4)])],
   .getObs (.sup 0), .getObs (.sup 0), .getReward (.sup 0), .getReward (.sup 0), .getDone (.sup 0),
   .getDone (.sup 1), .getObs (.inner 0),
   .step [(.sup 0, .joint [(1, 3), (0, 2)]), (.sup 1, .joint [(3, 4)])],
   .getObs (.sup 1), .getObs (.sup 1), .getInfo (.sup 1), .getObs (.inner 2), .getReward (.inner 2),
   .getAllDone, .reset, .getObs (.sup 0)]

example : ctorOK exScript14.n (stubSim exScript14).learning exCfg14 = true := by decide

example : NullTruthy exCfg14 := by
  intro c hc
  have : c = 1 ∨ c = 0 ∨ c = 3 := by simpa [SuperCfg.covered, exCfg14] using hc
  rcases this with rfl | rfl | rfl <;> decide

example : Partition exCfg14 := by unfold Partition; decide

example : ∀ a < exScript14.n, a ∈ exCfg14.covered ∨ a ∈ exCfg14.uncovered := by decide

/-- the model's trace of the example history contains a super observation with a false mask bit that
hands out the declared null observation of agent 0, a step that hands the inner simulation a single
action, and a rejected call — and the session satisfies `specC14` -/
example :
    let out := supSession (stubSim exScript14) exCfg14 {} exCalls14
    (match out with
     | .ok tr =>
       (tr.any fun e => match e.res with
          | .obs (.super mask ol) => mask.any (fun p => !p.2) && decide ((0, [999, 99, 0, 0]) ∈ ol)
          | _ => false) &&
       (tr.any fun e => match e.simArgs with | some a => a.length == 1 | none => false) &&
       (tr.any fun e => match e.res with | .err .rejected => true | _ => false)
     | .error _ => false) = true ∧
    specC14 5 (stubSim exScript14).learning exCfg14 out = true := by
  decide +kernel

end Abmarl
