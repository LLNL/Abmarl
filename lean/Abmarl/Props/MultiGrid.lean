import Abmarl.Lemmas.MultiGrid
import Abmarl.Props.C07
import Abmarl.Lemmas.ExamplesJudge
import Abmarl.Lemmas.ExamplesKept
/-!
# `MultiAgentGridSim` as an instance of the general theorems (C01, C02, C03, C07, C08)

Model: `Model/MultiGrid.lean` (glue over the existing model of `PositionState`), tied to the real class by
the driver ops `gexample` / `mgrx` with configuration `(multigrid learning comp)`.  Every theorem is for
every grid, overlap table, agent mix, options of the placement state, tape and history.

* **C01 / C07** `MAG.mag_lawful`, `MAG.mag_WF`, `C01_MultiAgentGridSim`, `C07_MultiAgentGridSim`,
  `C07_MultiAgentGridSim_every_call_returns` (nobody is ever done: the managers report every learning
  agent for ever);
* **C03** `multigrid_reachable_WInv`, `multigrid_simIface_reachable`: every world reached by any history
  of resets, steps and getter calls satisfies `WInv` once a reset has returned, has the constructed static
  part, and everybody is alive;
* **C02** `multigrid_observation_in_space` (the observation is the empty dict, the only point of the
  empty `Dict` the agents declare), `multigrid_step_noRaise` (`step` returns for every action dict);
* **C08** `multigrid_reset_forgets`, `multigrid_fresh_twin`, `multigrid_used_sameBut_fresh`,
  `multigrid_fresh_twin_reachable`;
* **the judge** `multigrid_hist`.
-/
namespace Abmarl
open World

namespace MAG

/-- the state of a live object: nothing happened yet, or the invariant holds and everybody is alive -/
def Good (w0 : World) (s : St) : Prop :=
  if s.started then Ex.XInvA w0 s.w else s.w = w0

theorem reset_shape {c : StateComp} {s s' : St} (h : reset c s = .ok s') :
    applyComps [c] s.w s.tape = .ok (s'.w, s'.tape) ∧ s'.started = true := by
  unfold reset at h
  split at h
  · cases h
  · rename_i w' t' ha
    cases h
    exact ⟨ha, rfl⟩

theorem Good.world {w0 : World} {s : St} (hG : Good w0 s) : Ex.XInvA w0 s.w ∨ s.w = w0 := by
  unfold Good at hG
  split at hG
  · exact Or.inl hG
  · exact Or.inr hG

theorem Good.frame {w0 : World} {s : St} (hG : Good w0 s) : SFrame w0 s.w := by
  rcases hG.world with hX | hw
  · exact hX.frame
  · rw [hw]; exact SFrame.refl w0

theorem reset_good {w0 : World} (hcfg : CfgOK w0) (hfresh : w0.vitalsAlive = true) {c : StateComp}
    (hc : CompOK w0 c) {s s' : St} (hG : Good w0 s) (h : reset c s = .ok s') :
    s'.started = true ∧ Ex.XInvA w0 s'.w :=
  ⟨(reset_shape h).2, hc.establishes hcfg hfresh hG.world (reset_shape h).1⟩

/-- a `reset` that returns keeps health, ammunition and orientation: `PositionState` owns none of them -/
theorem reset_keeps {w0 : World} (hcfg : CfgOK w0) {c : StateComp} (hc : CompOK w0 c) {s s' : St}
    (hF : SFrame w0 s.w) (h : reset c s = .ok s') : Ex.Keeps True s.w s'.w := by
  obtain ⟨kind, o, rfl⟩ := hc.pos
  exact (Ex.comps_keeps hcfg hc.resetOK hF (reset_shape h).1).weaken fun _ => rfl

def OpOK (w0 : World) : MOp → Prop
  | .reset c _ => CompOK w0 c
  | _ => True

theorem runOp_keeps {P : St → Prop} {Q : MOp → Prop} {s : St} {op : MOp} (hop : Q op) (hP : P s)
    (hreset : ∀ c t s', Q (.reset c t) → reset c { s with tape := t } = .ok s' → P s') : P (runOp s op).2 := by
  cases op with
  | reset c tape =>
    simp only [runOp]
    cases h : reset c { s with tape := tape } with
    | error e => exact hP
    | ok s' => exact hreset c tape s' hop h
  | _ => exact hP

theorem runOp_good {w0 : World} (hcfg : CfgOK w0) (hfresh : w0.vitalsAlive = true) (s : St) (op : MOp)
    (hop : OpOK w0 op) (hG : Good w0 s) : Good w0 (runOp s op).2 := by
  refine runOp_keeps (Q := OpOK w0) hop hG fun c t s' hc h => ?_
  obtain ⟨hs, hX⟩ := reset_good hcfg hfresh hc (s := { s with tape := t }) hG h
  simp only [Good, hs, if_true]
  exact hX

theorem runOps_good {w0 : World} (hcfg : CfgOK w0) (hfresh : w0.vitalsAlive = true) (ops : List MOp) :
    ∀ (s : St), (∀ op ∈ ops, OpOK w0 op) → Good w0 s → Good w0 (runOps s ops).2 :=
  hist_inv (f := runOp) (stop := fun _ e => e.res.isErr) (run := runOps) (fun _ _ _ => rfl) (fun _ => rfl)
    (runOp_good hcfg hfresh) ops

/-- **`Lawful`**: the getters change nothing, every reward is 0 -/
theorem mag_lawful (cfg : Cfg) (n : Nat) : Lawful (toSimIface cfg n) where
  obs_done := by intros; rfl
  obs_allDone := by intros; rfl
  obs_next := by intros; rfl
  obs_pending := by intros; rfl
  rew_done := by intros; rfl
  rew_allDone := by intros; rfl
  rew_next := by intros; rfl
  rew_val := by intros; rfl
  rew_pending := by intro s a b; simp [toSimIface]

theorem mag_WF (cfg : Cfg) (n : Nat) (k : MKind) (hk : k ≠ .dynamic)
    (hl : k = .turnBased → ∃ a < n, cfg.isLearning a = true) : WF (toSimIface cfg n) k :=
  WF_of_lawful (mag_lawful cfg n) hk hl

end MAG

theorem C01_MultiAgentGridSim (cfg : MAG.Cfg) (n : Nat) (k : MKind) (hk : k ≠ .dynamic)
    (hl : k = .turnBased → ∃ a < n, cfg.isLearning a = true) (m0 : MState MAG.St) (ops : List (Op Int)) :
    specC01 k n cfg.isLearning m0.shuffle (runOps (MAG.toSimIface cfg n) k m0 ops) = true :=
  C01_managers_honour_done_protocol (MAG.toSimIface cfg n) k (MAG.mag_WF cfg n k hk hl) m0 ops

theorem C07_MultiAgentGridSim (cfg : MAG.Cfg) (n : Nat) (k : MKind) (hk : k ≠ .dynamic)
    (hl : k = .turnBased → ∃ a < n, cfg.isLearning a = true) (m0 : MState MAG.St) (ops : List (Op Int)) :
    specC07 k n cfg.isLearning (runOps (MAG.toSimIface cfg n) k m0 ops) = true :=
  C07_fair_turns_and_progress (MAG.toSimIface cfg n) k (MAG.mag_WF cfg n k hk hl) m0 ops

theorem C07_MultiAgentGridSim_every_call_returns (cfg : MAG.Cfg) (n : Nat) (k : MKind) (hk : k ≠ .dynamic)
    (hl : k = .turnBased → ∃ a < n, cfg.isLearning a = true) (m0 : MState MAG.St) (ops : List (Op Int))
    (i : Nat) (e : Entry Int MAG.ObsOut Unit) (hi : (runOps (MAG.toSimIface cfg n) k m0 ops)[i]? = some e)
    (hp : ProtocolOK {} (runOps (MAG.toSimIface cfg n) k m0 ops) i) :
    ∀ er, e.res = .err er → er = .rejected :=
  C07_every_call_returns (MAG.toSimIface cfg n) k (MAG.mag_WF cfg n k hk hl) m0 ops i e hi hp

/-- **every reachable world satisfies `WInv`**: from the constructed world `w0` (everybody alive with legal
vitals, configuration facts `CfgOK`), after ANY history of resets (any covered placement state, any tape),
steps (any action dicts) and getter calls: once a reset has returned, the world satisfies the C03
invariant, has the static part it was built with, and everybody is alive. -/
theorem multigrid_reachable_WInv (w0 : World) (hcfg : CfgOK w0) (hfresh : w0.vitalsAlive = true) (t0 : Tape)
    (ops : List MAG.MOp) (hops : ∀ op ∈ ops, MAG.OpOK w0 op) :
    let s := (MAG.runOps { w := w0, tape := t0 } ops).2
    s.started = true → s.w.WInv = true ∧ SFrame w0 s.w ∧ HealthC s.w := by
  intro s hs
  have hG : MAG.Good w0 s := MAG.runOps_good hcfg hfresh ops _ hops (by simp [MAG.Good])
  simp only [MAG.Good, hs, if_true] at hG
  exact ⟨hG.inv, hG.frame, hG.alive⟩

/-- the states a manager can drive the `SimIface` instance into -/
inductive MAG.Reach (cfg : MAG.Cfg) (w0 : World) (n : Nat) : MAG.St → Prop where
  | init (t : Tape) : MAG.Reach cfg w0 n { w := w0, tape := t }
  | reset {s} : MAG.Reach cfg w0 n s → MAG.Reach cfg w0 n ((MAG.toSimIface cfg n).reset s)
  | step {s} (acts) : MAG.Reach cfg w0 n s → MAG.Reach cfg w0 n ((MAG.toSimIface cfg n).step s acts)
  | obs {s} (a) : MAG.Reach cfg w0 n s → MAG.Reach cfg w0 n ((MAG.toSimIface cfg n).obs s a).2
  | reward {s} (a) : MAG.Reach cfg w0 n s → MAG.Reach cfg w0 n ((MAG.toSimIface cfg n).reward s a).2

/-- of the calls a manager makes only `reset` changes the state, and it is the `reset` of a history -/
theorem MAG.Reach.call {cfg : MAG.Cfg} {w0 : World} {n : Nat} {P : MAG.St → Prop} (h0 : ∀ t, P { w := w0, tape := t })
    (hreset : ∀ s, P s → P (MAG.runOp s (.reset cfg.comp s.tape)).2) {s : MAG.St} (h : MAG.Reach cfg w0 n s) :
    P s := by
  induction h with
  | init t => exact h0 t
  | @reset s _ ih =>
    have he : (MAG.toSimIface cfg n).reset s = (MAG.runOp s (.reset cfg.comp s.tape)).2 := by
      simp only [MAG.toSimIface, MAG.runOp]
      cases MAG.reset cfg.comp s <;> rfl
    rw [he]
    exact hreset s ih
  | step _ _ ih => exact ih
  | obs _ _ ih => exact ih
  | reward _ _ ih => exact ih

theorem multigrid_simIface_reachable (cfg : MAG.Cfg) (w0 : World) (n : Nat) (hcfg : CfgOK w0)
    (hfresh : w0.vitalsAlive = true) (hc : MAG.CompOK w0 cfg.comp) {s : MAG.St} (h : MAG.Reach cfg w0 n s) :
    MAG.Good w0 s :=
  h.call (fun _ => by simp [MAG.Good]) (fun s => MAG.runOp_good hcfg hfresh s _ hc)

/-- the declared observation space of every agent of a `MultiAgentGridSim` is the empty `Dict` (no
observer component adds a channel); its only point is the empty dict — which is what `get_obs` returns in
every state, for every argument -/
theorem multigrid_observation_in_space (s : MAG.St) (a : Aid) :
    (MAG.runOp s (.obs a)).1.res = .obs 0 true ∧ (MAG.runOp s (.obs a)).2 = s := ⟨rfl, rfl⟩

/-- `step` returns for every action dict, in every state, and changes nothing -/
theorem multigrid_step_noRaise (s : MAG.St) (keys : List Aid) :
    (MAG.runOp s (.step keys)).1.res = .unit ∧ (MAG.runOp s (.step keys)).2 = s := ⟨rfl, rfl⟩

/-- **`reset` forgets**: two objects of the same configuration whose worlds agree on what `PositionState`
does not own (`Ex.SameBut`: health, ammunition, orientation), reset under the same seed, end in the same
state or raise the same error — whatever cells and positions either had before -/
theorem multigrid_reset_forgets (c : StateComp) (s1 s2 : MAG.St) (hw : Ex.SameBut [c] s1.w s2.w)
    (ht : s1.tape = s2.tape) (hp : c.resetsPos = true) : MAG.reset c s1 = MAG.reset c s2 := by
  unfold MAG.reset
  rw [Ex.comps_reset_forgets [c] s1.w s2.w s1.tape hw (by simp [hp]), ht]

theorem multigrid_fresh_twin (cfg : MAG.Cfg) (n : Nat) (k : MKind)
    (hl : k = .turnBased → (MAG.toSimIface cfg n).learners ≠ []) (m1 m2 : MState MAG.St)
    (hw : Ex.SameBut [cfg.comp] m1.sim.w m2.sim.w) (hp : cfg.comp.resetsPos = true)
    (hseed : m1.sim.tape = m2.sim.tape) (hok : ∃ s', MAG.reset cfg.comp m2.sim = .ok s')
    (hsh : m1.shuffle = m2.shuffle) (ht : m1.tape = m2.tape) (follow : List (Op Int)) :
    runOps (MAG.toSimIface cfg n) k m1 (.reset :: follow) = runOps (MAG.toSimIface cfg n) k m2 (.reset :: follow) := by
  apply runOps_reset_eq_of (MAG.toSimIface cfg n) k hl m1 m2 ?_ hsh ht
  obtain ⟨s', hs'⟩ := hok
  have := multigrid_reset_forgets cfg.comp m1.sim m2.sim hw hseed hp
  simp only [MAG.toSimIface, this, hs']

/-- in every state the managers can reach, health, ammunition and orientation are what they were in the
constructed world (no component of the class owns them).  (`hlen` is not used: it is a clause of the well-formed
options in `hc`.) -/
theorem multigrid_reach_keeps (cfg : MAG.Cfg) (w0 : World) (n : Nat) (hcfg : CfgOK w0)
    (hfresh : w0.vitalsAlive = true) (hc : MAG.CompOK w0 cfg.comp) (hlen : w0.st.length = w0.cfg.length)
    {s : MAG.St} (h : MAG.Reach cfg w0 n s) : SFrame w0 s.w ∧ Ex.Keeps True w0 s.w := by
  suffices hh : MAG.Good w0 s ∧ Ex.Keeps True w0 s.w from ⟨hh.1.frame, hh.2⟩
  refine h.call (P := fun s => MAG.Good w0 s ∧ Ex.Keeps True w0 s.w)
    (fun _ => ⟨by simp [MAG.Good], Ex.Keeps.refl _ _⟩) (fun s hP => ?_)
  refine ⟨MAG.runOp_good hcfg hfresh s _ hc hP.1, ?_⟩
  have hF := hP.1.frame
  exact MAG.runOp_keeps (P := fun s' => Ex.Keeps True w0 s'.w) (Q := MAG.OpOK w0) hc hP.2
    fun c t s' hc h => hP.2.trans (MAG.reset_keeps hcfg hc (s := { s with tape := t }) hF h) hF.sameG.cfgOf

/-- a used object and a newly built one are `Ex.SameBut`.  Hypotheses: no agent has ammunition or an
orientation (nothing in the class touches either; `Ex.Keeps`, the lemma used, carries them for such agents
only). -/
theorem multigrid_used_sameBut_fresh (cfg : MAG.Cfg) (w0 : World) (n : Nat) (hcfg : CfgOK w0)
    (hfresh : w0.vitalsAlive = true) (hc : MAG.CompOK w0 cfg.comp) (hlen : w0.st.length = w0.cfg.length)
    (hammo : ∀ a, (w0.cfgOf a).hasAmmo = false) (horient : ∀ a, (w0.cfgOf a).hasOrient = false)
    {s : MAG.St} (h : MAG.Reach cfg w0 n s) : Ex.SameBut [cfg.comp] s.w w0 := by
  obtain ⟨hF, hK⟩ := multigrid_reach_keeps cfg w0 n hcfg hfresh hc hlen h
  exact Ex.SameBut.of_keeps hF hK hlen (fun _ => trivial) (Or.inr hammo) (Or.inr horient)

/-- **C08, used versus fresh, full form**: a manager whose `MultiAgentGridSim` went through ANY history of
manager calls and a manager over the newly built simulation, same kind, same seeds: if the reset returns,
the episode after it has the same trace on both. -/
theorem multigrid_fresh_twin_reachable (cfg : MAG.Cfg) (w0 : World) (n : Nat) (k : MKind) (hcfg : CfgOK w0)
    (hfresh : w0.vitalsAlive = true) (hc : MAG.CompOK w0 cfg.comp) (hlen : w0.st.length = w0.cfg.length)
    (hammo : ∀ a, (w0.cfgOf a).hasAmmo = false) (horient : ∀ a, (w0.cfgOf a).hasOrient = false)
    (hl : k = .turnBased → (MAG.toSimIface cfg n).learners ≠ []) (m1 m2 : MState MAG.St)
    (hused : MAG.Reach cfg w0 n m1.sim) (seed : Tape) (hnew : m2.sim = { w := w0, tape := seed })
    (hseed : m1.sim.tape = seed) (hok : ∃ s', MAG.reset cfg.comp m2.sim = .ok s')
    (hsh : m1.shuffle = m2.shuffle) (ht : m1.tape = m2.tape) (follow : List (Op Int)) :
    runOps (MAG.toSimIface cfg n) k m1 (.reset :: follow) = runOps (MAG.toSimIface cfg n) k m2 (.reset :: follow) := by
  have hsb := multigrid_used_sameBut_fresh cfg w0 n hcfg hfresh hc hlen hammo horient hused
  have hp : cfg.comp.resetsPos = true := by
    obtain ⟨kind, o, hko⟩ := hc.pos
    rw [hko]; rfl
  exact multigrid_fresh_twin cfg n k hl m1 m2 (by rw [hnew]; exact hsb) hp (by rw [hnew]; exact hseed) hok hsh ht follow

theorem MAG.judge1_model {w0 : World} (hcfg : CfgOK w0) (hfresh : w0.vitalsAlive = true) {s : MAG.St}
    (hG : MAG.Good w0 s) (op : MAG.MOp) (hop : MAG.OpOK w0 op) :
    MAG.judge1 w0 s.w op (MAG.runOp s op).1 = true ∧ (MAG.runOp s op).1.w = (MAG.runOp s op).2.w := by
  cases op with
  | reset c tape =>
    simp only [MAG.runOp]
    cases h : MAG.reset c { s with tape := tape } with
    | error e => exact ⟨rfl, rfl⟩
    | ok s' =>
      obtain ⟨_, hX⟩ := MAG.reset_good hcfg hfresh hop (s := { s with tape := tape }) hG h
      refine ⟨?_, rfl⟩
      simp [MAG.judge1, hX.inv, Ex.frameb_of_sframe hX.frame, MAG.aliveb_of_healthC hX.alive]
  | step _ => exact ⟨by simp [MAG.runOp, MAG.judge1], rfl⟩
  | obs _ => exact ⟨by simp [MAG.runOp, MAG.judge1], rfl⟩
  | rew _ => exact ⟨by simp [MAG.runOp, MAG.judge1], rfl⟩
  | done _ => exact ⟨by simp [MAG.runOp, MAG.judge1], rfl⟩
  | allDone => exact ⟨by simp [MAG.runOp, MAG.judge1], rfl⟩

theorem MAG.specFrom_model {w0 : World} (hcfg : CfgOK w0) (hfresh : w0.vitalsAlive = true) (ops : List MAG.MOp) :
    ∀ (s : MAG.St), (∀ op ∈ ops, MAG.OpOK w0 op) → MAG.Good w0 s →
      MAG.specFrom w0 s.w (MAG.zipOps ops (MAG.runOps s ops).1) = true :=
  fun s hops hG =>
    hist_spec (f := MAG.runOp) (stop := fun _ e => e.res.isErr) (run := MAG.runOps) (spec := MAG.specFrom w0)
      (zip := MAG.zipOps) (judge := MAG.judge1 w0) (next := fun e => e.w) (V := fun j s => j = s.w)
      (P := MAG.Good w0) (Q := MAG.OpOK w0)
      -- the unfolding equations of `runOps`, `zipOps` and `specFrom`, in the order of the binders of `hist_spec`
      (fun _ _ _ => rfl) (fun _ => rfl) (fun _ _ _ _ => rfl) (fun ops => by cases ops <;> rfl)
      (fun j op e rest => by obtain ⟨res, w⟩ := e; cases res <;> rfl) (fun _ => rfl)
      (MAG.runOp_good hcfg hfresh)
      (fun j s op hop hG hj => by rw [hj]; exact (MAG.judge1_model hcfg hfresh hG op hop).1)
      (fun s op hop hG _ => (MAG.judge1_model hcfg hfresh hG op hop).2)
      ops s _ hops hG rfl

theorem MAG.magPre_hyps {w0 : World} {ops : List MAG.MOp} (h : MAG.magPre w0 ops = true) :
    CfgOK w0 ∧ w0.vitalsAlive = true ∧ ∀ op ∈ ops, MAG.OpOK w0 op := by
  simp only [MAG.magPre, Bool.and_eq_true, List.all_eq_true] at h
  refine ⟨(cfgOKb_iff w0).mp h.1.1, h.1.2, ?_⟩
  intro op hop
  have := h.2 op hop
  cases op with
  | reset c tape => exact MAG.compOK_of_b this
  | _ => trivial

/-- **the form the judge evaluates**: under `magPre` (the world as the constructors leave it, every reset
with a covered placement state) the model's own trace satisfies `specMAG` -/
theorem multigrid_hist (w0 : World) (t0 : Tape) (ops : List MAG.MOp) (hpre : MAG.magPre w0 ops = true) :
    MAG.specMAG w0 (MAG.zipOps ops (MAG.runOps { w := w0, tape := t0 } ops).1) = true := by
  obtain ⟨hcfg, hfresh, hops⟩ := MAG.magPre_hyps hpre
  exact MAG.specFrom_model hcfg hfresh ops { w := w0, tape := t0 } hops (by simp [MAG.Good])

/-! ## Non-vacuity: two agents on a 1×3 grid, two episodes -/

def exMGWorld : World :=
  { rows := 1, cols := 3, overlap := [(1, [2]), (2, [1])], cells := [[], [], []],
    cfg := [{ enc := 1, initPos := some (0, 2) }, { enc := 2 }], st := [{}, {}] }

def exMGOps : List MAG.MOp :=
  [.obs 0, .reset (.position .position {}) [1], .step [0, 1], .obs 1, .rew 0, .done 1, .allDone,
   .reset (.position .position {}) [0], .allDone]

example : MAG.magPre exMGWorld exMGOps = true := by decide +kernel

example : ((MAG.runOps { w := exMGWorld } exMGOps).1.map (·.res)) =
    [.obs 0 true, .unit, .unit, .obs 0 true, .int 0, .bool false, .bool false, .unit, .bool false] := by
  decide +kernel

/-- the two resets placed the second agent on different cells (the tape is used) -/
example : ((MAG.runOps { w := exMGWorld } exMGOps).1.map (fun e => (e.w.stOf 1).pos)) =
    [(0, 0), (0, 1), (0, 1), (0, 1), (0, 1), (0, 1), (0, 1), (0, 0), (0, 0)] := by
  decide +kernel

example : MAG.specMAG exMGWorld (MAG.zipOps exMGOps (MAG.runOps { w := exMGWorld } exMGOps).1) = true :=
  multigrid_hist _ _ _ (by decide +kernel)

/-- the reached state meets the hypotheses of `multigrid_reachable_WInv` -/
example : (MAG.runOps { w := exMGWorld } exMGOps).2.started = true := by decide +kernel

/-- the judge rejects a trace in which `step` moved somebody -/
example :
    let tr := (MAG.runOps { w := exMGWorld } exMGOps).1
    MAG.specMAG exMGWorld (MAG.zipOps exMGOps (tr.modify 2 fun e => { e with w := exMGWorld })) = false := by
  decide +kernel

def exMGCfg : MAG.Cfg := { learning := [true, false], comp := .position .position {} }

/-- the hypotheses of the C08 theorems are inhabited: the state after a reset through the `SimIface` instance is
reachable, and it agrees with the constructed world on what `PositionState` does not own -/
example : Ex.SameBut [exMGCfg.comp] ((MAG.toSimIface exMGCfg 2).reset { w := exMGWorld, tape := [1] }).w exMGWorld :=
  multigrid_used_sameBut_fresh exMGCfg exMGWorld 2 ((cfgOKb_iff _).mp (by decide +kernel)) (by decide +kernel)
    (MAG.compOK_of_b (by decide +kernel)) (by decide +kernel) (fun a => by
      cases a with
      | zero => rfl
      | succ a => cases a <;> rfl) (fun a => by
      cases a with
      | zero => rfl
      | succ a => cases a <;> rfl) (MAG.Reach.reset (MAG.Reach.init [1]))

/-- the manager theorems apply: an all-step run (nobody is ever done, the learning agent is reported every time) -/
example : specC01 .allStep 2 exMGCfg.isLearning false
    (runOps (MAG.toSimIface exMGCfg 2) .allStep (mgrInit ({ w := exMGWorld, tape := [1] } : MAG.St) false [])
      [.reset, .step [(0, 0)], .step [(0, 0)]]) = true :=
  C01_MultiAgentGridSim exMGCfg 2 .allStep (by decide +kernel) (fun h => by cases h)
    (mgrInit ({ w := exMGWorld, tape := [1] } : MAG.St) false []) [.reset, .step [(0, 0)], .step [(0, 0)]]

end Abmarl
