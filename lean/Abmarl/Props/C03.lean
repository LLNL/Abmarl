import Abmarl.Props.C03Base
import Abmarl.Props.C11
import Abmarl.Model.GridSim
import Abmarl.Spec.GridSim
/-!
# C03 for every reachable state

`C03_reachable`: after a first full reset, **every** sequence of moves (three actors), attacks (four actors), deaths and
further resets — any tapes, any interleaving, any length — ends in a world satisfying the invariant `WInv`.  As in `step`,
`runGOp` carries out a move or an attack for an active agent of the simulation only and skips the others; a move
moreover only with an action of the mover's action space, an attack with any action.  `C03_every_step`: so does every
world on the way; `C03_hist`: the same in the form the judge evaluates on a trace (`specC03Hist`), with the hypotheses
as the Boolean `histPre` (`histPre_iff`).  The first reset is a step of the history like every other: a world is `Ready`
for an operation when it satisfies the invariant or the operation is a reset (`runGOp_ready`).
`C03_place`: a placement state alone, given legal vitals.  Two sets of examples: a small simulation judged on traces
(with finding K4), and a dirty world from which `C03_reachable` is applied.
-/
namespace Abmarl
open World

/-- a reset that goes through a placement state and the three vitals components (the order in the
list — the iteration order of the simulation's set of state components — is arbitrary), in the
regular oracle stream (a drawn initial health is never exactly 0; the other stream is the component
`healthClosed`, finding K4) -/
def FullReset (w0 : World) (cs : List StateComp) : Prop :=
  (∃ kind o, StateComp.position kind o ∈ cs) ∧ StateComp.health ∈ cs ∧ StateComp.ammo ∈ cs ∧
  StateComp.orient ∈ cs ∧ StateComp.healthClosed ∉ cs ∧
  ∀ kind o, StateComp.position kind o ∈ cs → wfPlacement kind o w0 = true

def ResetsFull (w0 : World) (ops : List (GOp × Tape)) : Prop :=
  ∀ cs t, (GOp.reset cs, t) ∈ ops → FullReset w0 cs

theorem sframe_of_sameStatic {w w' : World} (h : sameStatic w w' = true) : SFrame w w' := by
  obtain ⟨h1, h2, h3, h4, _, h6⟩ := (sameStatic_iff w w').mp h
  exact ⟨h1.symm, h2.symm, h3.symm, h4.symm, h6.symm⟩

theorem noAmmoC_of_WInv {w : World} (hI : w.WInv = true) : NoAmmoC w := by
  intro a ha _
  exact (((WInv_iff_InvV w).mp hI).vit a ha).ammo0

theorem move_sframe {w : World} {c : MoveCall} {o : MoveOut} (h : runMoveCall w c = .ok o) : SFrame w o.post :=
  (runMoveCall_step h).sframe

theorem reset_step {w0 w : World} {cs : List StateComp} {t : Tape} {r : World × Tape} (hcfg : CfgOK w0)
    (hfull : FullReset w0 cs) (hF : SFrame w0 w) (hn : NoAmmoC w) (hr : applyComps cs w t = .ok r) :
    SFrame w0 r.1 ∧ r.1.WInv = true := by
  obtain ⟨hpos, hh, ha, ho, hnc, hwf⟩ := hfull
  have hwf' : ∀ kind o, StateComp.position kind o ∈ cs → wfPlacement kind o w = true :=
    fun k o hm => by rw [wfPlacement_of_sframe hF]; exact hwf k o hm
  obtain ⟨hS, hI⟩ := reset_frame_inv cs w t r.1 r.2 hpos hh ha ho hnc hwf' (cfgOK_of_sframe hF hcfg) hn hr
  exact ⟨hF.trans hS, hI⟩

/-- where a history stands before an operation: inside the invariant, or — before the first reset, with whatever the
constructors left — about to be reset -/
def Ready (w : World) (op : GOp) : Prop := w.WInv = true ∨ (NoAmmoC w ∧ op.isReset = true)

/-- `Ready` for the first of the operations that remain, inside the invariant when none is left -/
def Start (w : World) : List (GOp × Tape) → Prop
  | [] => w.WInv = true
  | (op, _) :: _ => Ready w op

theorem Start.of_inv {w : World} (h : w.WInv = true) : ∀ ops, Start w ops
  | [] => h
  | _ :: _ => Or.inl h

theorem resetsFull_cons {w0 : World} {cs0 : List StateComp} {t0 : Tape} {ops : List (GOp × Tape)}
    (h0 : FullReset w0 cs0) (hR : ResetsFull w0 ops) : ResetsFull w0 ((.reset cs0, t0) :: ops) := by
  intro cs t hm
  rcases List.mem_cons.mp hm with e | hm
  · cases e; exact h0
  · exact hR cs t hm

theorem resetsFull_head {w0 : World} {op : GOp} {t : Tape} {rest : List (GOp × Tape)}
    (hR : ResetsFull w0 ((op, t) :: rest)) : ∀ cs, op = .reset cs → FullReset w0 cs :=
  fun cs hc => hR cs t (hc ▸ List.mem_cons_self)

theorem resetsFull_tail {w0 : World} {p : GOp × Tape} {rest : List (GOp × Tape)}
    (hR : ResetsFull w0 (p :: rest)) : ResetsFull w0 rest :=
  fun cs t hm => hR cs t (List.mem_cons_of_mem _ hm)

theorem runGOp_ready {w0 w w' : World} {t : Tape} {op : GOp} (hcfg : CfgOK w0)
    (hfull : ∀ cs, op = .reset cs → FullReset w0 cs)
    (hF : SFrame w0 w) (hS : Ready w op) (h : runGOp w t op = .ok w') :
    SFrame w0 w' ∧ w'.WInv = true := by
  cases op with
  | move c =>
    have hI : w.WInv = true := hS.resolve_right fun h => nomatch h.2
    simp only [runGOp] at h
    split at h
    · obtain ⟨o, ho, rfl⟩ := map_ok h
      exact ⟨hF.trans (move_sframe ho), runMoveCall_WInv hI ho⟩
    · cases h; exact ⟨hF, hI⟩
  | attack cfg a act =>
    have hI : w.WInv = true := hS.resolve_right fun h => nomatch h.2
    simp only [runGOp] at h
    split at h
    · obtain ⟨⟨r, w1, t1⟩, hp, rfl⟩ := map_ok h
      obtain ⟨hI1, hst⟩ := processAttack_inv (fun _ => rfl) ((WInv_iff_InvV w).mp hI) hp
      exact ⟨hF.trans hst, (WInv_iff_InvV w1).mpr hI1⟩
    · cases h; exact ⟨hF, hI⟩
  | reset cs =>
    obtain ⟨r, hr, rfl⟩ := map_ok (show (applyComps cs w t).map (·.1) = .ok w' from h)
    exact reset_step hcfg (hfull cs rfl) hF (hS.elim noAmmoC_of_WInv (·.1)) hr

theorem runGOp_step {w0 w w' : World} {t : Tape} {op : GOp} (hcfg : CfgOK w0)
    (hfull : ∀ cs, op = .reset cs → FullReset w0 cs)
    (hF : SFrame w0 w) (hI : w.WInv = true) (h : runGOp w t op = .ok w') :
    SFrame w0 w' ∧ w'.WInv = true :=
  runGOp_ready hcfg hfull hF (Or.inl hI) h

theorem runGOps_append (xs ys : List (GOp × Tape)) :
    ∀ w : World, runGOps w (xs ++ ys) =
      (match runGOps w xs with
       | .error e => .error e
       | .ok w' => runGOps w' ys) := by
  intro w
  fun_induction runGOps w xs with
  | case1 => rfl
  | case2 w op t rest e h1 => simp only [List.cons_append, runGOps, h1]
  | case3 w op t rest w1 h1 ih => simp only [List.cons_append, runGOps, h1]; exact ih

theorem runGOps_snoc {w0 w w' : World} {ops : List (GOp × Tape)} {op : GOp} {t : Tape}
    (h : runGOps w0 ops = .ok w) (hop : runGOp w t op = .ok w') :
    runGOps w0 (ops ++ [(op, t)]) = .ok w' := by
  rw [runGOps_append, h]
  simp only [runGOps, hop]

theorem resetsFull_snoc {w0 : World} {ops : List (GOp × Tape)} {op : GOp} {t : Tape}
    (hR : ResetsFull w0 ops) (hfull : ∀ cs, op = .reset cs → FullReset w0 cs) :
    ResetsFull w0 (ops ++ [(op, t)]) := by
  intro cs t' hm
  rcases List.mem_append.mp hm with hm | hm
  · exact hR cs t' hm
  · simp only [List.mem_singleton, Prod.mk.injEq] at hm
    exact hfull cs hm.1.symm

theorem runGOps_start {w0 : World} (hcfg : CfgOK w0) (ops : List (GOp × Tape)) :
    ∀ (w w' : World), ResetsFull w0 ops → SFrame w0 w → Start w ops → runGOps w ops = .ok w' →
      SFrame w0 w' ∧ w'.WInv = true := by
  intro w
  fun_induction runGOps w ops with
  | case1 w => intro w' _ hF hI h; cases h; exact ⟨hF, hI⟩
  | case2 => intro w' _ _ _ h; cases h
  | case3 w op t rest w1 h1 ih =>
    intro w' hR hF hS h
    obtain ⟨hF1, hI1⟩ := runGOp_ready hcfg (resetsFull_head hR) hF hS h1
    exact ih w' (resetsFull_tail hR) hF1 (.of_inv hI1 rest) h

theorem runGOps_inv {w0 : World} (hcfg : CfgOK w0) (ops : List (GOp × Tape)) :
    ∀ (w w' : World), ResetsFull w0 ops → SFrame w0 w → w.WInv = true → runGOps w ops = .ok w' →
      SFrame w0 w' ∧ w'.WInv = true :=
  fun w w' hR hF hI => runGOps_start hcfg ops w w' hR hF (.of_inv hI ops)

/-- **C03**: from **any** initial world `w0` (dirty grid, stale agents — whatever the constructors
left), after a first full reset every history of moves, attacks (with the deaths they cause) and
further full resets — any tapes, interleaving and length — that runs to its end leaves a world
satisfying the invariant.  Of a history `runGOp` carries out the moves and attacks of active agents of
the simulation (a move with an action of the mover's action space, an attack with any action) and skips
the others, as `step` does.  Hypotheses: the configuration facts the constructors guarantee (`CfgOK`,
`wfPlacement`; C19) and that the ammunition field of agents without ammunition was never written
before the first reset. -/
theorem C03_reachable (w0 : World) (cs0 : List StateComp) (t0 : Tape) (ops : List (GOp × Tape))
    (hcfg : CfgOK w0) (hn : NoAmmoC w0) (h0 : FullReset w0 cs0) (hR : ResetsFull w0 ops) {w : World}
    (h : runGOps w0 ((.reset cs0, t0) :: ops) = .ok w) : w.WInv = true :=
  (runGOps_start hcfg _ w0 w (resetsFull_cons h0 hR) (SFrame.refl w0) (Or.inr ⟨hn, rfl⟩) h).2

theorem cfgOKb_iff (w : World) : cfgOKb w = true ↔ CfgOK w := by
  have key : ∀ c : AgentCfg,
      ((match c.initHealth with | some h => decide (0 < h) && decide (h ≤ 1) | none => true) &&
        (match c.initOrient with | some o => decide (o ≤ 4) | none => true)) = true ↔
      (∀ h, c.initHealth = some h → 0 < h ∧ h ≤ 1) ∧ ∀ o, c.initOrient = some o → o ≤ 4 := fun c => by
    cases c.initHealth <;> cases c.initOrient <;>
      simp only [Bool.and_eq_true, decide_eq_true_eq, Option.some.injEq, forall_eq', reduceCtorEq, false_implies,
        implies_true, and_self]
  rw [cfgOKb, all_cfg_iff w rfl]
  exact ⟨fun h => ⟨fun a => ((key _).mp (h a)).1, fun a => ((key _).mp (h a)).2⟩,
    fun h a => (key _).mpr ⟨h.health a, h.orient a⟩⟩

theorem noAmmoCb_iff (w : World) : noAmmoCb w = true ↔ NoAmmoC w := by
  simp only [noAmmoCb, NoAmmoC, List.all_eq_true, allAgents, List.mem_range, Bool.or_eq_true, decide_eq_true_eq]
  exact forall_congr' fun a => forall_congr' fun _ => by cases (w.cfgOf a).hasAmmo <;> simp

theorem any_isPosition_iff (cs : List StateComp) :
    cs.any StateComp.isPosition = true ↔ ∃ kind o, StateComp.position kind o ∈ cs := by
  simp only [List.any_eq_true]
  constructor
  · rintro ⟨c, hc, h⟩
    cases c with
    | position kind o => exact ⟨kind, o, hc⟩
    | _ => cases h
  · rintro ⟨kind, o, h⟩; exact ⟨_, h, rfl⟩

theorem any_isHealth_iff (cs : List StateComp) :
    cs.any StateComp.isHealth = true ↔ StateComp.health ∈ cs :=
  any_eq_true_iff_mem (fun x => by cases x <;> simp [StateComp.isHealth]) cs

theorem any_isAmmo_iff (cs : List StateComp) :
    cs.any StateComp.isAmmo = true ↔ StateComp.ammo ∈ cs :=
  any_eq_true_iff_mem (fun x => by cases x <;> simp [StateComp.isAmmo]) cs

theorem any_isOrient_iff (cs : List StateComp) :
    cs.any StateComp.isOrient = true ↔ StateComp.orient ∈ cs :=
  any_eq_true_iff_mem (fun x => by cases x <;> simp [StateComp.isOrient]) cs

theorem any_isHealthClosed_iff (cs : List StateComp) :
    cs.any StateComp.isHealthClosed = true ↔ StateComp.healthClosed ∈ cs :=
  any_eq_true_iff_mem (fun x => by cases x <;> simp [StateComp.isHealthClosed]) cs

theorem all_wfOn_iff (w0 : World) (cs : List StateComp) :
    cs.all (StateComp.wfOn w0) = true ↔
      ∀ kind o, StateComp.position kind o ∈ cs → wfPlacement kind o w0 = true := by
  simp only [List.all_eq_true]
  constructor
  · intro h kind o hm; exact h _ hm
  · intro h c hc
    cases c with
    | position kind o => exact h kind o hc
    | _ => rfl

theorem fullResetb_iff (w0 : World) (cs : List StateComp) :
    fullResetb w0 cs = true ↔ FullReset w0 cs := by
  simp only [fullResetb, FullReset, Bool.and_eq_true, Bool.not_eq_true', any_isPosition_iff,
    any_isHealth_iff, any_isAmmo_iff, any_isOrient_iff, all_wfOn_iff, and_assoc,
    ← Bool.not_eq_true, any_isHealthClosed_iff]

theorem resetsFullb_iff (w0 : World) (l : List (GOp × Tape)) :
    (l.all fun p => p.1.resetsFullb w0) = true ↔ ResetsFull w0 l := by
  rw [List.all_eq_true]
  constructor
  · intro h cs t hm
    exact (fullResetb_iff w0 cs).mp (h _ hm)
  · rintro h ⟨op, t⟩ hp
    cases op with
    | reset cs => exact (fullResetb_iff w0 cs).mpr (h cs t hp)
    | _ => rfl

theorem histPre_iff (w0 : World) (ops : List (GOp × Tape)) :
    histPre w0 ops = true ↔
      CfgOK w0 ∧ NoAmmoC w0 ∧
      ∃ cs0 t0 rest, ops = (.reset cs0, t0) :: rest ∧ FullReset w0 cs0 ∧ ResetsFull w0 rest := by
  simp only [histPre, Bool.and_eq_true, cfgOKb_iff, noAmmoCb_iff, and_assoc]
  refine and_congr_right fun _ => and_congr_right fun _ => ?_
  constructor
  · rintro ⟨hfirst, hrest⟩
    cases ops with
    | nil => cases hfirst
    | cons p rest =>
      obtain ⟨op, t0⟩ := p
      cases op with
      | reset cs0 =>
        rw [List.all_cons, Bool.and_eq_true, resetsFullb_iff] at hrest
        exact ⟨cs0, t0, rest, rfl, (fullResetb_iff w0 cs0).mp hrest.1, hrest.2⟩
      | _ => cases hfirst
  · rintro ⟨cs0, t0, rest, rfl, hf, hr⟩
    rw [List.all_cons, Bool.and_eq_true, resetsFullb_iff]
    exact ⟨rfl, (fullResetb_iff w0 cs0).mpr hf, hr⟩

theorem runGOp_noRaise {w : World} {t : Tape} {op : GOp} (hI : w.WInv = true)
    (hm : op.mustNotRaise w = true) : ∃ w', runGOp w t op = .ok w' := by
  cases op with
  | move c =>
    -- `mustNotRaise` is the guard of `runGOp` (for an attack: with the action space added)
    obtain ⟨⟨ha, hact⟩, hsp⟩ : (c.agent < w.n ∧ (w.stOf c.agent).active = true) ∧ c.inSpace w = true := by
      simpa only [GOp.mustNotRaise, Bool.and_eq_true, decide_eq_true_eq] using hm
    obtain ⟨o, ho⟩ := C12_moves_return w c hI ha hact hsp
    exact ⟨o.post, (if_pos hm).trans (by rw [ho]; rfl)⟩
  | attack cfg a act =>
    obtain ⟨hg, hsp⟩ := (Bool.and_eq_true _ _).mp hm
    obtain ⟨st, H, w', t', hp, _⟩ := processAttack_returns (cfg := cfg) (a := a) (act := act) t hI fun _ => hsp
    exact ⟨w', (if_pos hg).trans (by rw [hp]; rfl)⟩
  | reset cs => cases hm

theorem specHist_from {w0 : World} (hcfg : CfgOK w0) (ops : List (GOp × Tape)) :
    ∀ w : World, ResetsFull w0 ops → SFrame w0 w → Start w ops →
      specC03HistFrom w ops (traceGOps w ops) = true := by
  intro w
  fun_induction traceGOps w ops with
  | case1 => intro _ _ _; rfl
  | case2 w op t rest e h1 =>
    intro _ _ hS
    simp only [specC03HistFrom, List.isEmpty_nil, Bool.true_and, Bool.not_eq_true']
    cases hm : op.mustNotRaise w with
    | false => rfl
    | true =>
      -- an operation that must not raise is no reset: the history is past its first reset
      have hI : w.WInv = true := hS.resolve_right fun h => by cases op <;> first | cases hm | cases h.2
      obtain ⟨w', hw'⟩ := runGOp_noRaise (t := t) hI hm
      rw [h1] at hw'; cases hw'
  | case3 w op t rest w1 h1 ih =>
    intro hR hF hS
    obtain ⟨hF1, hI1⟩ := runGOp_ready hcfg (resetsFull_head hR) hF hS h1
    simp only [specC03HistFrom, Bool.and_eq_true]
    exact ⟨hI1, ih (resetsFull_tail hR) hF1 (.of_inv hI1 rest)⟩

/-- **C03, in the form the judge evaluates** (`ghist`): under `histPre` (`histPre_iff`) the model's trace satisfies
`specC03Hist`: every world of the trace satisfies the invariant, no move or attack of an active agent
with an action of its action space raises, and the trace covers every operation up to and including the
first error. -/
theorem C03_hist (w0 : World) (ops : List (GOp × Tape)) (hpre : histPre w0 ops = true) :
    specC03Hist w0 ops (traceGOps w0 ops) = true := by
  obtain ⟨hcfg, hn, cs0, t0, rest, rfl, h0, hR⟩ := (histPre_iff w0 ops).mp hpre
  exact specHist_from hcfg _ w0 (resetsFull_cons h0 hR) (SFrame.refl w0) (Or.inr ⟨hn, rfl⟩)

/-- reading of the specification: every world of a trace that passes it satisfies the invariant -/
theorem specC03Hist_worlds :
    ∀ (ops : List (GOp × Tape)) (w0 : World) (tr : List (Except GErr World)),
      specC03HistFrom w0 ops tr = true → ∀ w, Except.ok w ∈ tr → w.WInv = true := by
  intro ops w0 tr
  fun_induction specC03HistFrom w0 ops tr with
  | case1 _ tr => intro h w hw; rw [List.isEmpty_iff.mp h] at hw; cases hw
  | case2 => intro _ w hw; cases hw
  | case3 _ _ rest w' tr ih =>
    intro h w hw
    rw [Bool.and_eq_true] at h
    rcases List.mem_cons.mp hw with hw | hw
    · cases hw; exact h.1
    · exact ih h.2 w hw
  | case4 w0 p _ e tr =>
    intro h w hw
    rw [Bool.and_eq_true, List.isEmpty_iff] at h
    rw [h.1] at hw
    cases hw with | tail _ h => cases h

/-- every intermediate world of a history satisfies the invariant too -/
theorem C03_every_step (w0 : World) (cs0 : List StateComp) (t0 : Tape) (ops : List (GOp × Tape))
    (hcfg : CfgOK w0) (hn : NoAmmoC w0) (h0 : FullReset w0 cs0) (hR : ResetsFull w0 ops) :
    ∀ r ∈ traceGOps w0 ((.reset cs0, t0) :: ops), ∀ w, r = .ok w → w.WInv = true := by
  intro r hr w hw
  subst hw
  exact specC03Hist_worlds _ w0 _
    (specHist_from hcfg _ w0 (resetsFull_cons h0 hR) (SFrame.refl w0) (Or.inr ⟨hn, rfl⟩)) w hr

theorem vitalsAlive_clauses {w : World} (h : w.vitalsAlive = true) :
    HealthC w ∧ AmmoC w ∧ OrientC w ∧ NoAmmoC w := by
  simp only [vitalsAlive, List.all_eq_true, allAgents, List.mem_range, Bool.and_eq_true,
    decide_eq_true_eq, Bool.or_eq_true, Bool.not_eq_true'] at h
  refine ⟨fun a ha => ?_, fun a ha hA => ?_, fun a ha hO => ?_, fun a ha _ => ?_⟩
  · obtain ⟨⟨⟨⟨⟨h1, h2⟩, h3⟩, _⟩, _⟩, _⟩ := h a ha
    exact ⟨h1, h2, h3⟩
  · obtain ⟨⟨⟨_, h4⟩, h5⟩, _⟩ := h a ha
    refine ⟨h4, ?_⟩
    rcases h5 with h5 | h5
    · rw [hA] at h5; cases h5
    · exact h5
  · obtain ⟨_, h6⟩ := h a ha
    rcases h6 with h6 | h6
    · rw [hO] at h6; cases h6
    · exact h6
  · exact (h a ha).1.1.2

/-- **C03, placement states alone** (`gplace`, C03 component): for well-formed options a successful
reset of any of the three placement states that finds everybody alive with legal vitals leaves a
world satisfying the invariant -/
theorem C03_place (kind : PKind) (o : PlaceOpts) (w : World) (t : Tape)
    (hwf : wfPlacement kind o w = true) : specC03Place w (resetX kind o w t).1 = true := by
  unfold specC03Place
  cases herr : (resetX kind o w t).1.err with
  | some e => simp
  | none =>
    cases hv : w.vitalsAlive with
    | false => simp
    | true =>
      simp only [Option.isSome_none, Bool.not_true, Bool.or_self, Bool.false_or]
      obtain ⟨hH, hA, hO, hN⟩ := vitalsAlive_clauses hv
      have hW := wfp_of_wf hwf
      have hr : placementReset kind o w t = .ok ((resetX kind o w t).1.post, (resetX kind o w t).2) := by
        simp only [placementReset, PlaceOut.toExcept, herr]
      obtain ⟨hS, hN', hP', hH', hA', hO'⟩ := placement_clauses kind o w t _ _ hwf hW.lenS hr
      exact WInv_of_clauses hP' (hH' hH) (hA' hA) (hO' hO) (hN' hN)
        (by rw [hS.sameG.wOverlapSym]; exact hW.sym)

/-- the invariant implies its form for simulations that deactivate agents by hand -/
theorem WInvWeak_of_WInv {w : World} (h : w.WInv = true) : w.WInvWeak = true :=
  (WInvWeak_iff w).mpr ((WInv_iff_InvV w).mp h).weaken

/-! ## Examples: a small simulation judged on traces -/

/-- a 1×3 world before the first reset: agent 0 (encoding 1, initial health 1) moves, drifts and
attacks with one round of ammunition and strength 1; agent 1 (encoding 2, initial health 1/2) and
agent 2 (encoding 2, health drawn) may share a cell with each other -/
def c03Sim : World :=
  { rows := 1, cols := 3, overlap := [(2, [2])], cells := [[], [], []],
    cfg := [{ enc := 1, initHealth := some 1, moving := true, moveRange := 1, hasOrient := true,
              attacking := true, attackRange := 1, strength := 1, hasAmmo := true, initAmmo := 1 },
            { enc := 2, initHealth := some (1 / 2) }, { enc := 2 }],
    st := [{}, {}, {}] }

def c03Full : List StateComp := [.orient, .position .position {}, .ammo, .health]
def c03Attack : AttackCfg := ⟨.binary, [(1, [2])], false⟩

/-- reset (orientation 3 = right; agent 0 on (0,0), agents 1 and 2 together on (0,2); agent 2 draws
the health 701/1024); the mover steps right; it attacks (one of the two agents next to it — agent 1 —
is hit, dies and leaves the grid; the ammunition is used up); its drift to the right is blocked by
agent 2; a second episode -/
def c03Ops : List (GOp × Tape) :=
  [(.reset c03Full, [2, 0, 1, 1, 700]), (.move (.cross 0 3), []), (.attack c03Attack 0 (.count 1), [0, 0, 0]),
   (.move (.drift 0 0), []), (.reset c03Full, [0, 2, 2, 0, 5])]

example : histPre c03Sim c03Ops = true := by decide +kernel
example : (match traceGOps c03Sim c03Ops with
    | [.ok w1, .ok w2, .ok w3, .ok w4, .ok w5] =>
      (w1.cells == [[0], [], [1, 2]]) && (w2.cells == [[], [0], [1, 2]]) && (w3.cells == [[], [0], [2]]) &&
      !(w3.stOf 1).active && ((w3.stOf 0).ammo == 0) && (w4 == w3) && (w5.cells == [[1, 2], [], [0]]) &&
      (w5.stOf 1).active && ((w5.stOf 0).ammo == 1)
    | _ => false) = true := by decide +kernel
example : specC03Hist c03Sim c03Ops (traceGOps c03Sim c03Ops) = true := C03_hist _ _ (by decide +kernel)

/-- the judge rejects a trace in which a dead agent still stands on the grid … -/
example : specC03Hist c03Sim [(.reset c03Full, [])]
    [.ok { c03Sim with
           cells := [[0], [1], [2]],
           st := [{ pos := (0, 0), ammo := 1 }, { pos := (0, 1), health := 1 / 2 },
                  { pos := (0, 2), health := 0, active := false }] }] = false := by decide +kernel
/-- … one in which an agent's position and its cell disagree, and one in which an in-space move of
an active agent raises -/
example : specC03Hist c03Sim [(.reset c03Full, [])]
    [.ok { c03Sim with
           cells := [[0], [1], [2]],
           st := [{ pos := (0, 1), ammo := 1 }, { pos := (0, 1), health := 1 / 2 },
                  { pos := (0, 2), health := 1 / 4 }] }] = false := by decide +kernel
example : specC03Hist c03Sim [(.reset c03Full, []), (.move (.cross 0 3), [])]
    [.ok { c03Sim with
           cells := [[0], [1], [2]],
           st := [{ pos := (0, 0), ammo := 1 }, { pos := (0, 1), health := 1 / 2 },
                  { pos := (0, 2), health := 1 / 4 }] }, .error .keyError] = false := by decide +kernel
/-- a reset may fail, and the history ends there -/
example : specC03Hist c03Sim [(.reset c03Full, []), (.move (.cross 0 3), [])] [.error .noCell] = true := by
  decide +kernel

/-- **finding K4** (outside `histPre`: the component `healthClosed` is the oracle stream in which
`np.random.uniform(0, 1)` may return exactly 0.0): agent 2 draws the health 0, is inactive right
after the reset and yet stands on the grid.  The model reproduces this and the specification
rejects it; with the agent taken out of its cell the world satisfies the invariant. -/
def c03K4 : List (GOp × Tape) :=
  [(.reset [.healthClosed, .position .position {}, .ammo, .orient], [0, 0, 1, 2, 0])]
example : histPre c03Sim c03K4 = false := by decide +kernel
example : (match traceGOps c03Sim c03K4 with
    | [.ok w] => ((w.stOf 2).health == 0) && !(w.stOf 2).active && (w.cells == [[0], [2], [1]]) &&
                 !w.WInv && (w.dropFromCells [2]).WInv
    | _ => false) = true := by decide +kernel
example : specC03Hist c03Sim c03K4 (traceGOps c03Sim c03K4) = false := by decide +kernel

/-! ## Non-vacuity: `C03_reachable` applied from a dirty world -/

/-- a dirty 2×3 world: a dead agent still listed in a cell, a ghost entry, spent ammunition -/
def exDirtyWorld : World :=
  { rows := 2, cols := 3, overlap := [(1, [1])],
    cells := [[0, 2], [], [1], [], [], [2]],
    cfg := [{ enc := 1, moving := true, moveRange := 1, hasOrient := true, attacking := true, attackRange := 2,
              strength := 1/2, hasAmmo := true, initAmmo := 3 },
            { enc := 2, initPos := some (0, 1), initHealth := some (1/2) },
            { enc := 1, hasOrient := true, initOrient := some 2 }],
    st := [{ pos := (1, 1), health := 0, active := false, ammo := 0, orient := 3 },
           { pos := (0, 2), health := 1/4 }, { pos := (1, 2), orient := 7 }] }

def exResetComps : List StateComp := [.orient, .position .position {}, .ammo, .health]

def exHist : List (GOp × Tape) :=
  [(.move (.move 0 (1, -1)), []), (.attack ⟨.binary, [(1, [2])], false⟩ 0 (.count 1), [0, 0, 0]),
   (.attack ⟨.binary, [(1, [2])], false⟩ 0 (.count 1), [0, 0, 0]),
   (.move (.cross 2 1), []), (.reset exResetComps, [5, 1, 2, 3, 4, 5, 6, 7])]

example : exDirtyWorld.WInv = false := by decide +kernel

theorem exDirtyCfgOK : CfgOK exDirtyWorld := (cfgOKb_iff _).mp (by decide +kernel)

theorem exDirtyNoAmmo : NoAmmoC exDirtyWorld := (noAmmoCb_iff _).mp (by decide +kernel)

theorem exDirtyFull : FullReset exDirtyWorld exResetComps := (fullResetb_iff _ _).mp (by decide +kernel)

theorem exHistResets : ResetsFull exDirtyWorld exHist := by
  intro cs t hm
  simp only [exHist, List.mem_cons, Prod.mk.injEq, reduceCtorEq, false_and, GOp.reset.injEq, List.not_mem_nil, or_false, false_or] at hm
  rw [hm.1]; exact exDirtyFull

/-- the history runs to its end (a move, a kill, a blocked move, a second episode) -/
example : (runGOps exDirtyWorld ((.reset exResetComps, [3, 1, 4, 1, 5, 9, 2, 6]) :: exHist)).toOption.isSome = true := by
  decide +kernel

/-- … and the invariant holds at its end, as `C03_reachable` says (here by the theorem, not by evaluation) -/
example {w : World}
    (h : runGOps exDirtyWorld ((.reset exResetComps, [3, 1, 4, 1, 5, 9, 2, 6]) :: exHist) = .ok w) : w.WInv = true :=
  C03_reachable exDirtyWorld exResetComps _ exHist exDirtyCfgOK exDirtyNoAmmo exDirtyFull exHistResets h

end Abmarl
