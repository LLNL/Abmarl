import Abmarl.Lemmas.Trainer
import Abmarl.Model.StubSim
import Abmarl.Props.C01
/-!
# C16 — Episode generation never acts for finished agents and records aligned data

* `C16_generate_episode` — for every simulation satisfying `WF`, every manager kind, every
  policy set and mapping, every horizon and every initial manager state, the model of
  `MultiPolicyTrainer.generate_episode` returns a record satisfying `specC16`: no exception
  escapes; each iteration asks exactly the not-done agents of the latest output, each with its own
  observation and through its mapped policy, and sends exactly those answers; the loop stops at the
  horizon or as soon as `__all__` is reported; the per-agent records hold every observation,
  action, reward and done flag in order; at most one true done flag per agent, nothing after it.
* `EpOK` (Lemmas/Trainer.lean) is a list of propositions that implies `specC16` (`specC16_of_EpOK`);
  the converse is not proved.  `c16_asks_only_live` reads the query clause back from `specC16`.
* `C16_train` — `DebugTrainer.train` generates one such episode per iteration.
* `C16_alignment` — the constructor check: if `_check_agent_policy_alignment` accepts, the observation
  and action space of every learning agent equal those of its mapped policy.
-/
namespace Abmarl
variable {σ α ω ι : Type}

theorem specC16_of_EpOK [DecidableEq α] [DecidableEq ω] {n horizon : Nat} {pmap : Aid → Nat}
    {r : EpRec α ω ι} (h : EpOK n horizon pmap r) : specC16 n horizon pmap r = true := by
  obtain ⟨e0, es, htr, he0, hes⟩ := h.recs.shape
  have hlen : r.trace.length - 1 = r.queries.length := by have := h.recs.qlen; omega
  unfold specC16
  simp only [Bool.and_eq_true, decide_eq_true_eq, List.all_eq_true, beq_iff_eq, Bool.or_eq_true]
  -- the clauses of `specC16`, in its order
  refine ⟨⟨⟨⟨⟨⟨⟨⟨⟨⟨⟨?noErr, ?shape⟩, ?queries⟩, ?asks⟩, ?horizon⟩, ?notEarlier⟩, ?stopReason⟩,
    ?records⟩, ?allDones⟩, ?keys⟩, ?oneDone⟩, ?lengths⟩
  case noErr => simp [h.recs.noErr]
  case shape => rw [htr]; simp only [he0, Bool.true_and, List.all_eq_true]; exact hes
  case queries => exact hlen.symm
  case asks =>
    intro j hj
    have hj' : j < r.trace.length - 1 := by simpa using hj
    have h1 : j < r.trace.length := by omega
    have h2 : j < r.queries.length := by omega
    have h3 : j + 1 < r.trace.length := by omega
    rw [List.getElem?_eq_getElem h1, List.getElem?_eq_getElem h2, List.getElem?_eq_getElem h3]
    obtain ⟨a1, a2, a3⟩ := h.recs.asks j _ _ _ (List.getElem?_eq_getElem h1)
      (List.getElem?_eq_getElem h2) (List.getElem?_eq_getElem h3)
    simp only [Bool.and_eq_true, decide_eq_true_eq, List.all_eq_true, beq_iff_eq]
    exact ⟨⟨a1, a2⟩, a3⟩
  case horizon => exact h.stepsLe
  case notEarlier => intro b hb; simpa using h.prefixFalse b hb
  case stopReason =>
    rcases h.stopReason with h1 | h1
    · exact Or.inl h1
    · right; rw [h1]; rfl
  case records =>
    intro a _
    exact ⟨⟨⟨h.recs.recO a, h.recs.recR a⟩, h.recs.recD a⟩, h.recs.recA a⟩
  case allDones => exact h.recs.allD
  case keys => intro a ha; exact h.recs.keysLt a ha
  case oneDone =>
    intro a _
    rw [h.recs.recD a]
    split
    next l hl =>
      rw [recOf_eq_some hl, List.all_eq_true]
      intro b hb; simpa using h.doneOne a b hb
    next => rfl
  case lengths =>
    intro a _
    rw [h.recs.recR a, h.recs.recD a, recOf_map_length, recOf_map_length, h.recs.lens a]

/-- **C16** for every simulation, manager, policy set, mapping, horizon and manager state. -/
theorem C16_generate_episode [DecidableEq α] [DecidableEq ω] (S : SimIface σ α ω ι) (k : MKind)
    (hW : WF S k) (P : Policies α ω) (horizon : Nat) (m : MState σ) :
    specC16 S.n horizon P.pmap (generateEpisode S k P horizon m) = true :=
  specC16_of_EpOK (generateEpisode_ok hW P horizon m)

/-- `DebugTrainer.train`: it generates one episode per iteration, and every one of them satisfies
`specC16` for the requested horizon — whatever state the previous episode left the manager in. -/
theorem C16_train [DecidableEq α] [DecidableEq ω] (S : SimIface σ α ω ι) (k : MKind) (hW : WF S k)
    (P : Policies α ω) (horizon : Nat) :
    ∀ (iterations : Nat) (m : MState σ),
      (trainEpisodes S k P horizon iterations m).length = iterations ∧
      ∀ r ∈ trainEpisodes S k P horizon iterations m, specC16 S.n horizon P.pmap r = true := by
  intro iterations
  induction iterations with
  | zero => intro m; simp [trainEpisodes]
  | succ n ih =>
    intro m
    obtain ⟨h1, h2⟩ := ih (stateAfter S k m ((generateEpisode S k P horizon m).trace.map (·.op)))
    refine ⟨by simp [trainEpisodes, h1], ?_⟩
    intro r hr
    simp only [trainEpisodes, List.mem_cons] at hr
    rcases hr with rfl | hr
    · exact C16_generate_episode S k hW P horizon m
    · exact h2 r hr

/-- `C16_generate_episode` with `EpOK` in place of `specC16` -/
theorem C16_generate_episode_prop [DecidableEq α] (S : SimIface σ α ω ι) (k : MKind)
    (hW : WF S k) (P : Policies α ω) (horizon : Nat) (m : MState σ) :
    EpOK S.n horizon P.pmap (generateEpisode S k P horizon m) :=
  generateEpisode_ok hW P horizon m

/-- reading: under `specC16` the policy is asked only for agents reported in the latest output and
not done there, and exactly those actions are sent -/
theorem c16_asks_only_live [DecidableEq α] [DecidableEq ω] {n horizon : Nat} {pmap : Aid → Nat}
    {r : EpRec α ω ι} (h : specC16 n horizon pmap r = true) (j : Nat) (prev cur : Entry α ω ι)
    (qs : List (Query α ω)) (h1 : r.trace[j]? = some prev) (h2 : r.queries[j]? = some qs)
    (h3 : r.trace[j + 1]? = some cur) :
    qs.map (fun q => (q.agent, q.obs)) = liveOfEntry prev ∧
    (∀ q ∈ qs, q.policy = pmap q.agent) ∧
    stepActs cur = qs.map (fun q => (q.agent, q.action)) := by
  unfold specC16 at h
  simp only [Bool.and_eq_true, List.all_eq_true] at h
  -- the fourth clause of `specC16`: what is asked and sent in each iteration
  obtain ⟨⟨⟨⟨⟨⟨⟨⟨⟨⟨⟨_, _⟩, _⟩, hask⟩, _⟩, _⟩, _⟩, _⟩, _⟩, _⟩, _⟩, _⟩ := h
  have hj : j < r.trace.length - 1 := by
    rcases List.getElem?_eq_some_iff.mp h3 with ⟨hlt, _⟩; omega
  have := hask j (by simpa using hj)
  rw [h1, h2, h3] at this
  simp only [Bool.and_eq_true, decide_eq_true_eq, List.all_eq_true, beq_iff_eq] at this
  exact ⟨this.1.1, this.1.2, this.2⟩

/-- constructor check: accepted alignment means every learning agent's spaces are its policy's -/
theorem C16_alignment (n : Nat) (learning : Aid → Bool) (pmap : Aid → Nat)
    (aObs aAct : Aid → Nat) (pObs pAct : Nat → Nat)
    (h : checkAlignment n learning pmap aObs aAct pObs pAct = true) :
    ∀ a < n, learning a = true → aObs a = pObs (pmap a) ∧ aAct a = pAct (pmap a) := by
  intro a ha hl
  simp only [checkAlignment, List.all_eq_true, List.mem_range, Bool.or_eq_true, Bool.not_eq_true',
    Bool.and_eq_true, beq_iff_eq] at h
  rcases h a ha with h1 | h1
  · rw [hl] at h1; cases h1
  · exact ⟨h1.2, h1.1⟩

theorem C16_stub (sc : Script) (k : MKind) (pm : List Nat) (act : Nat → List Int → Int) (horizon : Nat)
    (m0 : MState StubSt)
    (hl : k = .turnBased → ∃ a < sc.n, sc.learning.getD a false = true)
    (hd : k = .dynamic → ScriptWF sc) :
    specC16 sc.n horizon (fun a => pm.getD a 0)
      (generateEpisode (stubSim sc) k { pmap := fun a => pm.getD a 0, act := act } horizon m0) = true :=
  C16_generate_episode (stubSim sc) k (stub_WF sc k hl hd) _ horizon m0

/-- non-vacuity: an episode with a finish before the horizon, under two policies -/
example :
    let r := generateEpisode (stubSim exScript) .turnBased
      { pmap := fun a => a % 2, act := fun p o => (o.getD 1 0 + p) % 10 } 20 (mgrInit {} false [])
    r.err = none ∧ r.trace.length = 3 ∧ (r.dones.lookup 1 = some [false, true]) ∧
    specC16 4 20 (fun a => a % 2) r = true := by decide +kernel

end Abmarl
