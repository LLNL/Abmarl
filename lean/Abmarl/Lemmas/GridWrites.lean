import Abmarl.Lemmas.Grid
/-!
# The writes of the grid: what they keep of the cell table

`Grid.remove`, `Grid.place` and the state table in closed form.  `PM.CInv w`: the cell table agrees with the stored
positions, whoever is active; it is kept by a `remove` that returns, by a `place` (accepted or refused) of an agent stored nowhere, by a write of anything
but the position (`cinv_remove`, `cinv_place`, `cinv_setSt`).  `PM.Sound w a`: the agent is stored exactly when it is
active; `PM.Only b w w'`: a statement of the code changes one agent, and leaves everybody else `Sound`.
-/
namespace Abmarl
open World

/-- the world after a successful `place` of an agent that is not yet in the cell -/
def placedWorld (w : World) (a : Aid) (p : Pos) : World :=
  { w with cells := w.cells.set (w.idx p) (w.cell p ++ [a]),
           st := w.st.set a { w.stOf a with pos := p } }

theorem cells_placed_same (w : World) (a : Aid) (p : Pos) (hk : w.idx p < w.cells.length) :
    (placedWorld w a p).cells.getD (w.idx p) [] = w.cell p ++ [a] :=
  getD_set_same _ _ _ _ hk

theorem cells_placed_ne (w : World) (a : Aid) (p : Pos) (i : Nat) (hi : i ≠ w.idx p) :
    (placedWorld w a p).cells.getD i [] = w.cells.getD i [] :=
  getD_set_ne _ _ _ _ _ (fun e => hi e.symm)

theorem mem_cells_placed {w : World} {a : Aid} {p : Pos} (hk : w.idx p < w.cells.length) (i : Nat) (b : Aid) :
    b ∈ (placedWorld w a p).cells.getD i [] ↔ (b ∈ w.cells.getD i [] ∨ (i = w.idx p ∧ b = a)) := by
  by_cases hi : i = w.idx p
  · subst hi
    rw [cells_placed_same w a p hk, List.mem_append, List.mem_singleton]
    simp [cell]
  · rw [cells_placed_ne w a p i hi]
    simp [hi]

theorem stOf_placed_same {w : World} {a : Aid} (p : Pos) (ha : a < w.st.length) :
    (placedWorld w a p).stOf a = { w.stOf a with pos := p } :=
  getD_set_same _ _ _ _ ha

theorem stOf_placed_ne {w : World} {a b : Aid} (p : Pos) (hb : b ≠ a) :
    (placedWorld w a p).stOf b = w.stOf b :=
  getD_set_ne _ _ _ _ _ (fun e => hb e.symm)

theorem sframe_placed (w : World) (a : Aid) (p : Pos) : SFrame w (placedWorld w a p) :=
  ⟨rfl, rfl, rfl, rfl, List.length_set⟩

theorem place_eq {w : World} {a : Aid} {p : Pos} (hq : w.query a p = true) (hn : a ∉ w.cell p) :
    w.place a p = (true, placedWorld w a p) := by
  simp [place, hq, hn, placedWorld]

theorem place_fail {w : World} {a : Aid} {p : Pos} (hq : w.query a p = false) :
    w.place a p = (false, w) := by
  simp [place, hq]

namespace World

theorem stOf_place (w : World) (a : Aid) (p : Pos) (b : Aid) :
    (w.place a p).2.stOf b =
      if w.query a p = true ∧ b = a ∧ a < w.st.length then { w.stOf a with pos := p } else w.stOf b := by
  unfold place
  split
  · rename_i hq
    simp only [hq, true_and]
    exact stOf_setSt w a b _
  · rename_i hq
    rw [if_neg (fun h => hq h.1)]

theorem sframe_place (w : World) (a : Aid) (p : Pos) : SFrame w (w.place a p).2 := by
  unfold place
  split
  · exact ⟨rfl, rfl, rfl, rfl, List.length_set⟩
  · exact SFrame.refl w

end World

-- Namespace `PM` is shared with the Pacman proofs (Lemmas/Pacman*.lean); nothing below is about Pacman.
namespace PM

theorem remove_shape {w w' : World} {a : Aid} {p : Pos} (h : w.remove a p = .ok w') :
    a ∈ w.cell p ∧ w' = { w with cells := w.cells.set (w.idx p) ((w.cell p).erase a) } := by
  unfold remove at h
  split at h
  · rename_i hm
    simp only [Except.ok.injEq] at h
    exact ⟨hm, h.symm⟩
  · cases h

theorem remove_of_mem {w : World} {a : Aid} {p : Pos} (hm : a ∈ w.cell p) :
    w.remove a p = .ok { w with cells := w.cells.set (w.idx p) ((w.cell p).erase a) } := by
  rw [remove, if_pos hm]

theorem remove_stOf {w w' : World} {a : Aid} {p : Pos} (h : w.remove a p = .ok w') (b : Aid) : w'.stOf b = w.stOf b := by
  obtain ⟨_, rfl⟩ := remove_shape h
  rfl

theorem sframe_remove {w w' : World} {a : Aid} {p : Pos} (h : w.remove a p = .ok w') : SFrame w w' := by
  obtain ⟨_, rfl⟩ := remove_shape h
  exact ⟨rfl, rfl, rfl, rfl, rfl⟩

/-- the cell table agrees with the stored positions: no cell lists an agent twice, a listed agent is declared and its
stored position is that cell, cell mates may overlap. Who is listed at all is not said (`Sound`: the active agents). -/
structure CInv (w : World) : Prop where
  lenC : w.cells.length = w.rows * w.cols
  lenS : w.st.length = w.cfg.length
  nodup : ∀ i, (w.cells.getD i []).Nodup
  occ : ∀ i a, a ∈ w.cells.getD i [] → a < w.n ∧ w.inGrid (w.stOf a).pos = true ∧ w.idx (w.stOf a).pos = i
  pair : ∀ i a b, a ∈ w.cells.getD i [] → b ∈ w.cells.getD i [] → a = b ∨ w.pairOK (w.encOf a) (w.encOf b) = true
  sym : w.wOverlapSym = true

/-- enough on the cells of the grid: a cell outside the table is empty -/
theorem cinv_of_cells {w : World} (hs : w.wShape = true) (hsym : w.wOverlapSym = true)
    (h : ∀ i < w.rows * w.cols, (w.cells.getD i []).Nodup ∧
      (∀ a ∈ w.cells.getD i [], a < w.n ∧ w.inGrid (w.stOf a).pos = true ∧ w.idx (w.stOf a).pos = i) ∧
      (∀ a ∈ w.cells.getD i [], ∀ b ∈ w.cells.getD i [], a = b ∨ w.pairOK (w.encOf a) (w.encOf b) = true)) : CInv w := by
  simp only [wShape, Bool.and_eq_true, beq_iff_eq] at hs
  have hc := fun (i : Nat) => if hi : i < w.rows * w.cols then h i hi else by
    rw [getD_nil_of_le w.cells i (by rw [hs.1]; omega)]; exact ⟨List.nodup_nil, nofun, nofun⟩
  exact ⟨hs.1, hs.2, fun i => (hc i).1, fun i => (hc i).2.1, fun i a b ha hb => (hc i).2.2 a ha b hb, hsym⟩

/-- `w'` has the static part of `w` (`hF`), so the three cell clauses of `CInv w'` may be shown with `w`'s `n`, `inGrid`, `idx`,
`encOf`, `pairOK`: the callers never rewrite along the frame -/
theorem CInv.transfer {w w' : World} (hC : CInv w) (hF : SFrame w w') (hlc : w'.cells.length = w.cells.length)
    (hnd : ∀ i, (w'.cells.getD i []).Nodup)
    (hocc : ∀ i b, b ∈ w'.cells.getD i [] → b < w.n ∧ w.inGrid (w'.stOf b).pos = true ∧ w.idx (w'.stOf b).pos = i)
    (hpair : ∀ i b c, b ∈ w'.cells.getD i [] → c ∈ w'.cells.getD i [] →
      b = c ∨ w.pairOK (w.encOf b) (w.encOf c) = true) : CInv w' := by
  refine ⟨by rw [hlc, hF.rows, hF.cols]; exact hC.lenC, by rw [hF.len, hF.cfg]; exact hC.lenS, hnd, ?_, ?_, ?_⟩
  · intro i b hb
    rw [hF.sameG.n, hF.sameG.inGrid, hF.sameG.idx]; exact hocc i b hb
  · intro i b c hb hc'
    rw [hF.sameG.encOf, hF.sameG.encOf, hF.sameG.pairOK]; exact hpair i b c hb hc'
  · rw [hF.sameG.wOverlapSym]; exact hC.sym

theorem CInv.vframe {w w' : World} (hC : CInv w) (hF : VFrame w w') : CInv w' := by
  refine hC.transfer (.of_vframe hF) (by rw [hF.cells]) ?_ ?_ ?_ <;> rw [hF.cells]
  · exact hC.nodup
  · intro i b hb; rw [hF.pos]; exact hC.occ i b hb
  · exact hC.pair

theorem cinv_setSt {w : World} {a : Aid} {s : AgentSt} (hC : CInv w) (hs : s.pos = (w.stOf a).pos) :
    CInv (w.setSt a s) :=
  hC.vframe (.of_setSt w a s hs)

/-- erasing an agent from the one cell that may hold it is filtering every cell: nobody is stored twice -/
theorem CInv.cells_erase {w : World} (hC : CInv w) {a : Aid} {k : Nat} (hk : ∀ j, a ∈ w.cells.getD j [] → j = k)
    (i : Nat) : (w.cells.set k ((w.cells.getD k []).erase a)).getD i [] = (w.cells.getD i []).filter (· != a) := by
  rw [getD_set]
  split
  · rename_i h
    rw [← h.1]
    exact (hC.nodup k).erase_eq_filter a
  · rename_i h
    refine (List.filter_eq_self.mpr fun b hb => ?_).symm
    rw [bne_iff_ne]
    rintro rfl
    exact h ⟨(hk i hb).symm, mem_getD_lt (hk i hb ▸ hb)⟩

theorem cells_removed {w w1 : World} {a : Aid} {p : Pos} (hC : CInv w) (hr : w.remove a p = .ok w1) (i : Nat) :
    w1.cells.getD i [] = (w.cells.getD i []).filter (· != a) := by
  obtain ⟨hm, rfl⟩ := remove_shape hr
  exact hC.cells_erase (fun j hj => (hC.occ j a hj).2.2.symm.trans (hC.occ _ a hm).2.2) i

theorem mem_removed {w w1 : World} {a : Aid} {p : Pos} (hC : CInv w) (hr : w.remove a p = .ok w1) (i : Nat) (b : Aid) :
    b ∈ w1.cells.getD i [] ↔ (b ≠ a ∧ b ∈ w.cells.getD i []) := by
  rw [cells_removed hC hr, List.mem_filter, bne_iff_ne, and_comm]

theorem nowhere_remove {w w' : World} {a : Aid} {p : Pos} (hC : CInv w) (h : w.remove a p = .ok w') :
    ∀ i, a ∉ w'.cells.getD i [] :=
  fun i hi => ((mem_removed hC h i a).mp hi).1 rfl

theorem cinv_remove {w w' : World} {a : Aid} {p : Pos} (hC : CInv w) (h : w.remove a p = .ok w') : CInv w' := by
  have hmem := mem_removed hC h
  refine hC.transfer (sframe_remove h) (by rw [(remove_shape h).2]; exact List.length_set) (fun i => ?_) ?_ ?_
  · rw [cells_removed hC h]; exact (hC.nodup i).filter _
  · intro i b hb
    rw [remove_stOf h]
    exact hC.occ i b ((hmem i b).mp hb).2
  · intro i b c hb hc
    exact hC.pair i b c ((hmem i b).mp hb).2 ((hmem i c).mp hc).2

theorem lt_of_remove {w w' : World} {a : Aid} {p : Pos} (hC : CInv w) (h : w.remove a p = .ok w') : a < w.n :=
  (hC.occ _ a (remove_shape h).1).1

/-- `query` asked again in the world without the mover: the cell asked about holds nobody new -/
theorem query_of_remove {w w1 : World} {a : Aid} {src dst : Pos} (hC : CInv w) (hr : w.remove a src = .ok w1)
    (hq : w.query a dst = true) : w1.query a dst = true := by
  have hF := sframe_remove hr
  rw [query_eq, List.all_eq_true] at hq ⊢
  intro o ho
  rw [hF.sameG.pairOK, hF.sameG.encOf, hF.sameG.encOf]
  refine hq o ?_
  have := ((mem_removed hC hr (w1.idx dst) o).mp ho).2
  rw [hF.sameG.idx] at this
  exact this

theorem cinv_place {w : World} {a : Aid} {p : Pos} (hC : CInv w) (ha : a < w.n) (hno : ∀ i, a ∉ w.cells.getD i [])
    (hp : w.inGrid p = true) : CInv (w.place a p).2 := by
  by_cases hq : w.query a p = true
  · rw [place_eq hq (hno _)]
    have hpl : w.idx p < w.cells.length := by rw [hC.lenC]; exact idx_lt hp
    have haS : a < w.st.length := by rw [hC.lenS]; exact ha
    have hmem := mem_cells_placed (a := a) hpl
    have hq' := hq
    rw [query_eq, List.all_eq_true] at hq'
    refine hC.transfer (sframe_placed w a p) List.length_set ?_ ?_ ?_
    · intro i
      by_cases hi : i = w.idx p
      · rw [hi, cells_placed_same w a p hpl]
        exact nodup_snoc (hC.nodup _) (hno _)
      · rw [cells_placed_ne w a p i hi]; exact hC.nodup i
    · intro i b hb
      rcases (hmem i b).mp hb with hb | ⟨hbi, hba⟩
      · rw [stOf_placed_ne p (fun e : b = a => hno i (e ▸ hb))]
        exact hC.occ i b hb
      · rw [hba, hbi, stOf_placed_same p haS]
        exact ⟨ha, hp, rfl⟩
    · intro i b c hb hc
      rcases (hmem i b).mp hb with hb | ⟨hbi, hba⟩ <;> rcases (hmem i c).mp hc with hc | ⟨hci, hca⟩
      · exact hC.pair i b c hb hc
      · rw [hci] at hb; rw [hca]
        exact Or.inr (pairOK_symm_of_table hC.sym (hq' b hb))
      · rw [hbi] at hc; rw [hba]
        exact Or.inr (hq' c hc)
      · exact Or.inl (hba.trans hca.symm)
  · rw [place_fail (by simpa using hq)]
    exact hC

theorem cinv_reloc {w w1 : World} {a : Aid} {src dst : Pos} (hC : CInv w) (hr : w.remove a src = .ok w1)
    (hin : w1.inGrid dst = true) : CInv (w1.place a dst).2 :=
  cinv_place (cinv_remove hC hr) (by rw [(sframe_remove hr).sameG.n]; exact lt_of_remove hC hr) (nowhere_remove hC hr) hin

/-- the agent is stored in the cell of its position when it is active, and in no cell when it is not -/
def Sound (w : World) (a : Aid) : Prop :=
  ((w.stOf a).active = true → a ∈ w.cells.getD (w.idx (w.stOf a).pos) []) ∧
  (∀ i, a ∈ w.cells.getD i [] → (w.stOf a).active = true)

theorem sound_congr {w w' : World} {b : Aid} (hc : w'.cols = w.cols) (hpos : (w'.stOf b).pos = (w.stOf b).pos)
    (hact : (w'.stOf b).active = (w.stOf b).active)
    (hmem : ∀ i, b ∈ w'.cells.getD i [] ↔ b ∈ w.cells.getD i []) (h : Sound w b) : Sound w' b := by
  have hidx : ∀ p, w'.idx p = w.idx p := by intro p; simp [idx, hc]
  refine ⟨fun ha => ?_, fun i hi => ?_⟩
  · rw [hpos, hidx, hmem]; rw [hact] at ha; exact h.1 ha
  · rw [hact]; exact h.2 i ((hmem i).mp hi)

/-- `w'` differs from `w` at most in the state of `b` and in the cells that hold `b` -/
structure Only (b : Aid) (w w' : World) : Prop where
  frame : SFrame w w'
  st : ∀ c, c ≠ b → w'.stOf c = w.stOf c
  mem : ∀ i c, c ≠ b → (c ∈ w'.cells.getD i [] ↔ c ∈ w.cells.getD i [])

theorem Only.trans {b : Aid} {w w' w'' : World} (h : Only b w w') (h' : Only b w' w'') : Only b w w'' :=
  ⟨h.frame.trans h'.frame, fun c hc => (h'.st c hc).trans (h.st c hc), fun i c hc => (h'.mem i c hc).trans (h.mem i c hc)⟩

theorem only_remove {w w1 : World} {b : Aid} {p : Pos} (hC : CInv w) (hr : w.remove b p = .ok w1) : Only b w w1 :=
  ⟨sframe_remove hr, fun c _ => remove_stOf hr c, fun i c hc => (mem_removed hC hr i c).trans (and_iff_right hc)⟩

theorem only_setSt (w : World) (b : Aid) (s : AgentSt) : Only b w (w.setSt b s) :=
  ⟨sframe_setSt w b s, fun c hc => stOf_setSt_ne w s hc, fun _ _ _ => Iff.rfl⟩

theorem Only.sound {b c : Aid} {w w' : World} (hO : Only b w w') (hc : c ≠ b) (h : Sound w c) : Sound w' c :=
  sound_congr hO.frame.cols (by rw [hO.st c hc]) (by rw [hO.st c hc]) (fun i => hO.mem i c hc) h

theorem reloc_only {w w1 : World} {a : Aid} {src dst : Pos} (hC : CInv w) (hr : w.remove a src = .ok w1)
    (hin : w.inGrid dst = true) (hq : w1.query a dst = true) :
    Only a w (w1.place a dst).2 ∧ (w1.place a dst).2.stOf a = { w.stOf a with pos := dst } ∧
      a ∈ (w1.place a dst).2.cells.getD ((w1.place a dst).2.idx dst) [] := by
  have hF1 := sframe_remove hr
  have hl : w1.idx dst < w1.cells.length := by
    rw [(cinv_remove hC hr).lenC]; exact idx_lt (by rw [hF1.sameG.inGrid]; exact hin)
  have haS : a < w1.st.length := by rw [hF1.len, hC.lenS]; exact lt_of_remove hC hr
  rw [place_eq hq (nowhere_remove hC hr _)]
  refine ⟨(only_remove hC hr).trans ⟨sframe_placed w1 a dst, fun c hc => stOf_placed_ne dst hc,
    fun i c hc => (mem_cells_placed hl i c).trans (or_iff_left fun e => hc e.2)⟩, ?_, ?_⟩
  · rw [stOf_placed_same dst haS, remove_stOf hr]
  · exact (mem_cells_placed hl (w1.idx dst) a).mpr (Or.inr ⟨rfl, rfl⟩)

end PM

end Abmarl
