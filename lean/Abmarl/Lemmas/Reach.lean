import Abmarl.Spec.Reach
import Abmarl.Lemmas.ExamplesNoRaise
import Abmarl.Lemmas.ObserversViews
/-!
# `ReachTheTargetSim` in `WInvWeak` worlds

`step` takes a runner that reached the target off the grid by hand (`takeOff`: inactive, health still positive), which
breaks `WInv`.  `WInvWeak` is `World.InvV` with the weak vitals clause (`World.WInvWeak_iff`), so the actors and `takeOff`
keep it by the lemmas proved for every vitals clause; `GoodW`, `OpOK` and `ObsInv.of_weak` are what the histories
(Lemmas/ReachHist.lean) and the observer theorems need of such worlds.  That the attack actors return
(`World.processAttack_returns`) is stated for `WInv` worlds: it is transported through `heal` (the health of every inactive
agent set to 0, which gives `WInv`), with which `processAttack` commutes in every world, since `_determine_attack` never
reads health and the health loop skips an inactive victim.  Then `step` does not raise for in-space actions: `WInvWeak`
with the constructed static part is an instance of the abstract loop state of the packaged examples (`loop_weak`,
`attackKeeps_weak`), and the judge's Boolean gives its hypotheses (`step_of_mustNotRaise`).
-/
namespace Abmarl
namespace RT
open World

/-- `self.grid.remove(agent, agent.position); agent.active = False` as `move1` (Model/Reach.lean) does it.  The model has
the two statements inline: a proof about `move1` folds them into `takeOff` (`unfold takeOff; rw` with the removal) -/
def takeOff (w : World) (a : Aid) : Except GErr World :=
  match w.remove a (w.posOf a) with
  | .error e => .error e
  | .ok w2 => .ok (w2.setSt a { w2.stOf a with active := false })

/-- `HealthState` is among the components, and the vitals a placement reset needs to find (ammunition, orientation) are
legal in every `WInvWeak` world -/
theorem reset_establishes_weak {cfg : Cfg} {w0 w w' : World} {order : List StateComp} {t t' : Tape} (hcfg : CfgOK w0)
    (hR : Ex.ResetOK cfg.toEx w0 order) (hF : SFrame w0 w) (hW : w.WInvWeak = true)
    (h : applyComps order w t = .ok (w', t')) : Ex.XInvA w0 w' :=
  have hv := ((WInvWeak_iff w).mp hW).vit
  Ex.reset_establishes hcfg hR hF (Or.inl (hR.health (Or.inl rfl))) (fun a ha hA => ⟨(hv a ha).ammo0, (hv a ha).ammo1 hA⟩)
    (fun a ha hO => (hv a ha).orient hO) (fun a ha _ => (hv a ha).ammo0) h

theorem takeOff_inv {act : Bool → Rat → Prop} {pos : Pos → Prop} (hact : ∀ h, act false h) {w w' : World} {a : Aid}
    (hI : InvV (Vitals act pos) w) (ha : a < w.n) (h : takeOff w a = .ok w') :
    InvV (Vitals act pos) w' ∧ SFrame w w' ∧ (w'.stOf a).active = false ∧ (w'.stOf a).health = (w.stOf a).health ∧
    ∀ b, b ≠ a → w'.stOf b = w.stOf b := by
  have hv := hI.vit a ha
  unfold takeOff at h
  split at h
  · cases h
  · rename_i w2 hr
    cases h
    have hO := (PM.only_remove hI.cinv hr).trans (PM.only_setSt w2 a { w2.stOf a with active := false })
    have hst : (w2.setSt a { w2.stOf a with active := false }).stOf a = { w.stOf a with active := false } := by
      rw [stOf_setSt_same _ _ _ (by rw [(PM.sframe_remove hr).len]; exact hI.lt_st ha), PM.remove_stOf hr]
    refine ⟨?_, hO.frame, by rw [hst], by rw [hst], hO.st⟩
    rw [PM.remove_stOf hr]
    exact hI.takeOut hr rfl rfl ⟨hv.h0, hv.h1, hact _, hv.ammo0, hv.ammo1, hv.orient, hv.inP⟩

theorem takeOff_weak {w w' : World} {a : Aid} (hW : w.WInvWeak = true) (ha : a < w.n)
    (h : takeOff w a = .ok w') :
    w'.WInvWeak = true ∧ w'.rows = w.rows ∧ w'.cols = w.cols ∧ w'.overlap = w.overlap ∧ w'.cfg = w.cfg ∧
    w'.st.length = w.st.length ∧ (w'.stOf a).active = false ∧ (w'.stOf a).health = (w.stOf a).health ∧
    ∀ b, b ≠ a → w'.stOf b = w.stOf b := by
  obtain ⟨hI, hF, hst⟩ := takeOff_inv (fun _ hf => by cases hf) ((WInvWeak_iff w).mp hW) ha h
  exact ⟨(WInvWeak_iff w').mpr hI, hF.rows, hF.cols, hF.overlap, hF.cfg, hF.len, hst⟩

theorem placed_of_weak {w : World} {a : Aid} (hI : w.WInvWeak = true) (ha : a < w.n)
    (hact : (w.stOf a).active = true) : Placed w a :=
  ((WInvWeak_iff w).mp hI).placedAt ha hact

theorem moveAct_weak {w w' : World} {a : Aid} {d : Pos} {r : Option Bool} (hI : w.WInvWeak = true) (ha : a < w.n)
    (hact : (w.stOf a).active = true) (h : w.moveAct a d = .ok (r, w')) : w'.WInvWeak = true ∧ SFrame w w' := by
  obtain ⟨_, _, hm, hI', hF⟩ := moveAct_invV (fun _ _ => trivial) d ((WInvWeak_iff w).mp hI) ha hact
  rw [hm] at h
  cases h
  exact ⟨(WInvWeak_iff w').mpr hI', hF⟩

theorem processAttack_weak {cfg : AttackCfg} {w w' : World} {a : Aid} {act : AttackAct} {t t' : Tape}
    {r : Bool × List Aid} (hW : w.WInvWeak = true) (h : processAttack cfg w a act t = .ok (r, w', t')) :
    w'.WInvWeak = true ∧ SFrame w w' := by
  obtain ⟨hI, hF⟩ := processAttack_inv (fun _ hd => of_decide_eq_true hd) ((WInvWeak_iff w).mp hW) h
  exact ⟨(WInvWeak_iff w').mpr hI, hF⟩

/-- the two component calls of `step` keep `WInvWeak` and the static part -/
structure CompsKeepWeak (acfg : AttackCfg) : Prop where
  move : ∀ {w w' : World} {a : Aid} {d : Pos} {r : Option Bool}, w.WInvWeak = true → a < w.n →
    (w.stOf a).active = true → w.moveAct a d = .ok (r, w') → w'.WInvWeak = true ∧ SFrame w w'
  attack : ∀ {w w' : World} {a : Aid} {act : AttackAct} {t t' : Tape} {r : Bool × List Aid}, w.WInvWeak = true →
    processAttack acfg w a act t = .ok (r, w', t') → w'.WInvWeak = true ∧ SFrame w w'

theorem compsKeepWeak (acfg : AttackCfg) : CompsKeepWeak acfg :=
  ⟨fun hI ha hact hm => moveAct_weak hI ha hact hm, fun hI hp => processAttack_weak hI hp⟩

open Ex

/-- the attack pass is that of `TeamBattleSim`: what it leaves is `Ex.attack1_cases` -/
theorem attack1_eq (cfg : Cfg) (p : PS) (x : Aid × Act) : attack1 cfg p x = Ex.attack1 cfg.toEx p x := rfl

theorem entropy1_world {cfg : Cfg} {p p' : PS} {x : Aid × Act} (h : entropy1 cfg p x = .ok p') :
    p'.w = p.w ∧ p'.t = p.t ∧ Accrued p.r p'.r := by
  unfold entropy1 at h
  split at h
  · cases h
  · split at h
    · exact accrue_map_ok h
    · cases h; exact ⟨rfl, rfl, .refl _⟩

/-- the world part of `GoodH` (Lemmas/ReachHist.lean) -/
def GoodW (w0 : World) (s : St) : Prop :=
  match s.rewards with
  | none => s.w = w0
  | some _ => s.w.WInvWeak = true ∧ SFrame w0 s.w

/-- the calls of a history the theorems cover -/
def OpOK (cfg : Cfg) (w0 : World) : EOp → Prop
  | .reset order _ => ResetOK cfg.toEx w0 order
  | _ => True

theorem _root_.Abmarl.Observers.ObsInv.of_weak {w : World} (hW : w.WInvWeak = true) : Observers.ObsInv w :=
  .of_InvV ((WInvWeak_iff w).mp hW) fun _ _ h => ⟨h.ammo0, h.ammo1⟩

/-! ## the attack actors return in `WInvWeak` worlds: transport through `heal` -/

def healSt (s : AgentSt) : AgentSt := if s.active then s else { s with health := 0 }

/-- the world with the health of every inactive agent set to 0 (a proof device: no code does this) -/
def heal (w : World) : World := { w with st := w.st.map healSt }

theorem healSt_default : healSt {} = {} := rfl

theorem heal_stOf (w : World) (b : Aid) : (heal w).stOf b = healSt (w.stOf b) := by
  simp only [heal, stOf, List.getD_eq_getElem?_getD, List.getElem?_map]
  cases w.st[b]? with
  | none => rfl
  | some s => rfl

theorem healSt_ammo (s : AgentSt) : (healSt s).ammo = s.ammo := by unfold healSt; split <;> rfl

theorem heal_pos (w : World) (b : Aid) : ((heal w).stOf b).pos = (w.stOf b).pos := by
  rw [heal_stOf]; unfold healSt; split <;> rfl
theorem heal_active (w : World) (b : Aid) : ((heal w).stOf b).active = (w.stOf b).active := by
  rw [heal_stOf]; unfold healSt; split <;> rfl

theorem heal_WInv {w : World} (hW : w.WInvWeak = true) : (heal w).WInv = true := by
  have hI := (WInvWeak_iff w).mp hW
  rw [WInv_iff_InvV]
  refine hI.of_vframe ⟨rfl, rfl, rfl, rfl, rfl, by simp [heal], heal_pos w⟩ (heal_active w) ?_
  intro b hb
  have g := hI.vit b hb
  rw [heal_stOf]
  unfold healSt
  split
  · rename_i hact
    exact ⟨g.h0, g.h1, by rw [hact]; exact (decide_eq_true (g.act hact)).symm, g.ammo0, g.ammo1, g.orient, trivial⟩
  · rename_i hact
    exact ⟨le_refl _, by norm_num, by simpa using hact, g.ammo0, g.ammo1, g.orient, trivial⟩

open Observers in
theorem cenCell_heal (w : World) (a : Aid) (os vis : Bool) (cell : Option (List Aid)) (t : Tape) :
    cenCell (heal w) a os vis cell t = cenCell w a os vis cell t := rfl

theorem heal_ammo (w : World) (b : Aid) : ((heal w).stOf b).ammo = (w.stOf b).ammo := by
  rw [heal_stOf, healSt_ammo]

theorem heal_stOf_active {w : World} {b : Aid} (h : (w.stOf b).active = true) : (heal w).stOf b = w.stOf b := by
  rw [heal_stOf]; unfold healSt; rw [if_pos h]

theorem heal_cfgOf (w : World) (b : Aid) : (heal w).cfgOf b = w.cfgOf b := rfl
theorem heal_encOf (w : World) (b : Aid) : (heal w).encOf b = w.encOf b := rfl
theorem heal_n (w : World) : (heal w).n = w.n := rfl

theorem heal_setSt (w : World) (a : Aid) (s : AgentSt) : heal (w.setSt a s) = (heal w).setSt a (healSt s) := by
  simp only [heal, setSt, List.map_set]

theorem attackBlockers_heal (w : World) (a : Aid) : attackBlockers (heal w) a = attackBlockers w a := by
  unfold attackBlockers
  simp only [heal_pos, heal_active]
  rfl

theorem localCell_heal (w : World) (a : Aid) (R i j : Nat) : localCell (heal w) a R i j = localCell w a R i j := by
  unfold localCell
  rw [heal_pos]
  rfl

theorem cellCands_heal (w : World) (a : Aid) (R : Nat) (m : List (List Bool)) (i j : Nat) :
    cellCands (heal w) a R m i j = cellCands w a R m i j := by
  unfold cellCands
  rw [localCell_heal]

theorem windowCands_heal (w : World) (a : Aid) (R : Nat) (m : List (List Bool)) :
    windowCands (heal w) a R m = windowCands w a R m := by
  unfold windowCands
  simp only [cellCands_heal]

theorem basicCriteria_heal (cfg : AttackCfg) (w : World) (a b : Aid) (t : Tape) :
    basicCriteria cfg (heal w) a b t = basicCriteria cfg w a b t := by
  unfold basicCriteria
  rw [heal_active]
  rfl

theorem scanCands_heal (cfg : AttackCfg) (w : World) (a : Aid) (l : List Aid) :
    ∀ t, scanCands cfg (heal w) a l t = scanCands cfg w a l t := by
  induction l with
  | nil => intro t; rfl
  | cons b bs ih =>
    intro t
    simp only [scanCands, basicCriteria_heal, ih]

theorem encLoop_heal (w : World) (stacked : Bool) (S : List Aid) (l : List (Int × Nat)) :
    ∀ t, encLoop (heal w) stacked S l t = encLoop w stacked S l t := by
  induction l with
  | nil => intro t; rfl
  | cons p rest ih =>
    intro t
    obtain ⟨e, k⟩ := p
    simp only [encLoop, heal_encOf, ih]

theorem selLoop_heal (cfg : AttackCfg) (w : World) (a : Aid) (R : Nat) (m : List (List Bool)) (act : List Nat)
    (cs : List (Nat × Nat)) : ∀ t, selLoop cfg (heal w) a R m act cs t = selLoop cfg w a R m act cs t := by
  induction cs with
  | nil => intro t; rfl
  | cons c rest ih =>
    intro t
    obtain ⟨i, j⟩ := c
    simp only [selLoop, scanCands_heal, cellCands_heal, ih]

theorem resLoop_heal (cfg : AttackCfg) (w : World) (a : Aid) (R : Nat) (m : List (List Bool)) (l : List Nat) :
    ∀ acc t, resLoop cfg (heal w) a R m l acc t = resLoop cfg w a R m l acc t := by
  induction l with
  | nil => intro acc t; rfl
  | cons k rest ih =>
    intro acc t
    simp only [resLoop, scanCands_heal, cellCands_heal, ih]

theorem determineAttack_heal (cfg : AttackCfg) (w : World) (a : Aid) (act : AttackAct) (t : Tape) :
    determineAttack cfg (heal w) a act t = determineAttack cfg w a act t := by
  unfold determineAttack determineBinary determineEncoding determineSelective determineRestricted
  simp only [heal_cfgOf, heal_encOf, attackBlockers_heal, windowCands_heal, scanCands_heal, encLoop_heal, selLoop_heal,
    resLoop_heal]

theorem healSt_withAmmo (s : AgentSt) (x : Int) : healSt { s with ammo := x } = { healSt s with ammo := x } := by
  unfold healSt
  split <;> rfl

theorem setAmmo_heal (w : World) (a : Aid) (v : Int) : (heal w).setAmmo a v = heal (w.setAmmo a v) := by
  unfold setAmmo
  rw [heal_setSt, healSt_withAmmo, heal_stOf]

theorem ammoFilter_heal (w : World) (a : Aid) (L : List Aid) (t : Tape) :
    ammoFilter (heal w) a L t = (ammoFilter w a L t).map fun r => (r.1, heal r.2.1, r.2.2) := by
  unfold ammoFilter
  -- `Except.map` is pushed into the branches (`apply_ite`): the two sides then have the same conditions
  simp only [heal_cfgOf, heal_ammo, setAmmo_heal, apply_ite (Except.map _)]
  rfl

theorem remove_heal (w : World) (a : Aid) (p : Pos) : (heal w).remove a p = (w.remove a p).map heal := by
  unfold World.remove
  rw [apply_ite (Except.map _)]
  rfl

/-- for an ACTIVE agent only; a clamped health that is not positive is exactly 0, which is what `healSt` writes -/
theorem setHealth_heal {w : World} {v : Aid} (hact : (w.stOf v).active = true) (x : Rat) :
    (heal w).setHealth v x = heal (w.setHealth v x) := by
  unfold setHealth
  rw [heal_setSt, heal_stOf_active hact]
  obtain ⟨hn, hhn⟩ : ∃ hn : Rat, hn = min (max x 0) 1 := ⟨_, rfl⟩
  simp only [← hhn]
  have hb0 : 0 ≤ hn := by rw [hhn]; exact (clamp_bounds x).1
  unfold healSt
  by_cases hp : 0 < hn
  · simp [hp]
  · have h0 : hn = 0 := le_antisymm (not_lt.mp hp) hb0
    subst h0
    simp

theorem hitStep_heal (w : World) (s : Rat) (v : Aid) : (heal w).hitStep s v = (w.hitStep s v).map heal := by
  unfold hitStep
  by_cases hact : (w.stOf v).active = true
  · simp only [heal_active, hact, heal_stOf_active hact, setHealth_heal hact, heal_pos, apply_ite (Except.map _),
      remove_heal]
    rfl
  · simp only [heal_active, hact]
    rfl

theorem applyHits_heal (s : Rat) (H : List Aid) :
    ∀ w : World, applyHits (heal w) s H = (applyHits w s H).map heal := by
  induction H with
  | nil => intro w; rfl
  | cons v vs ih =>
    intro w
    simp only [applyHits, hitStep_heal]
    cases h1 : w.hitStep s v with
    | error e => rfl
    | ok w1 =>
      simp only [Except.map]
      exact ih w1

theorem processAttack_heal (cfg : AttackCfg) (w : World) (a : Aid) (act : AttackAct) (t : Tape) :
    processAttack cfg (heal w) a act t =
      (processAttack cfg w a act t).map fun r => (r.1, heal r.2.1, r.2.2) := by
  unfold processAttack
  simp only [heal_cfgOf, determineAttack_heal]
  split
  · cases hdet : determineAttack cfg w a act t with
    | error e => rfl
    | ok d =>
      obtain ⟨⟨status, L⟩, t1⟩ := d
      simp only [ammoFilter_heal]
      cases hfil : w.ammoFilter a L t1 with
      | error e => rfl
      | ok f =>
        obtain ⟨H, w1, t2⟩ := f
        simp only [Except.map, applyHits_heal]
        cases happ : applyHits w1 (w.cfgOf a).strength H with
        | error e => rfl
        | ok w2 => rfl
  · rfl

/-- `hsp` is conditional: an agent that cannot attack needs no action space, the call returns `(False, [])` -/
theorem processAttack_ok_weak {cfg : AttackCfg} {w : World} {a : Aid} {act : AttackAct} (t : Tape)
    (hW : w.WInvWeak = true) (ha : a < w.n) (hact : (w.stOf a).active = true)
    (hsp : (w.cfgOf a).attacking = true → inSpace cfg w a act = true) :
    ∃ st H w' t', processAttack cfg w a act t = .ok ((st, H), w', t') ∧ ∀ v ∈ H, v < w.n := by
  obtain ⟨st, H, w1, t', hp, hH⟩ := processAttack_returns (cfg := cfg) (a := a) (act := act) t (heal_WInv hW) hsp
  rw [processAttack_heal] at hp
  obtain ⟨⟨r, w', t''⟩, hq, he⟩ := map_ok hp
  cases he
  exact ⟨_, _, w', t'', hq, hH⟩

/-! ## `step` does not raise for in-space actions -/

abbrev WeakW (w0 w : World) : Prop := w.WInvWeak = true ∧ SFrame w0 w

/-- what a loop of `step` needs of its state in order not to raise -/
abbrev WeakFull (cfg : Cfg) (w0 : World) : PS → Prop := PSIn (WeakW w0) (LedgerFull cfg.toEx w0.n)

/-- `MoveActor` asks of an active agent only that it is stored where it stands -/
theorem loop_weak (cfg : Cfg) (w0 : World) :
    Loop (WeakW w0) (LedgerFull cfg.toEx w0.n) (Learner cfg.toEx w0) where
  lt := fun hW ha => by rw [hW.2.sameG.n]; exact ha.1
  move := fun {w a} d hW ha hact => by
    obtain ⟨res, w', hm, hI', hF'⟩ := moveAct_invV (fun _ _ => trivial) d ((WInvWeak_iff w).mp hW.1)
      (by rw [hW.2.sameG.n]; exact ha.1) hact
    exact ⟨res, w', hm, (WInvWeak_iff w').mpr hI', hW.2.trans hF'⟩
  acc := fun x hL ha => accrue_ok hL ha.1 ha.2 x

theorem move1_ok {cfg : Cfg} {w0 : World} (p : PS) (x : Aid × Act) (hP : WeakFull cfg w0 p)
    (hlt : x.1 < w0.n) (hl : cfg.toEx.isLearning x.1 = true) :
    ∃ p', move1 cfg p x = .ok p' ∧ WeakFull cfg w0 p' := by
  have hC := loop_weak cfg w0
  obtain ⟨p1, h1, hP1⟩ : ∃ p1, (if (p.w.stOf x.1).active then moveAcc p x.1 x.2.move else .ok p) = .ok p1 ∧
      WeakFull cfg w0 p1 := by
    split
    · exact hC.moveAcc hP ⟨hlt, hl⟩ ‹_› x.2.move
    · exact ⟨p, rfl, hP⟩
  unfold move1
  rw [if_neg (Nat.not_le.mpr (hC.lt hP.w ⟨hlt, hl⟩))]
  by_cases hmv : (p.w.cfgOf x.1).moving = true
  · simp only [if_pos hmv, h1]
    split
    · -- the guard says that the runner is active: it is stored where it stands, so `grid.remove` finds it
      rename_i hg
      have hlt1 := hC.lt hP1.w ⟨hlt, hl⟩
      obtain ⟨r1, hr1, hf1⟩ := accrue_ok hP1.r hlt hl 100
      have hrem : p1.w.remove x.1 (p1.w.posOf x.1) = .ok _ :=
        if_pos (placed_of_weak hP1.w.1 hlt1 (Bool.and_eq_true_iff.mp hg).1).mem
      obtain ⟨hI, hF, _⟩ := takeOff_inv (fun _ hf => by cases hf) ((WInvWeak_iff _).mp hP1.w.1) hlt1
        (show takeOff p1.w x.1 = .ok _ by unfold takeOff; rw [hrem])
      simp only [hr1, hrem]
      exact ⟨_, rfl, ⟨(WInvWeak_iff _).mpr hI, hP1.w.2.trans hF⟩, hf1⟩
    · exact ⟨p1, rfl, hP1⟩
  · exact ⟨p, if_neg hmv, hP⟩

theorem entropy1_ok {cfg : Cfg} {w0 : World} (p : PS) (x : Aid × Act) (hP : WeakFull cfg w0 p)
    (hlt : x.1 < w0.n) (hl : cfg.toEx.isLearning x.1 = true) :
    ∃ p', entropy1 cfg p x = .ok p' ∧ WeakFull cfg w0 p' := by
  have hlt' : x.1 < p.w.n := by rw [hP.w.2.sameG.n]; exact hlt
  unfold entropy1
  rw [if_neg (Nat.not_le.mpr hlt')]
  by_cases hr : x.1 ∈ cfg.runners
  · rw [if_pos hr]
    obtain ⟨r', h1, hf⟩ := accrue_ok hP.r hlt hl (-1)
    exact ⟨⟨p.w, r', p.t⟩, by simp [h1, Except.map], ⟨hP.w, hf⟩⟩
  · rw [if_neg hr]
    exact ⟨p, rfl, hP⟩

theorem attackKeeps_weak (acfg : AttackCfg) (w0 : World) : AttackKeeps acfg w0 (WeakW w0) := by
  intro w a act t hW ha hact hsp
  have hn : w.n = w0.n := hW.2.sameG.n
  obtain ⟨st, H, w', t', hp, hH⟩ := processAttack_ok_weak (cfg := acfg) (act := act) t hW.1 (by rw [hn]; exact ha) hact
    (fun hatt => by
      rw [inSpace_attack_sframe hW.2]
      exact hsp (by rw [← hW.2.sameG.cfgOf]; exact hatt))
  obtain ⟨hW', hF'⟩ := processAttack_weak hW.1 hp
  exact ⟨st, H, w', t', hp, fun v hv => by rw [← hn]; exact hH v hv, hW', hW.2.trans hF'⟩

theorem stepPS_ok_weak {cfg : Cfg} {w0 : World} (p : PS) (acts : List (Aid × Act))
    (hP : WeakFull cfg w0 p) (hS : ∀ x ∈ acts, ItemOK cfg.toEx w0 x) :
    ∃ p', stepPS cfg p acts = .ok p' ∧ WeakFull cfg w0 p' := by
  unfold stepPS
  -- the attack loop is that of `TeamBattleSim` (`attack1_eq`)
  obtain ⟨p1, h1, hP1⟩ := foldE_ok (attack1 cfg) (WeakFull cfg w0) (ItemOK cfg.toEx w0)
    (fun _ _ hP hx => attack1_okW (loop_weak cfg w0) (attackKeeps_weak cfg.attack w0) (Or.inl rfl) hP hx) acts p hP hS
  simp only [h1]
  obtain ⟨p2, h2, hP2⟩ := foldE_ok (move1 cfg) (WeakFull cfg w0) (ItemOK cfg.toEx w0)
    (fun p x hP hx => move1_ok p x hP hx.lt hx.learning) acts p1 hP1 hS
  simp only [h2]
  exact foldE_ok (entropy1 cfg) (WeakFull cfg w0) (ItemOK cfg.toEx w0)
    (fun p x hP hx => entropy1_ok p x hP hx.lt hx.learning) acts p2 hP2 hS

theorem step_ok_weak {cfg : Cfg} {w0 : World} {s : St} {r : Ledger} (hr : s.rewards = some r) (hW : WeakW w0 s.w)
    (hL : LedgerFull cfg.toEx w0.n r) {acts : List (Aid × Act)} (hS : ∀ x ∈ acts, ItemOK cfg.toEx w0 x) :
    ∃ s', step cfg s acts = .ok s' := by
  obtain ⟨p, hp, _⟩ := stepPS_ok_weak (cfg := cfg) ⟨s.w, r, s.tape⟩ acts ⟨hW, hL⟩ hS
  exact ⟨⟨p.w, some p.r, p.t⟩, by simp only [step, hr, hp]⟩

/-- the Boolean gives the hypotheses of `step_ok_weak` with the world itself as `w0` -/
theorem step_of_mustNotRaise {cfg : Cfg} {s : St} {r : Ledger} {acts : List (Aid × Act)} (hr : s.rewards = some r)
    (h : stepMustNotRaise cfg s.w r acts = true) : ∃ s', step cfg s acts = .ok s' := by
  simp only [stepMustNotRaise, Bool.and_eq_true, List.all_eq_true] at h
  obtain ⟨⟨⟨⟨hW, hin⟩, _⟩, hlearn⟩, hfull⟩ := h
  refine step_ok_weak hr ⟨hW, SFrame.refl s.w⟩ (ledgerFull_of_b hfull) fun x hx => ?_
  have hi := hin x hx
  simp only [actInSpace, Bool.and_eq_true, decide_eq_true_eq, Bool.or_eq_true, Bool.not_eq_true'] at hi
  obtain ⟨⟨hlt, hmv⟩, hat⟩ := hi
  refine ⟨hlt, hlearn x hx, hmv, fun _ hatt => ?_⟩
  rcases hat with hat | hat
  · rw [hatt] at hat; cases hat
  · exact hat

theorem mustNotRaise_of_error {cfg : Cfg} {s : St} {r : Ledger} {acts : List (Aid × Act)} {e : GErr}
    (hr : s.rewards = some r) (h : step cfg s acts = .error e) : stepMustNotRaise cfg s.w r acts = false := by
  cases hm : stepMustNotRaise cfg s.w r acts with
  | false => rfl
  | true =>
    obtain ⟨s', hs'⟩ := step_of_mustNotRaise hr hm
    rw [hs'] at h; cases h

end RT
end Abmarl
