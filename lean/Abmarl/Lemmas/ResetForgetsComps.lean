import Abmarl.Model.Resets
import Abmarl.Lemmas.ResetForgetsBase
import Abmarl.Lemmas.PlacementSpec
/-!
# Reset forgets — the placement resets, and any list of state components

Everything a placement state reads is the static part of the world, the cell table, the availability
lists and the tape; the only dynamic field it writes is the position of the agent it places.  So its
primitives map agreeing loop states (`PAgree`) to agreeing loop states, or to the same error, switching on the
position flag of the agent placed.  The two loops place every agent of the listing exactly once (the target of
the target and maze states is placed before them), and the listing is the range of agents, possibly shuffled:
a successful placement reset of two agreeing worlds ends in agreeing worlds with the same cell table and the
position flag switched on for every agent, a failing one fails with the same error (`resetX_agree`).

The order of the components is arbitrary, so `applyComps_agree` starts from any flags; each
component switches its own field group on for every agent (`Flags.reset`).
-/
namespace Abmarl
open World

namespace WAgree
variable {cf : List AgentCfg} {F : Flags} {C : Prop} {x1 x2 : World}

/-- what is read off the static part and the cell table is the same in worlds that agree on the cells -/
theorem cells_congr {β : Type} (f : World → β)
    (hf : ∀ (w : World) (s : List AgentSt), f { w with st := s } = f w)
    (h : WAgree cf F True x1 x2) : f x1 = f x2 := by
  have e : x2 = { x1 with st := x2.st } := by
    obtain ⟨r1, c1, o1, ce1, cf1, st1⟩ := x1
    obtain ⟨r2, c2, o2, ce2, cf2, st2⟩ := x2
    have h1 := h.rows; have h2 := h.cols; have h3 := h.overlap; have h4 := h.cfg
    have h5 := h.cells trivial
    simp only at h1 h2 h3 h4 h5
    subst h1 h2 h3 h4 h5; rfl
  rw [e]; exact (hf x1 x2.st).symm

theorem inGrid_eq (h : WAgree cf F True x1 x2) (p : Pos) : x1.inGrid p = x2.inGrid p :=
  h.cells_congr (fun w => w.inGrid p) (fun _ _ => rfl)
theorem idx_eq (h : WAgree cf F True x1 x2) (p : Pos) : x1.idx p = x2.idx p :=
  h.cells_congr (fun w => w.idx p) (fun _ _ => rfl)
theorem unravel_eq (h : WAgree cf F True x1 x2) (k : Nat) : x1.unravel k = x2.unravel k :=
  h.cells_congr (fun w => w.unravel k) (fun _ _ => rfl)
theorem updateAvail_eq (h : WAgree cf F True x1 x2) (no : Bool) (av : Avail) (pe : Int) (k : Nat) :
    updateAvail x1 no av pe k = updateAvail x2 no av pe k :=
  h.cells_congr (fun w => updateAvail w no av pe k) (fun _ _ => rfl)
theorem query_eq (h : WAgree cf F True x1 x2) (a : Aid) (p : Pos) : x1.query a p = x2.query a p :=
  h.cells_congr (fun w => w.query a p) (fun _ _ => rfl)

theorem monoP (h : WAgree cf F C x1 x2) {P' : Aid → Prop}
    (hP : ∀ b, b < cf.length → P' b → F.P b) : WAgree cf { F with P := P' } C x1 x2 :=
  h.mono (fun b hb => ⟨hP b hb, id, id, id⟩) id

end WAgree

/-- the cell table `Grid.place` writes when the query succeeds -/
def placeCells (w : World) (a : Aid) (p : Pos) : List (List Aid) :=
  w.cells.set (w.idx p) (if a ∈ w.cell p then w.cell p else w.cell p ++ [a])

theorem place_of_query {w : World} {a : Aid} {p : Pos} (hq : w.query a p = true) :
    w.place a p =
      (true, ({ w with cells := placeCells w a p }).setSt a { w.stOf a with pos := p }) := by
  simp only [World.place, hq, if_true]; rfl

theorem place_agree {cf : List AgentCfg} {F : Flags} {x1 x2 : World} (h : WAgree cf F True x1 x2)
    (a : Aid) (p : Pos) :
    (x1.place a p).1 = (x2.place a p).1 ∧
    ((x1.place a p).1 = true →
      WAgree cf { F with P := fun b => F.P b ∨ b = a } True (x1.place a p).2 (x2.place a p).2) := by
  have hq := h.query_eq a p
  cases hq1 : x1.query a p with
  | false =>
    rw [place_fail hq1, place_fail (hq ▸ hq1)]
    exact ⟨rfl, fun hh => by cases hh⟩
  | true =>
    rw [place_of_query hq1, place_of_query (hq ▸ hq1)]
    refine ⟨rfl, fun _ => ?_⟩
    have hc : placeCells x1 a p = placeCells x2 a p :=
      h.cells_congr (fun w => placeCells w a p) (fun _ _ => rfl)
    rw [← hc]
    refine (h.withCells (placeCells x1 a p)).setSt a _ _
      ⟨fun _ => rfl, fun q => (h.st a).health q, fun q => (h.st a).active q,
       fun q => (h.st a).ammo q, fun q => (h.st a).orient q⟩ (fun b hb => ⟨or_of_ne hb, id, id, id⟩)

structure PAgree (cf : List AgentCfg) (F : Flags) (s1 s2 : PSt) : Prop where
  w : WAgree cf F True s1.w s2.w
  av : s1.av = s2.av
  t : s1.t = s2.t

theorem PAgree.monoP {cf : List AgentCfg} {F : Flags} {s1 s2 : PSt} (h : PAgree cf F s1 s2)
    {P' : Aid → Prop} (hP : ∀ b, b < cf.length → P' b → F.P b) :
    PAgree cf { F with P := P' } s1 s2 :=
  ⟨h.w.monoP hP, h.av, h.t⟩

theorem placeAt_agree {cf : List AgentCfg} {F : Flags} {s1 s2 : PSt} (h : PAgree cf F s1 s2)
    (no : Bool) (a : Aid) (p : Pos) :
    ERel (PAgree cf { F with P := fun b => F.P b ∨ b = a }) (placeAt no s1 a p) (placeAt no s2 a p) := by
  obtain ⟨hp1, hp2⟩ := place_agree h.w a p
  simp only [placeAt]
  rw [← h.w.inGrid_eq p, ← hp1]
  by_cases hg : s1.w.inGrid p = true
  · simp only [hg, if_true]
    by_cases hq : (s1.w.place a p).1 = true
    · simp only [hq, if_true, ERel]
      have hw := hp2 hq
      refine ⟨hw, ?_, h.t⟩
      simp only
      rw [h.av, hw.updateAvail_eq, hw.encOf_eq, hw.idx_eq]
    · simp only [hq, Bool.false_eq_true, if_false, ERel]
  · simp only [hg, Bool.false_eq_true, if_false, ERel]

theorem PAgree.withT {cf : List AgentCfg} {F : Flags} {s1 s2 : PSt} (h : PAgree cf F s1 s2)
    (t' : Tape) : PAgree cf F ⟨s1.w, s1.av, t'⟩ ⟨s2.w, s1.av, t'⟩ :=
  ⟨h.w, rfl, rfl⟩

theorem placeVarRandom_agree {cf : List AgentCfg} {F : Flags} {s1 s2 : PSt} (h : PAgree cf F s1 s2)
    (no : Bool) (a : Aid) :
    ERel (PAgree cf { F with P := fun b => F.P b ∨ b = a })
      (placeVarRandom no s1 a) (placeVarRandom no s2 a) := by
  simp only [placeVarRandom]
  rw [← h.av, ← h.w.encOf_eq a, ← h.t]
  cases s1.av.lookup (s1.w.encOf a) with
  | none => simp only [ERel]
  | some l =>
    simp only
    cases choice1 l s1.t with
    | mk ok t' =>
      cases ok with
      | none => simp only [ERel]
      | some k =>
        simp only
        rw [← h.w.unravel_eq]
        exact placeAt_agree (h.withT t') no a (s1.w.unravel k)

theorem placeVarTB_agree {cf : List AgentCfg} {F : Flags} {s1 s2 : PSt} (h : PAgree cf F s1 s2)
    (o : PlaceOpts) (a : Aid) :
    ERel (PAgree cf { F with P := fun b => F.P b ∨ b = a })
      (placeVarTB o s1 a) (placeVarTB o s2 a) := by
  simp only [placeVarTB]
  rw [← h.av, ← h.w.encOf_eq a]
  by_cases hu : o.useLast (s1.w.encOf a) = true
  · simp only [hu, if_true]
    cases s1.av.lookup (s1.w.encOf a) with
    | none => simp only [ERel]
    | some l =>
      simp only
      cases l.getLast? with
      | none => simp only [ERel]
      | some k =>
        simp only
        rw [← h.w.unravel_eq]
        exact placeAt_agree h o.noOverlap a (s1.w.unravel k)
  · simp only [hu, Bool.false_eq_true, if_false]
    exact placeVarRandom_agree h o.noOverlap a

/-- the agents the first loop places -/
def QFix (cf : List AgentCfg) (kind : PKind) (o : PlaceOpts) (a : Aid) : Prop :=
  isTargetRole kind o a = false ∧ (cf.getD a {}).initPos ≠ none
/-- the agents the second loop places -/
def QFree (cf : List AgentCfg) (kind : PKind) (o : PlaceOpts) (a : Aid) : Prop :=
  isTargetRole kind o a = false ∧ (cf.getD a {}).initPos = none

/-- a step that leaves the state alone switches on no flag -/
theorem PAgree.noop {cf : List AgentCfg} {F : Flags} {s1 s2 : PSt} (h : PAgree cf F s1 s2) {a : Aid}
    {Q : Prop} (hQ : ¬Q) : PAgree cf { F with P := fun b => F.P b ∨ (b = a ∧ Q) } s1 s2 :=
  h.monoP fun _ _ hh => hh.elim id fun e => (hQ e.2).elim

/-- a step that places `a` may say so under any side condition -/
theorem PAgree.placed {cf : List AgentCfg} {F : Flags} {a : Aid} {r1 r2 : PSt}
    (h : PAgree cf { F with P := fun b => F.P b ∨ b = a } r1 r2) {Q : Prop} :
    PAgree cf { F with P := fun b => F.P b ∨ (b = a ∧ Q) } r1 r2 :=
  h.monoP fun _ _ hh => hh.imp id And.left

theorem stepFixed_agree {cf : List AgentCfg} {F : Flags} {s1 s2 : PSt} (h : PAgree cf F s1 s2)
    (kind : PKind) (o : PlaceOpts) (a : Aid) :
    ERel (PAgree cf { F with P := fun b => F.P b ∨ (b = a ∧ QFix cf kind o a) })
      (stepFixed kind o s1 a) (stepFixed kind o s2 a) := by
  rw [stepFixed_eq, stepFixed_eq, ← h.w.cfgOf_eq a, h.w.cfgOf1 a]
  cases hs : isTargetRole kind o a with
  | true => exact h.noop fun q => by rw [q.1] at hs; cases hs
  | false =>
    cases hi : (cf.getD a {}).initPos with
    | none => exact h.noop fun q => q.2 hi
    | some p => exact (placeAt_agree h o.noOverlap a p).mono fun _ _ hr => hr.placed

theorem stepFree_agree {cf : List AgentCfg} {F : Flags} {s1 s2 : PSt} (h : PAgree cf F s1 s2)
    (kind : PKind) (o : PlaceOpts) (a : Aid) :
    ERel (PAgree cf { F with P := fun b => F.P b ∨ (b = a ∧ QFree cf kind o a) })
      (stepFree kind o s1 a) (stepFree kind o s2 a) := by
  rw [stepFree_eq, stepFree_eq, ← h.w.cfgOf_eq a, h.w.cfgOf1 a]
  cases hs : isTargetRole kind o a with
  | true => exact h.noop fun q => by rw [q.1] at hs; cases hs
  | false =>
    cases hi : (cf.getD a {}).initPos with
    | some p => exact h.noop fun q => by rw [q.2] at hi; cases hi
    | none =>
      cases hk : kind == .position with
      | true => exact (placeVarRandom_agree h o.noOverlap a).mono fun _ _ hr => hr.placed
      | false => exact (placeVarTB_agree h o a).mono fun _ _ hr => hr.placed

/-- `Q`: the agents the body places -/
theorem runLoop_agree {cf : List AgentCfg} (step : PSt → Aid → Except GErr PSt) (Q : Aid → Prop)
    (hstep : ∀ (F : Flags) (s1 s2 : PSt) (a : Aid), PAgree cf F s1 s2 →
      ERel (PAgree cf { F with P := fun b => F.P b ∨ (b = a ∧ Q a) }) (step s1 a) (step s2 a)) :
    ∀ (l : List Aid) (F : Flags) (s1 s2 : PSt), PAgree cf F s1 s2 →
      (runLoop step l s1).1 = (runLoop step l s2).1 ∧
      ((runLoop step l s1).1 = none →
        PAgree cf { F with P := fun b => F.P b ∨ (b ∈ l ∧ Q b) }
          (runLoop step l s1).2 (runLoop step l s2).2) := by
  intro l
  induction l with
  | nil =>
    intro F s1 s2 h
    exact ⟨rfl, fun _ => h.monoP fun b _ hh => hh.elim id fun e => nomatch e.1⟩
  | cons a rest ih =>
    intro F s1 s2 h
    rcases (hstep F s1 s2 a h).cases' with ⟨e, h1, h2⟩ | ⟨r1, r2, h1, h2, hr⟩
    · simp only [runLoop, h1, h2]
      exact ⟨trivial, fun hh => nomatch hh⟩
    · simp only [runLoop, h1, h2]
      obtain ⟨i1, i2⟩ := ih _ r1 r2 hr
      refine ⟨i1, fun hn => (i2 hn).monoP (fun b _ hh => ?_)⟩
      rcases hh with hh | ⟨hh, hq⟩
      · exact Or.inl (Or.inl hh)
      · rcases List.mem_cons.mp hh with hh | hh
        · exact Or.inl (Or.inr ⟨hh, hh ▸ hq⟩)
        · exact Or.inr ⟨hh, hq⟩

/-- agreement of what a reset returns: the world and the tape -/
def RAgree (cf : List AgentCfg) (F : Flags) (C : Prop) (r1 r2 : World × Tape) : Prop :=
  WAgree cf F C r1.1 r2.1 ∧ r1.2 = r2.2

/-- the outcomes `(PlaceOut, tape)` of a placement reset, read as the reset returns them -/
def ORel (cf : List AgentCfg) (F : Flags) (r1 r2 : PlaceOut × Tape) : Prop :=
  ERel (RAgree cf F True) (PlaceOut.toExcept r1) (PlaceOut.toExcept r2)

theorem ORel.of_err {cf : List AgentCfg} {F : Flags} (e : GErr) (w1 w2 : World) (t1 t2 : Tape) :
    ORel cf F (⟨some e, w1⟩, t1) (⟨some e, w2⟩, t2) :=
  rfl

theorem placeAll_agree {cf : List AgentCfg} {F : Flags} {s1 s2 : PSt} (h : PAgree cf F s1 s2)
    (kind : PKind) (o : PlaceOpts) (order : List Aid) :
    ORel cf { F with P := fun b => F.P b ∨ (b ∈ order ∧ isTargetRole kind o b = false) }
      (placeAll kind o order s1) (placeAll kind o order s2) := by
  obtain ⟨i1, i2⟩ := runLoop_agree (stepFixed kind o) (QFix cf kind o)
    (fun F s1 s2 a hh => stepFixed_agree hh kind o a) order F s1 s2 h
  simp only [placeAll]
  rw [← i1]
  cases he : (runLoop (stepFixed kind o) order s1).1 with
  | some e => exact ORel.of_err e _ _ _ _
  | none =>
    simp only
    obtain ⟨j1, j2⟩ := runLoop_agree (stepFree kind o) (QFree cf kind o)
      (fun F s1 s2 a hh => stepFree_agree hh kind o a) order _ _ _ (i2 he)
    simp only [ORel, PlaceOut.toExcept]
    rw [← j1]
    split
    next hn =>
      -- every agent but the target has been placed by one of the two loops
      have hp := j2 hn
      refine ⟨hp.w.monoP (fun b _ hh => ?_), hp.t⟩
      rcases hh with hh | ⟨hm, hsk⟩
      · exact Or.inl (Or.inl hh)
      · cases hi : (cf.getD b {}).initPos with
        | none => exact Or.inr ⟨hm, hsk, hi⟩
        | some p => exact Or.inl (Or.inr ⟨hm, hsk, by rw [hi]; exact fun hh => by cases hh⟩)
    next => exact rfl

theorem ORel.monoP {cf : List AgentCfg} {F : Flags} {r1 r2 : PlaceOut × Tape} (h : ORel cf F r1 r2)
    {P' : Aid → Prop} (hP : ∀ b, b < cf.length → P' b → F.P b) : ORel cf { F with P := P' } r1 r2 :=
  ERel.mono (fun _ _ hr => ⟨hr.1.monoP hP, hr.2⟩) h

theorem gridReset_agree {cf : List AgentCfg} {F : Flags} {C : Prop} {x1 x2 : World}
    (h : WAgree cf F C x1 x2) : WAgree cf F True x1.gridReset x2.gridReset := by
  have e : List.replicate (x2.rows * x2.cols) ([] : List Aid) = List.replicate (x1.rows * x1.cols) [] := by
    rw [h.rows, h.cols]
  simp only [World.gridReset]
  rw [e]
  exact h.withCells _

theorem positionResetX_agree {cf : List AgentCfg} {F : Flags} {C : Prop} {x1 x2 : World}
    (h : WAgree cf F C x1 x2) (o : PlaceOpts) (t : Tape) :
    ORel cf { F with P := fun _ => True } (positionResetX o x1 t) (positionResetX o x2 t) := by
  have h0 := gridReset_agree h
  have e1 : placementListing o x1.gridReset t = placementListing o x2.gridReset t :=
    h0.cells_congr (fun w => placementListing o w t) (fun _ _ => rfl)
  have e2 : buildPosition x1.gridReset = buildPosition x2.gridReset :=
    h0.cells_congr (fun w => buildPosition w) (fun _ _ => rfl)
  simp only [positionResetX]
  rw [← e1, ← e2]
  cases buildPosition x1.gridReset with
  | none => exact ORel.of_err _ _ _ _ _
  | some av =>
    simp only
    have hp : PAgree cf F ⟨x1.gridReset, av, (placementListing o x1.gridReset t).2⟩
        ⟨x2.gridReset, av, (placementListing o x1.gridReset t).2⟩ := ⟨h0, rfl, rfl⟩
    refine (placeAll_agree hp .position o (placementListing o x1.gridReset t).1).monoP
      (fun b hb _ => Or.inr ⟨(listing_perm o x1 t).mem_iff.mpr (List.mem_range.mpr (h.n1 ▸ hb)), rfl⟩)

theorem tbResetX_agree {cf : List AgentCfg} {F : Flags} {C : Prop} {x1 x2 : World}
    (h : WAgree cf F C x1 x2) (kind : PKind) (o : PlaceOpts) (t : Tape) :
    ORel cf { F with P := fun _ => True } (tbResetX kind o x1 t) (tbResetX kind o x2 t) := by
  have h0 := gridReset_agree h
  have e1 : placementListing o x1.gridReset t = placementListing o x2.gridReset t :=
    h0.cells_congr (fun w => placementListing o w t) (fun _ _ => rfl)
  have e2 : ∀ t', targetStart o x1.gridReset t' = targetStart o x2.gridReset t' := fun t' =>
    h0.cells_congr (fun w => targetStart o w t') (fun _ _ => rfl)
  have e3 : ∀ st t', buildTB kind o x1.gridReset st t' = buildTB kind o x2.gridReset st t' :=
    fun st t' => h0.cells_congr (fun w => buildTB kind o w st t') (fun _ _ => rfl)
  simp only [tbResetX]
  rw [← e1, ← e2, ← e3, ← h0.cfg]
  by_cases hall : (x1.gridReset.cfg.all fun c => (o.barrier ++ o.free).contains c.enc) = true
  · simp only [hall, if_true]
    cases buildTB kind o x1.gridReset (targetStart o x1.gridReset (placementListing o x1.gridReset t).2).1
        (targetStart o x1.gridReset (placementListing o x1.gridReset t).2).2 with
    | error e => exact ORel.of_err _ _ _ _ _
    | ok b =>
      simp only
      have hp : PAgree cf F ⟨x1.gridReset, b.1, b.2⟩ ⟨x2.gridReset, b.1, b.2⟩ := ⟨h0, rfl, rfl⟩
      rcases (placeAt_agree hp o.noOverlap o.target
        (targetStart o x1.gridReset (placementListing o x1.gridReset t).2).1).cases' with
        ⟨e, h1, h2⟩ | ⟨r1, r2, h1, h2, hr⟩
      · rw [h1, h2]; exact ORel.of_err _ _ _ _ _
      · rw [h1, h2]
        simp only
        refine (placeAll_agree hr kind o (placementListing o x1.gridReset t).1).monoP
          (fun b hb _ => ?_)
        by_cases hs : isTargetRole kind o b = true
        · refine Or.inl (Or.inr ?_)
          simp only [isTargetRole, Bool.and_eq_true, beq_iff_eq] at hs
          exact hs.2
        · exact Or.inr ⟨(listing_perm o x1 t).mem_iff.mpr (List.mem_range.mpr (h.n1 ▸ hb)), by simpa using hs⟩
  · simp only [hall, Bool.false_eq_true, if_false]
    exact ORel.of_err _ _ _ _ _

theorem resetX_agree {cf : List AgentCfg} {F : Flags} {C : Prop} {x1 x2 : World}
    (h : WAgree cf F C x1 x2) (kind : PKind) (o : PlaceOpts) (t : Tape) :
    ORel cf { F with P := fun _ => True } (resetX kind o x1 t) (resetX kind o x2 t) := by
  simp only [resetX]
  by_cases hk : (kind == .position) = true
  · simp only [hk, if_true]; exact positionResetX_agree h o t
  · simp only [hk, Bool.false_eq_true, if_false]; exact tbResetX_agree h kind o t

namespace StateComp
def resetsPos : StateComp → Bool
  | .position _ _ => true
  | _ => false
def resetsHealth : StateComp → Bool
  | .health => true
  | .healthClosed => true
  | _ => false
def resetsAmmo : StateComp → Bool
  | .ammo => true
  | _ => false
def resetsOrient : StateComp → Bool
  | .orient => true
  | _ => false
end StateComp

/-- `F` with the field groups switched on, for every agent, that one of the components `cs` resets -/
def Flags.reset (F : Flags) (cs : List StateComp) : Flags :=
  ⟨fun b => F.P b ∨ cs.any StateComp.resetsPos = true, fun b => F.H b ∨ cs.any StateComp.resetsHealth = true,
   fun b => F.A b ∨ cs.any StateComp.resetsAmmo = true, fun b => F.O b ∨ cs.any StateComp.resetsOrient = true⟩

/-- `C ∨ c.resetsPos = true`: the cell tables agree once a component is a placement state -/
theorem applyComp_agree {cf : List AgentCfg} (c : StateComp) {F : Flags} {C : Prop} {x1 x2 : World}
    (t : Tape) (hw : WAgree cf F C x1 x2) :
    ERel (RAgree cf (F.reset [c]) (C ∨ c.resetsPos = true)) (applyComp c x1 t) (applyComp c x2 t) := by
  cases c <;>
    simp only [applyComp, RAgree, Flags.reset, List.any_cons, List.any_nil, StateComp.resetsPos,
      StateComp.resetsHealth, StateComp.resetsAmmo, StateComp.resetsOrient, Bool.or_false,
      Bool.false_eq_true, or_false, or_true, and_true, ERel]
  case position kind o => exact resetX_agree hw kind o t
  case health => exact healthReset_agree t false hw
  case healthClosed => exact healthReset_agree t true hw
  case ammo => exact ammoReset_agree hw
  case orient => exact orientReset_agree t hw

theorem applyComps_agree {cf : List AgentCfg} (cs : List StateComp) :
    ∀ (F : Flags) (C : Prop) (x1 x2 : World) (t : Tape), WAgree cf F C x1 x2 →
      ERel (RAgree cf (F.reset cs) (C ∨ cs.any StateComp.resetsPos = true))
        (applyComps cs x1 t) (applyComps cs x2 t) := by
  induction cs with
  | nil =>
    intro F C x1 x2 t hw
    simp only [applyComps, Flags.reset, List.any_nil, Bool.false_eq_true, or_false]
    exact ⟨hw, rfl⟩
  | cons c cs ih =>
    intro F C x1 x2 t hw
    simp only [applyComps]
    rcases (applyComp_agree c t hw).cases' with ⟨e, h1, h2⟩ | ⟨⟨w1, t1⟩, ⟨w2, t2⟩, h1, h2, hr, rfl⟩
    · rw [h1, h2]; exact rfl
    · rw [h1, h2]
      simpa only [Flags.reset, List.any_cons, List.any_nil, Bool.or_false, Bool.or_eq_true, or_assoc]
        using ih _ _ w1 w2 t1 hr

end Abmarl
