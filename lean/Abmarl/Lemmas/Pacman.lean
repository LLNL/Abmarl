import Abmarl.Spec.Pacman
import Abmarl.Lemmas.ExamplesHist
/-!
# `PacmanSim` / `PacmanSimSimple`: the getters are frame-correct (`Lawful`); what EVERY `step` keeps, returned or raised

The blocks of `step` are walked once, for any relation on worlds that the writes of the grid respect (`WAtoms`), together
with the key list of the reward dict, which every block keeps (`Resp`, `q_stepR`).  `VSame` (the static part, vitals that
stay legal) is an instance here, every `Prim` property (such as the cell structure `CInv`) in Lemmas/PacmanFloat.lean.

How a block of `step` ends — it falls through, `return`s or raises — is judged by `EndsIn`, a post-condition for each of
the three, with one rule for a sequence and one for a `for` loop.  The walk for a relation is the case of one
post-condition for all three; Lemmas/PacmanStep.lean takes the one that forbids a raise.  The four per-pass functions of
the overlap loops of the two classes are one function (`pass1`).
-/
namespace Abmarl
namespace PM
open World Ex

theorem simIface_obs (cfg : Cfg) (n : Nat) (s : St) (a : Aid) :
    (toSimIface cfg n).obs s a =
      (((Ex.toSimIface cfg.toEx n).obs s.ex a).1, { s with ex := ((Ex.toSimIface cfg.toEx n).obs s.ex a).2 }) := by
  simp only [toSimIface, Ex.toSimIface, getObs]
  cases Ex.getObs cfg.toEx s.ex a <;> rfl

theorem simIface_reward (cfg : Cfg) (n : Nat) (s : St) (a : Aid) :
    (toSimIface cfg n).reward s a =
      (((Ex.toSimIface cfg.toEx n).reward s.ex a).1, { s with ex := ((Ex.toSimIface cfg.toEx n).reward s.ex a).2 }) := by
  simp only [toSimIface, Ex.toSimIface, getReward]
  cases Ex.getReward cfg.toEx s.ex a <;> rfl

/-- the ghost `pending` and the two getters that change the state are the smart simulation's on `s.ex`; the done getters
read the world and whether a reward dict exists -/
theorem pm_lawful (cfg : Cfg) (n : Nat) : Lawful (toSimIface cfg n) :=
  Ex.lawful_of_ex cfg.toEx n St.ex (fun s e => { s with ex := e }) (simIface_obs cfg n) (simIface_reward cfg n)
    (fun _ _ => rfl) (fun _ _ => rfl) (fun _ => rfl) (fun _ _ => ⟨fun _ => rfl, rfl, rfl⟩) fun s r r' hr =>
    ⟨fun b => by simp only [toSimIface, getDone, getAllDone, hr], by simp only [toSimIface, getAllDone, hr], rfl⟩

theorem pm_WF (cfg : Cfg) (n : Nat) (k : MKind) (hk : k ≠ .dynamic)
    (hl : k = .turnBased → ∃ a < n, cfg.isLearning a = true) : WF (toSimIface cfg n) k :=
  WF_of_lawful (pm_lawful cfg n) hk hl

/-- one agent's vitals before and after -/
def stRel (s s' : AgentSt) : Prop :=
  s'.ammo = s.ammo ∧ ((s'.health = s.health ∧ s'.active = s.active) ∨ (s'.health = 0 ∧ s'.active = false)) ∧
  (s'.orient = s.orient ∨ (1 ≤ s'.orient ∧ s'.orient ≤ 4))

theorem stRel.refl (s : AgentSt) : stRel s s := ⟨rfl, Or.inl ⟨rfl, rfl⟩, Or.inl rfl⟩

theorem stRel.trans {s s' s'' : AgentSt} (h : stRel s s') (h' : stRel s' s'') : stRel s s'' := by
  obtain ⟨a1, h1, o1⟩ := h
  obtain ⟨a2, h2, o2⟩ := h'
  refine ⟨a2.trans a1, ?_, ?_⟩
  · rcases h2 with ⟨e1, e2⟩ | h2
    · rcases h1 with ⟨f1, f2⟩ | h1
      · exact Or.inl ⟨e1.trans f1, e2.trans f2⟩
      · exact Or.inr ⟨e1.trans h1.1, e2.trans h1.2⟩
    · exact Or.inr h2
  · rcases o2 with e | o2
    · rcases o1 with f | o1
      · exact Or.inl (e.trans f)
      · exact Or.inr (by rw [e]; exact o1)
    · exact Or.inr o2

/-- **what every statement of `step` keeps**: the static part of the world and, agent by agent, `stRel` -/
structure VSame (w w' : World) : Prop where
  rows : w'.rows = w.rows
  cols : w'.cols = w.cols
  overlap : w'.overlap = w.overlap
  cfg : w'.cfg = w.cfg
  len : w'.st.length = w.st.length
  st : ∀ b, stRel (w.stOf b) (w'.stOf b)

theorem VSame.refl (w : World) : VSame w w := ⟨rfl, rfl, rfl, rfl, rfl, fun _ => stRel.refl _⟩

theorem VSame.trans {w w' w'' : World} (h : VSame w w') (h' : VSame w' w'') : VSame w w'' :=
  ⟨h'.rows.trans h.rows, h'.cols.trans h.cols, h'.overlap.trans h.overlap, h'.cfg.trans h.cfg, h'.len.trans h.len,
   fun b => (h.st b).trans (h'.st b)⟩

theorem VSame.sframe {w w' : World} (h : VSame w w') : SFrame w w' := ⟨h.rows, h.cols, h.overlap, h.cfg, h.len⟩

theorem VSame.n {w w' : World} (h : VSame w w') : w'.n = w.n := h.sframe.sameG.n

theorem VSame.idx {w w' : World} (h : VSame w w') (p : Pos) : w'.idx p = w.idx p := h.sframe.sameG.idx p

theorem VSame.inGrid {w w' : World} (h : VSame w w') (p : Pos) : w'.inGrid p = w.inGrid p := h.sframe.sameG.inGrid p

theorem vsame_cells (w : World) (c : List (List Aid)) : VSame w { w with cells := c } :=
  ⟨rfl, rfl, rfl, rfl, rfl, fun _ => stRel.refl _⟩

theorem vsame_setSt (w : World) (a : Aid) (s : AgentSt) (h : stRel (w.stOf a) s) : VSame w (w.setSt a s) := by
  refine ⟨rfl, rfl, rfl, rfl, by simp [setSt], ?_⟩
  intro b
  rw [stOf_setSt]
  split
  · rename_i hb; rw [hb.1]; exact h
  · exact stRel.refl _

theorem removeG_shape {w w' : World} {a : Aid} {p : Pos} (h : removeG w a p = .ok w') :
    w.inGrid p = true ∧ w.remove a p = .ok w' := by
  unfold removeG at h
  split at h
  · rename_i hin; exact ⟨hin, h⟩
  · cases h

theorem removeG_returns {w : World} {a : Aid} {p : Pos} (hin : w.inGrid p = true) (hm : a ∈ w.cell p) :
    ∃ w', removeG w a p = .ok w' ∧ w.remove a p = .ok w' := by
  simp [removeG, remove, hin, hm]

theorem vsame_remove {w w' : World} {a : Aid} {p : Pos} (h : w.remove a p = .ok w') : VSame w w' := by
  obtain ⟨_, rfl⟩ := remove_shape h
  exact vsame_cells w _

theorem vsame_place (w : World) (a : Aid) (p : Pos) : VSame w (w.place a p).2 := by
  unfold place
  split
  · have h1 : VSame w (w.setSt a { w.stOf a with pos := p }) :=
      vsame_setSt w a _ ⟨rfl, Or.inl ⟨rfl, rfl⟩, Or.inl rfl⟩
    exact ⟨h1.rows, h1.cols, h1.overlap, h1.cfg, h1.len, h1.st⟩
  · exact VSame.refl w

theorem vsame_setHealth0 (w : World) (a : Aid) : VSame w (w.setHealth a 0) := by
  unfold setHealth
  apply vsame_setSt
  refine ⟨rfl, Or.inr ⟨?_, ?_⟩, Or.inl rfl⟩
  · show min (max (0 : Rat) 0) 1 = 0
    decide
  · show decide (0 < min (max (0 : Rat) 0) 1) = false
    decide

/-- a relation between the world before and after that the writes of the class respect: a `grid.remove` that returned,
alone or followed by `grid.place` (accepted or refused) on a cell of the grid, a new orientation among the four
directions, `health = 0` -/
structure WAtoms (Q : World → World → Prop) : Prop where
  refl : ∀ w, Q w w
  trans : ∀ {w w' w''}, Q w w' → Q w' w'' → Q w w''
  remove : ∀ {w w' : World} {a : Aid} {p : Pos}, w.remove a p = .ok w' → Q w w'
  reloc : ∀ {w w1 : World} {a : Aid} {src dst : Pos}, w.remove a src = .ok w1 → w1.inGrid dst = true →
    Q w (w1.place a dst).2
  turn : ∀ (w : World) (a : Aid) {o : Nat}, 1 ≤ o → o ≤ 4 → Q w (w.setSt a { w.stOf a with orient := o })
  die : ∀ (w : World) (a : Aid), Q w (w.setHealth a 0)

theorem watoms_vsame : WAtoms VSame where
  refl := VSame.refl
  trans := VSame.trans
  remove := vsame_remove
  reloc := fun hr _ => (vsame_remove hr).trans (vsame_place _ _ _)
  turn := fun w a _ h1 h4 => vsame_setSt w a _ ⟨rfl, Or.inl ⟨rfl, rfl⟩, Or.inr ⟨h1, h4⟩⟩
  die := vsame_setHealth0

/-- how a block of `step` ends (a result `R` of the model: the state so far, and `go` / `ret` / `err`): it falls through
in a state satisfying `G`, it `return`s from `step` in one satisfying `T`, it raises in one satisfying `E` -/
def EndsIn (G T E : PS → Prop) (x : R) : Prop :=
  match x.2 with
  | .go => G x.1
  | .ret => T x.1
  | .err _ => E x.1

section
variable {G G' T E : PS → Prop}

theorem EndsIn.mono {x : R} (hx : EndsIn G T E x) (h : ∀ p, G p → G' p) : EndsIn G' T E x := by
  obtain ⟨p, c⟩ := x
  cases c with
  | go => exact h p hx
  | ret => exact hx
  | err e => exact hx

theorem andThen_ends {x : R} {f : PS → R} (hx : EndsIn G T E x) (hf : ∀ p, G p → EndsIn G' T E (f p)) :
    EndsIn G' T E (andThen x f) := by
  obtain ⟨p, c⟩ := x
  cases c with
  | go => exact hf p hx
  | ret => exact hx
  | err e => exact hx

/-- a `for` loop, with an invariant on the state and the items still to come -/
theorem loopR_ends {β : Type} {f : PS → β → R} {I : PS → List β → Prop}
    (hf : ∀ p x xs, I p (x :: xs) → EndsIn (fun p' => I p' xs) T E (f p x)) :
    ∀ (l : List β) (p : PS), I p l → EndsIn (fun p' => I p' []) T E (loopR f p l) := by
  intro l
  induction l with
  | nil => intro p h; exact h
  | cons x xs ih =>
    intro p h
    have h1 := hf p x xs h
    unfold loopR
    cases hx : f p x with
    | mk p' c =>
      rw [hx] at h1
      cases c with
      | go => exact ih p' h1
      | ret => exact h1
      | err e => exact h1

theorem endsIn_same {x : R} : EndsIn G G G x ↔ G x.1 := by
  obtain ⟨p, c⟩ := x
  cases c <;> exact Iff.rfl

end

/-- pacman eats the food `b`, in the first overlap loop of both classes: `self.rewards['pacman'] +=
self.reward_scheme['eat_food']; self.grid.remove(agent, tuple(self.pacman.position)); agent.health = 0` -/
def eatBody (cfg : Cfg) (p : PS) (b : Aid) : R :=
  andThen (reward p cfg.pacman cfg.scheme.eatFood) fun p1 =>
    match removeG p1.w b (p1.w.stOf cfg.pacman).pos with
    | .error e => (p1, .err e)
    | .ok w2 => ({ p1 with w := w2.setHealth b 0 }, .go)

/-- the baddie `b` eats pacman, in both overlap loops of `PacmanSim.step`: `self.rewards['pacman'] +=
self.reward_scheme['die']; self.rewards[agent.id] += self.reward_scheme['kill']; self.pacman.health = 0` (the baddie branch
of `PacmanSimSimple.step` is `dieNow`) -/
def biteBody (cfg : Cfg) (p : PS) (b : Aid) : R :=
  andThen (reward p cfg.pacman cfg.scheme.die) fun p1 =>
    andThen (reward p1 b cfg.scheme.kill) fun p2 => ({ p2 with w := p2.w.setHealth cfg.pacman 0 }, .go)

/-- the body of `for agent in candidate_agents.copy().values():`, for the four overlap loops of the two classes (`eat1`,
`bite1`, `eat1S`, `bite1S` of the model): `if agent.id == self.pacman.id: continue`, then `if isinstance(agent, FoodAgent):`
in the first loop of a step (`eats`; the second loop has no such branch), then `(el)if isinstance(agent, BaddieAgent):`
with what the class does to pacman (`bitten`) -/
def pass1 (cfg : Cfg) (eats : Bool) (bitten : PS → Aid → R) (p : PS) (b : Aid) : R :=
  if b = cfg.pacman then (p, .go)
  else if eats = true ∧ b ∈ cfg.food then eatBody cfg p b
  else if b ∈ cfg.baddies then bitten p b
  else (p, .go)

theorem eat1_eq (cfg : Cfg) : eat1 cfg = pass1 cfg true (biteBody cfg) := by
  funext p b
  simp only [eat1, pass1, true_and]
  rfl

theorem bite1_eq (cfg : Cfg) : bite1 cfg = pass1 cfg false (biteBody cfg) := by
  funext p b
  simp only [bite1, pass1, Bool.false_eq_true, false_and, if_false]
  rfl

theorem eat1S_eq (cfg : Cfg) : eat1S cfg = pass1 cfg true fun p _ => dieNow cfg p := by
  funext p b
  simp only [eat1S, pass1, true_and]
  rfl

theorem bite1S_eq (cfg : Cfg) : bite1S cfg = pass1 cfg false fun p _ => dieNow cfg p := by
  funext p b
  simp only [bite1S, pass1, Bool.false_eq_true, false_and, if_false]

/-- what a block of statements of `step` does to the state: `Q` between the worlds, and the key list of the reward dict is
kept (`self.rewards[a] += …` reads the entry first: it never creates one) -/
def Resp (Q : World → World → Prop) (p p' : PS) : Prop := Q p.w p'.w ∧ p'.r.map (·.1) = p.r.map (·.1)

theorem Resp.world {Q : World → World → Prop} {p : PS} {w' : World} (h : Q p.w w') : Resp Q p { p with w := w' } :=
  ⟨h, rfl⟩

section
variable {Q : World → World → Prop} (hQ : WAtoms Q)
include hQ

theorem _root_.Abmarl.World.MoverStep.watoms {w w' : World} {a : Aid} (h : MoverStep w a w') : Q w w' := by
  have hin1 : ∀ {w1 : World} {dst : Pos}, w.remove a (w.stOf a).pos = .ok w1 → w.inGrid dst = true →
      w1.inGrid dst = true := fun hr hin => by rw [(sframe_remove hr).sameG.inGrid]; exact hin
  cases h with
  | same => exact hQ.refl w
  | moved hr hin _ _ => exact hQ.reloc hr (hin1 hr hin)
  | turned hr hin _ _ ho => exact hQ.trans (hQ.reloc hr (hin1 hr hin)) (hQ.turn _ a ho.1 ho.2)

theorem qw_driftAct {w w' : World} {a : Aid} {x : Int} {r : Option Bool} {l : Int}
    (h : w.driftAct a x = .ok (r, w', l)) : Q w w' :=
  (driftAct_step h).watoms hQ

theorem qw_removeG {w w' : World} {a : Aid} {p : Pos} (h : removeG w a p = .ok w') : Q w w' :=
  hQ.remove (removeG_shape h).2

theorem qw_teleTo (w : World) (a : Aid) (src dst : Pos) : Q w (teleTo w a src dst).1 := by
  unfold teleTo
  split
  · exact hQ.refl w
  · rename_i w1 hr
    split
    · rename_i hin
      exact hQ.reloc (removeG_shape hr).2 hin
    · exact qw_removeG hQ hr

theorem qw_tele (cfg : Cfg) (w : World) (a : Aid) : Q w (tele cfg w a).1 := by
  unfold tele
  split
  · exact qw_teleTo hQ w a _ _
  · split
    · exact qw_teleTo hQ w a _ _
    · exact hQ.refl w

theorem Resp.refl (p : PS) : Resp Q p p := ⟨hQ.refl _, rfl⟩

theorem Resp.trans {p p' p'' : PS} (h : Resp Q p p') (h' : Resp Q p' p'') : Resp Q p p'' :=
  ⟨hQ.trans h.1 h'.1, h'.2.trans h.2⟩

theorem q_andThen {x : R} {f : PS → R} {p : PS} (hx : Resp Q p x.1) (hf : ∀ p', Resp Q p' (f p').1) :
    Resp Q p (andThen x f).1 :=
  endsIn_same.mp (andThen_ends (endsIn_same.mpr hx) fun p' h => endsIn_same.mpr (h.trans hQ (hf p')))

theorem q_loopR {β : Type} {f : PS → β → R} (hf : ∀ x p, Resp Q p (f p x).1) (l : List β) (p : PS) :
    Resp Q p (loopR f p l).1 :=
  endsIn_same.mp (loopR_ends (I := fun p' _ => Resp Q p p') (fun p' x _ h => endsIn_same.mpr (h.trans hQ (hf x p'))) l p
    (.refl hQ p))

theorem q_reward (a : Aid) (v : Option Int) (p : PS) : Resp Q p (reward p a v).1 := by
  unfold reward
  split
  · exact .refl hQ _
  · rename_i x hx
    split
    · exact .refl hQ _
    · exact ⟨hQ.refl _, keys_dictSet_of_mem a _ p.r (List.mem_map.mpr ⟨(a, x), mem_of_lookup _ _ _ hx, rfl⟩)⟩

theorem q_moveTele (cfg : Cfg) (a : Aid) (act : Int) (rew : Bool) (p : PS) : Resp Q p (moveTele cfg p a act rew).1 := by
  unfold moveTele
  split
  · exact .refl hQ _
  · rename_i res w1 l hd
    have h1 : Resp Q p { p with w := w1 } := .world (qw_driftAct hQ hd)
    apply q_andThen hQ
    · split
      · exact h1.trans hQ (q_reward hQ a _ { p with w := w1 })
      · exact h1
    · intro p2
      exact .world (qw_tele hQ cfg p2.w a)

theorem q_biteBody (cfg : Cfg) (p : PS) (b : Aid) : Resp Q p (biteBody cfg p b).1 := by
  apply q_andThen hQ (q_reward hQ _ _ p)
  intro p1
  apply q_andThen hQ (q_reward hQ _ _ p1)
  intro p2
  exact .world (hQ.die p2.w cfg.pacman)

theorem q_eatBody (cfg : Cfg) (p : PS) (b : Aid) : Resp Q p (eatBody cfg p b).1 := by
  apply q_andThen hQ (q_reward hQ _ _ p)
  intro p1
  split
  · exact .refl hQ _
  · rename_i w2 hr
    exact .world (hQ.trans (qw_removeG hQ hr) (hQ.die w2 b))

theorem q_dieNow (cfg : Cfg) (p : PS) : Resp Q p (dieNow cfg p).1 := by
  unfold dieNow
  apply q_andThen hQ (q_reward hQ _ _ p)
  intro p1
  simp only
  split
  · exact .world (hQ.die p1.w cfg.pacman)
  · rename_i w2 hr
    exact .world (hQ.trans (hQ.die p1.w cfg.pacman) (qw_removeG hQ hr))

theorem q_pass1 (cfg : Cfg) (eats : Bool) {bitten : PS → Aid → R} (hb : ∀ p b, Resp Q p (bitten p b).1) (b : Aid)
    (p : PS) :
    Resp Q p (pass1 cfg eats bitten p b).1 := by
  unfold pass1
  split
  · exact .refl hQ _
  · split
    · exact q_eatBody hQ cfg p b
    · split
      · exact hb p b
      · exact .refl hQ _

theorem q_overlapLoop (cfg : Cfg) {f : PS → Aid → R} (hf : ∀ b p, Resp Q p (f p b).1) (p : PS) :
    Resp Q p (overlapLoop cfg f p).1 := by
  unfold overlapLoop
  simp only
  split
  · exact q_loopR hQ hf _ p
  · exact .refl hQ _

theorem q_baddie1 (cfg : Cfg) (x : Aid × Int) (p : PS) : Resp Q p (baddie1 cfg p x).1 := by
  unfold baddie1
  split
  · exact .refl hQ _
  · split
    · exact .refl hQ _
    · exact q_moveTele hQ cfg x.1 x.2 true p

theorem q_baddie1S (cfg : Cfg) (x : Nat × Int) (p : PS) : Resp Q p (baddie1S cfg p x).1 := by
  unfold baddie1S
  split
  · exact .refl hQ _
  · rename_i b _
    exact q_moveTele hQ cfg b x.2 false p

theorem q_finish (cfg : Cfg) (p : PS) : Resp Q p (finish cfg p).1 := by
  unfold finish
  split
  · split
    · exact .refl hQ _
    · rename_i w' hr; exact .world (qw_removeG hQ hr)
  · exact .refl hQ _

theorem q_stepFull (cfg : Cfg) (acts : List (Aid × Int)) (p : PS) : Resp Q p (stepFull cfg p acts).1 := by
  unfold stepFull
  rw [eat1_eq, bite1_eq]
  split
  · exact .refl hQ _
  · rename_i act _
    apply q_andThen hQ (q_moveTele hQ cfg cfg.pacman act true p)
    intro p1
    apply q_andThen hQ (q_overlapLoop hQ cfg (q_pass1 hQ cfg true (q_biteBody hQ cfg)) p1)
    intro p2
    apply q_andThen hQ (q_loopR hQ (q_baddie1 hQ cfg) acts p2)
    intro p3
    apply q_andThen hQ (q_overlapLoop hQ cfg (q_pass1 hQ cfg false (q_biteBody hQ cfg)) p3)
    intro p4
    exact q_finish hQ cfg p4

theorem q_stepSimple (cfg : Cfg) (k : Nat) (acts : List (Aid × Int)) (p : PS) :
    Resp Q p (stepSimple cfg p k acts).1 := by
  unfold stepSimple
  rw [eat1S_eq, bite1S_eq]
  split
  · exact .refl hQ _
  · rename_i act _
    apply q_andThen hQ (q_moveTele hQ cfg cfg.pacman act true p)
    intro p1
    apply q_andThen hQ (q_overlapLoop hQ cfg (q_pass1 hQ cfg true fun p _ => q_dieNow hQ cfg p) p1)
    intro p2
    split
    · exact .refl hQ _
    · rename_i sc _
      apply q_andThen hQ (q_loopR hQ (q_baddie1S hQ cfg) sc p2)
      intro p3
      exact q_overlapLoop hQ cfg (q_pass1 hQ cfg false fun p _ => q_dieNow hQ cfg p) p3

theorem q_stepR (cfg : Cfg) (p : PS) (k : Nat) (acts : List (Aid × Int)) : Resp Q p (stepR cfg p k acts).1 := by
  unfold stepR
  split
  · exact q_stepSimple hQ cfg k acts p
  · exact q_stepFull hQ cfg acts p

end

theorem step_vsame (cfg : Cfg) (s : St) (acts : List (Aid × Int)) : VSame s.ex.w (step cfg s acts).1.ex.w := by
  unfold step
  split
  · exact VSame.refl _
  · rename_i r _
    exact (q_stepR watoms_vsame cfg ⟨s.ex.w, r, s.ex.tape⟩ s.count acts).1

theorem step_rewards_isSome (cfg : Cfg) (s : St) (acts : List (Aid × Int)) :
    (step cfg s acts).1.ex.rewards.isSome = s.ex.rewards.isSome := by
  unfold step
  split
  · rfl
  · rename_i r hr; rw [hr]; rfl

theorem step_keys (cfg : Cfg) (s : St) (acts : List (Aid × Int)) (r : Ledger) (hr : s.ex.rewards = some r) :
    ∃ r', (step cfg s acts).1.ex.rewards = some r' ∧ r'.map (·.1) = r.map (·.1) := by
  unfold step
  rw [hr]
  exact ⟨_, rfl, (q_stepR watoms_vsame cfg ⟨s.ex.w, r, s.ex.tape⟩ s.count acts).2⟩

theorem step_count (cfg : Cfg) (s : St) (acts : List (Aid × Int)) :
    (cfg.simple = false → (step cfg s acts).1.count = s.count) ∧
    s.count ≤ (step cfg s acts).1.count ∧ (step cfg s acts).1.count ≤ s.count + 1 ∧
    ((step cfg s acts).2.isSome = true → (step cfg s acts).1.count = s.count) := by
  unfold step
  split
  · exact ⟨fun _ => rfl, Nat.le_refl _, Nat.le_succ _, fun _ => rfl⟩
  · simp only
    refine ⟨fun h => by simp [h], ?_, ?_, ?_⟩
    · split <;> omega
    · split <;> omega
    · intro he
      split
      · rename_i hc
        simp only [Bool.and_eq_true, beq_iff_eq] at hc
        rw [hc.2] at he
        cases he
      · rfl

end PM
end Abmarl
