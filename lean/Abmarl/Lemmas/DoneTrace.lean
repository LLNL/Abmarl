import Abmarl.Lemmas.DoneSmart
/-!
# C17: the two clauses of `specSmart` along a history

The model keeps `self.rewards` as a Python-like dict (item list, keyed by the learning agents);
the judge `specRewardOnce` keeps a plain vector of integers.  `LedgerInv` links the two and is
preserved by every call of the smart simulation (`Smart.Call.ledger`, by cases on what the call
did).  Then: every call of a smart simulation built from the built-in done components (`Agrees`)
passes the per-call judge `specSmartEntry` (`Smart.Call.entry_ok`).
-/
namespace Abmarl
variable {σ κ υ : Type} [DecidableEq κ]

/-- the dict `r` holds exactly the learning agents below `n`, with the values of the vector `x` -/
def LedgerInv (n : Nat) (learning : Aid → Bool) (r : List (Aid × Int)) (x : List Int) : Prop :=
  x.length = n ∧ ∀ a, r.lookup a = if a < n ∧ learning a = true then some (x.getD a 0) else none

/-- the reward dict and the reference ledger exist together (from the first `reset` on), and then
agree -/
inductive Linked (n : Nat) (learning : Aid → Bool) :
    Option (List (Aid × Int)) → Option (List Int) → Prop
  | none : Linked n learning none none
  | some {r x} : LedgerInv n learning r x → Linked n learning (some r) (some x)

theorem LedgerInv.lookup_some {n : Nat} {learning : Aid → Bool} {r : List (Aid × Int)} {x : List Int}
    (h : LedgerInv n learning r x) {a : Aid} {v : Int} (hl : r.lookup a = some v) :
    (a < n ∧ learning a = true) ∧ v = x.getD a 0 := by
  rw [h.2 a] at hl
  split at hl
  · exact ⟨‹_›, (Option.some.inj hl).symm⟩
  · cases hl

theorem LedgerInv.lookup_none {n : Nat} {learning : Aid → Bool} {r : List (Aid × Int)} {x : List Int}
    (h : LedgerInv n learning r x) {a : Aid} (hl : r.lookup a = none) :
    (learning a && decide (a < n)) = false := by
  rw [h.2 a] at hl
  split at hl
  · cases hl
  · next hc => exact Bool.eq_false_iff.mpr fun e => hc (by simpa [and_comm] using e)

omit [DecidableEq κ] in
theorem inv_zero (S : Smart σ κ υ) : LedgerInv S.n S.learning S.zeroRewards (List.replicate S.n 0) := by
  refine ⟨List.length_replicate, fun a => ?_⟩
  unfold Smart.zeroRewards
  rw [lookup_map_self (fun _ => (0 : Int))]
  simp only [List.mem_filter, List.mem_range]
  by_cases h : a < S.n ∧ S.learning a = true
  · rw [if_pos h, if_pos h]
    simp [List.getD_eq_getElem?_getD, h.1]
  · rw [if_neg h, if_neg h]

theorem inv_set {n : Nat} {learning : Aid → Bool} {r : List (Aid × Int)} {x : List Int}
    (h : LedgerInv n learning r x) {a : Aid} (ha : a < n) (hl : learning a = true) (v : Int) :
    LedgerInv n learning (dictSet r a v) (x.set a v) := by
  refine ⟨by rw [List.length_set]; exact h.1, fun b => ?_⟩
  rw [lookup_dictSet, getD_set, h.1]
  by_cases hb : b = a
  · subst hb
    simp [ha, hl]
  · rw [if_neg hb, h.2 b]
    have : ¬ (a = b ∧ a < n) := fun e => hb e.1.symm
    rw [if_neg this]

theorem inv_applyAcc {n : Nat} {learning : Aid → Bool} {r : List (Aid × Int)} {x : List Int}
    (h : LedgerInv n learning r x) {acc : List (Aid × Int)}
    (hp : ∀ p ∈ acc, p.1 < n ∧ learning p.1 = true) :
    LedgerInv n learning (Smart.applyAcc r acc)
      (acc.foldl (fun x p => x.set p.1 (x.getD p.1 0 + p.2)) x) :=
  List.foldl_rel h fun p hpm r x hrx => by
    rw [hrx.2 p.1, if_pos (hp p hpm)]
    exact inv_set hrx (hp p hpm).1 (hp p hpm).2 _

theorem pendVec_of_linked {n : Nat} {learning : Aid → Bool} {rw : Option (List (Aid × Int))}
    {exp : Option (List Int)} (h : Linked n learning rw exp) :
    pendVec n rw = exp.map (expVec n learning) := by
  cases h with
  | none => rfl
  | some h =>
    simp only [pendVec, expVec, Option.map_some, Option.some.injEq]
    apply List.map_congr_left
    intro a ha
    rw [h.2 a]
    simp [List.mem_range.mp ha]

theorem Smart.Call.ledger {S : Smart σ κ υ} {s s' : SmartSt σ} {op : SOp σ} {e : SEntry σ κ υ}
    (hc : S.Call s op e s') {exp : Option (List Int)} (h : Linked S.n S.learning s.rewards exp) :
    readOk S.n S.learning exp e = true ∧ e.pending = s'.rewards ∧
      Linked S.n S.learning s'.rewards (ledgerNext S.n exp e) := by
  obtain ⟨sim, rews⟩ := s
  cases hc with
  | resetErr _ => exact ⟨rfl, rfl, by cases exp <;> exact h⟩
  | reset _ => exact ⟨rfl, rfl, .some (inv_zero S)⟩
  | @step f acc r hr hall =>
    subst hr
    cases h with
    | some hinv =>
      refine ⟨rfl, rfl, .some (inv_applyAcc hinv fun p hp => ?_)⟩
      obtain ⟨v, hv⟩ := Option.isSome_iff_exists.mp (List.all_eq_true.mp hall p hp)
      exact (hinv.lookup_some hv).1
  | @rewErr a _ hl =>
    refine ⟨?_, rfl, h⟩
    cases h with
    | none => rfl
    | some hinv =>
      simp [readOk, hinv.lookup_none (hl _ rfl)]
  | rew hr hl =>
    subst hr
    cases h with
    | some hinv =>
      obtain ⟨hc, rfl⟩ := hinv.lookup_some hl
      exact ⟨by simp [readOk, hc.1, hc.2], rfl, .some (inv_set hinv hc.1 hc.2 0)⟩
  | _ => exact ⟨rfl, rfl, h⟩

theorem rewardLoop_runOps (S : Smart σ κ υ) :
    ∀ (ops : List (SOp σ)) (s : SmartSt σ) (exp : Option (List Int)),
      Linked S.n S.learning s.rewards exp →
      rewardLoop S.n S.learning exp (S.runOps s ops).1 = true
  | [], _, _, _ => rfl
  | op :: ops, s, exp, h => by
    obtain ⟨h1, h2, h3⟩ := (S.runOp_call s op).ledger h
    unfold Smart.runOps
    simp only [rewardLoop, Bool.and_eq_true, beq_iff_eq]
    refine ⟨⟨h1, ?_⟩, rewardLoop_runOps S ops _ _ h3⟩
    rw [h2]
    exact pendVec_of_linked h3

variable [DecidableEq υ]

/-- the smart simulation `S` is the one the facts `F` describe: built-in done components read
off a world, so many observers, so many state components -/
structure Agrees (S : Smart σ κ υ) (F : SmartFacts σ) : Prop where
  n        : S.n = F.n
  learning : S.learning = F.learning
  dones    : S.dones = F.comps.map (fun cs => cs.map (DoneComp.iface F.worldOf))
  dict     : ∀ cs, F.comps = some cs → ∀ c ∈ cs, c.isDict = true
  obs      : S.observers.map List.length = F.nObs
  states   : S.states.map List.length = F.nStates

theorem anyLazy_map {δ ε : Type} (f : ε → Except GErr Bool) (g : δ → ε) :
    ∀ l : List δ, anyLazy f (l.map g) = anyLazy (fun d => f (g d)) l
  | [] => rfl
  | d :: l => by
    simp only [List.map_cons, anyLazy]
    rw [anyLazy_map f g l]

omit [DecidableEq κ] [DecidableEq υ] in
theorem exceptOfRes_resOfBool (x : Except GErr Bool) :
    exceptOfRes (resOfBool x : SRes κ υ) = some x := by
  cases x <;> rfl

theorem Smart.Call.entry_ok {S : Smart σ κ υ} {F : SmartFacts σ} (hA : Agrees S F) {s s' : SmartSt σ}
    {op : SOp σ} {e : SEntry σ κ υ} (hc : S.Call s op e s') : specSmartEntry F e = true := by
  cases hc with
  | stepErr | step _ _ | rewErr _ | rew _ _ => rfl
  | resetErr hS => simp [specSmartEntry, ← hA.states, hS]
  | reset hS => simp [specSmartEntry, ← hA.states, hS, specResetAll_range]
  | obsNone hO => simp [specSmartEntry, ← hA.obs, hO]
  | obsKey hO ha => simp [specSmartEntry, ← hA.n, ha]
  | obs hO ha => simp [specSmartEntry, ← hA.obs, ← hA.n, hO, ha, specResetAll_range, specMerge_mergeObs]
  | @done a =>
    simp only [specSmartEntry, exceptOfRes_resOfBool, Smart.getDone, hA.dones, hA.n]
    cases hc : F.comps with
    | none => rfl
    | some cs =>
      simp only [Option.map_some, anyLazy_map, DoneComp.iface]
      by_cases ha : a < F.n
      · simp only [if_pos ha]
        cases hx : anyLazy (fun c => Done.getDone c (F.worldOf s.sim) a) cs <;>
        · rw [← hx]
          exact specAny_anyLazy _ (fun c => docDone c (F.worldOf s.sim) a) cs
            (fun c hcm => getDone_specDone c _ a (hA.dict cs hc c hcm))
      · simp [if_neg ha]
  | allDone =>
    simp only [specSmartEntry, exceptOfRes_resOfBool, Smart.getAllDone, hA.dones]
    cases hc : F.comps with
    | none => rfl
    | some cs =>
      simp only [Option.map_some, anyLazy_map, DoneComp.iface]
      cases hx : anyLazy (fun c => Done.getAllDone c (F.worldOf s.sim)) cs <;>
      · rw [← hx]
        exact specAny_anyLazy _ (fun c => some (docAllDone c (F.worldOf s.sim))) cs
          (fun c hcm => by
            rw [getAllDone_eq c (hA.dict cs hc c hcm)]
            exact beq_self_eq_true _)

theorem specSmartEntries_runOps (S : Smart σ κ υ) (F : SmartFacts σ) (hA : Agrees S F) :
    ∀ (ops : List (SOp σ)) (s : SmartSt σ), (S.runOps s ops).1.all (specSmartEntry F) = true
  | [], _ => rfl
  | op :: ops, s => by
    unfold Smart.runOps
    simp only [List.all_cons, Bool.and_eq_true]
    exact ⟨(S.runOp_call s op).entry_ok hA, specSmartEntries_runOps S F hA ops _⟩

end Abmarl
