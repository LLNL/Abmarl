import Abmarl.Lemmas.GridWrites
/-!
# C13 — the invariant of a placement state's reset

`PInv`: the cell table and the agents' positions agree for everybody who has been placed,
co-occupants may pairwise overlap, and every availability list is **exactly** its base list
filtered by the update rule `okCell` (`avail_sound`, Props/C13.lean; sortedness follows because
filtering keeps the order, `avail_sorted` there).  `w0` is the world after `grid.reset()` (the static part and
the vitals `vit` of every state are its), `no` is no-overlap-at-reset, `base e` the list built for encoding `e`.

Its cell clauses are the cell table's own invariant `PM.CInv` (`PInv.cinv`), so that `PInv.placed` — one
`grid.place` and `_update_available_positions` keep the invariant — takes them from `PM.cinv_place`
(Lemmas/GridWrites.lean) and argues about the availability lists only.
-/
namespace Abmarl
open World

/-- the update rule, read off a cell table: encoding `e` keeps cell `c` iff every agent standing
there lets it (`e ∈ overlapping[their encoding]`), and nobody stands there at all when
no-overlap-at-reset is on -/
def okCell (w : World) (no : Bool) (e : Int) (c : Nat) : Bool :=
  (w.cells.getD c []).all fun b => !no && w.ovHas (w.encOf b) e

def Unplaced (w : World) (a : Aid) : Prop := ∀ i, a ∉ w.cells.getD i []

structure PInv (w0 : World) (no : Bool) (base : Int → List Nat) (s : PSt) : Prop where
  rows : s.w.rows = w0.rows
  cols : s.w.cols = w0.cols
  ov   : s.w.overlap = w0.overlap
  cfg  : s.w.cfg = w0.cfg
  lenC : s.w.cells.length = w0.rows * w0.cols
  lenS : s.w.st.length = w0.cfg.length
  cellOK : ∀ i a, a ∈ s.w.cells.getD i [] →
    a < w0.n ∧ s.w.inGrid (s.w.stOf a).pos = true ∧ s.w.idx (s.w.stOf a).pos = i
  nodup : ∀ i, (s.w.cells.getD i []).Nodup
  pair : ∀ i a b, a ∈ s.w.cells.getD i [] → b ∈ s.w.cells.getD i [] → a ≠ b →
    s.w.pairOK (s.w.encOf a) (s.w.encOf b) = true
  avail : ∀ x ∈ s.av, x.2 = (base x.1).filter (okCell s.w no x.1)
  vit : ∀ a, s.w.stOf a = { w0.stOf a with pos := (s.w.stOf a).pos }

theorem okCell_placed (w : World) (no : Bool) (a : Aid) (p : Pos) (e : Int) (c : Nat)
    (hk : w.idx p < w.cells.length) :
    okCell (placedWorld w a p) no e c =
      (okCell w no e c && (c != w.idx p || !(no || !(w.ovHas (w.encOf a) e)))) := by
  unfold okCell
  have henc : (placedWorld w a p).encOf = w.encOf := rfl
  have hov : (placedWorld w a p).ovHas = w.ovHas := rfl
  rw [henc, hov]
  by_cases hc : c = w.idx p
  · subst hc
    rw [cells_placed_same w a p hk]
    simp [cell, List.all_append]
  · rw [cells_placed_ne w a p c hc]
    simp [hc]

namespace PInv
variable {w0 : World} {no : Bool} {base : Int → List Nat} {s : PSt} (hI : PInv w0 no base s)
include hI

theorem sameG : SameG w0 s.w := ⟨hI.rows, hI.cols, hI.ov, hI.cfg⟩

theorem withTape (t : Tape) : PInv w0 no base { s with t := t } :=
  ⟨hI.rows, hI.cols, hI.ov, hI.cfg, hI.lenC, hI.lenS, hI.cellOK, hI.nodup, hI.pair, hI.avail, hI.vit⟩

theorem idx_lt {p : Pos} (hin : s.w.inGrid p = true) : s.w.idx p < s.w.cells.length := by
  rw [hI.lenC, ← hI.rows, ← hI.cols]; exact World.idx_lt hin

theorem lt_st {a : Aid} (ha : a < w0.n) : a < s.w.st.length := by
  rw [hI.lenS]; exact ha

theorem sym (hsym : w0.wOverlapSym = true) : s.w.wOverlapSym = true := by
  rw [hI.sameG.wOverlapSym]; exact hsym

theorem cinv (hsym : w0.wOverlapSym = true) : PM.CInv s.w where
  lenC := by rw [hI.lenC, hI.rows, hI.cols]
  lenS := by rw [hI.lenS, hI.cfg]
  nodup := hI.nodup
  occ i a h := by rw [hI.sameG.n]; exact hI.cellOK i a h
  pair i a b ha hb := (Decidable.em (a = b)).imp_right (hI.pair i a b ha hb)
  sym := hI.sym hsym

end PInv

/-- the state after `placeAt` has put `a` on `p` -/
def placedSt (no : Bool) (s : PSt) (a : Aid) (p : Pos) : PSt :=
  { s with w := placedWorld s.w a p,
           av := updateAvail (placedWorld s.w a p) no s.av ((placedWorld s.w a p).encOf a)
                   ((placedWorld s.w a p).idx p) }

theorem placeAt_eq {no : Bool} {s : PSt} {a : Aid} {p : Pos} (hin : s.w.inGrid p = true)
    (hq : s.w.query a p = true) (hn : a ∉ s.w.cell p) : placeAt no s a p = .ok (placedSt no s a p) := by
  simp [placeAt, hin, place_eq hq hn, placedSt]

theorem placeAt_fail {no : Bool} {s : PSt} {a : Aid} {p : Pos} (hin : s.w.inGrid p = true)
    (hq : s.w.query a p = false) : placeAt no s a p = .error .assertion := by
  simp [placeAt, hin, place_fail hq]

theorem placedSt_keys (no : Bool) (s : PSt) (a : Aid) (p : Pos) :
    (placedSt no s a p).av.map Prod.fst = s.av.map Prod.fst := by
  simp only [placedSt, updateAvail, List.map_map]
  apply List.map_congr_left
  intro x _
  simp only [Function.comp]
  split <;> rfl

theorem PInv.placed {w0 : World} {no : Bool} {base : Int → List Nat} {s : PSt} {a : Aid} {p : Pos}
    (hI : PInv w0 no base s) (hsym : w0.wOverlapSym = true) (hbase : ∀ e, (base e).Nodup)
    (ha : a < w0.n) (hun : Unplaced s.w a) (hin : s.w.inGrid p = true)
    (hq : s.w.query a p = true) : PInv w0 no base (placedSt no s a p) := by
  have hk := hI.idx_lt hin
  have hast := hI.lt_st ha
  have hn : (placedWorld s.w a p).n = w0.n := hI.sameG.n
  have hC : PM.CInv (placedWorld s.w a p) := by
    have := PM.cinv_place (p := p) (hI.cinv hsym) (by rw [hI.sameG.n]; exact ha) hun hin
    rwa [place_eq hq (hun _)] at this
  refine
    { rows := hI.rows, cols := hI.cols, ov := hI.ov, cfg := hI.cfg
      lenC := (List.length_set ..).trans hI.lenC
      lenS := (List.length_set ..).trans hI.lenS
      cellOK := fun i b hb => by rw [← hn]; exact hC.occ i b hb
      nodup := hC.nodup
      pair := fun i b c hb hc hbc => (hC.pair i b c hb hc).resolve_left hbc
      avail := ?_
      vit := ?_ }
  · -- `_update_available_positions` erases the new cell from a list exactly when `okCell` has become false there
    intro x hx
    simp only [placedSt, updateAvail, List.mem_map] at hx
    obtain ⟨y, hy, hxy⟩ := hx
    have hyl := hI.avail y hy
    have hidx : (placedWorld s.w a p).idx p = s.w.idx p := rfl
    have henc : (placedWorld s.w a p).encOf a = s.w.encOf a := rfl
    have hov : (placedWorld s.w a p).ovHas = s.w.ovHas := rfl
    rw [hidx, henc, hov] at hxy
    by_cases hcond : (no || !(s.w.ovHas (s.w.encOf a) y.1)) = true
    · rw [if_pos hcond] at hxy
      subst hxy
      show y.2.erase (s.w.idx p) = (base y.1).filter (okCell (placedWorld s.w a p) no y.1)
      rw [hyl, erase_filter_eq (hbase _)]
      apply List.filter_congr
      intro c _
      rw [okCell_placed _ _ _ _ _ _ hk, hcond]
      simp
    · rw [if_neg hcond] at hxy
      subst hxy
      show y.2 = (base y.1).filter (okCell (placedWorld s.w a p) no y.1)
      rw [hyl]
      apply List.filter_congr
      intro c _
      rw [Bool.not_eq_true] at hcond
      rw [okCell_placed _ _ _ _ _ _ hk, hcond]
      simp
  · intro b
    show (placedWorld s.w a p).stOf b = { w0.stOf b with pos := ((placedWorld s.w a p).stOf b).pos }
    by_cases hb : b = a
    · subst hb
      rw [stOf_placed_same p hast, hI.vit b]
    · rw [stOf_placed_ne p hb]; exact hI.vit b

end Abmarl
