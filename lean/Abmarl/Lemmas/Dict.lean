import Abmarl.Model.Smart
import Abmarl.Lemmas.ListAux
/-!
# Python dicts kept as item lists

`dictSet` (`d[k] = v`) and `dictOf` (assigning items one after the other), each characterised by what
it does to the keys (which, and in which order), to the items and to `lookup`.
-/
namespace Abmarl
variable {κ υ : Type} [DecidableEq κ]

theorem lookup_dictSet (k : κ) (v : υ) (k' : κ) :
    ∀ d : List (κ × υ), (dictSet d k v).lookup k' = if k' = k then some v else d.lookup k'
  | [] => by rw [dictSet, lookup_cons_ite]
  | (k0, v0) :: rest => by
    rw [dictSet, lookup_cons_ite]
    split
    · next h0 => rw [lookup_cons_ite, h0]; split <;> rfl
    · next h0 =>
      rw [lookup_cons_ite, lookup_dictSet k v k' rest]
      split
      · next h1 => rw [if_neg (h1 ▸ h0)]
      · rfl

theorem keys_dictSet_of_mem (k : κ) (v : υ) :
    ∀ d : List (κ × υ), k ∈ d.map (·.1) → (dictSet d k v).map (·.1) = d.map (·.1)
  | [], h => by cases h
  | (k0, v0) :: rest, h => by
    unfold dictSet
    split
    · rfl
    · next h0 =>
      rw [List.map_cons, List.map_cons,
        keys_dictSet_of_mem k v rest ((List.mem_cons.mp h).resolve_left fun e => h0 e.symm)]

theorem dictSet_of_not_mem (k : κ) (v : υ) :
    ∀ d : List (κ × υ), k ∉ d.map (·.1) → dictSet d k v = d ++ [(k, v)]
  | [], _ => rfl
  | (k0, v0) :: rest, h => by
    unfold dictSet
    simp only [List.map_cons, List.mem_cons, not_or] at h
    rw [if_neg (fun e => h.1 e.symm), dictSet_of_not_mem k v rest h.2]
    rfl

theorem mem_keys_dictSet (k : κ) (v : υ) (k' : κ) (d : List (κ × υ)) :
    k' ∈ (dictSet d k v).map (·.1) ↔ k' = k ∨ k' ∈ d.map (·.1) := by
  rw [← lookup_isSome_iff_mem_keys, ← lookup_isSome_iff_mem_keys, lookup_dictSet]
  split <;> simp [*]

theorem nodup_keys_dictSet (k : κ) (v : υ) (d : List (κ × υ)) (hd : (d.map (·.1)).Nodup) :
    ((dictSet d k v).map (·.1)).Nodup := by
  by_cases h : k ∈ d.map (·.1)
  · rw [keys_dictSet_of_mem k v d h]; exact hd
  · rw [dictSet_of_not_mem k v d h, List.map_append]
    exact nodup_snoc hd h

theorem mem_dictSet {k : κ} {v : υ} {q : κ × υ} : ∀ {d : List (κ × υ)}, q ∈ dictSet d k v → q ∈ d ∨ q = (k, v)
  | [], h => .inr (List.mem_singleton.mp h)
  | (k0, v0) :: rest, h => by
    unfold dictSet at h
    split at h
    · rename_i hk
      rcases List.mem_cons.mp h with h | h
      · exact .inr (by rw [h, hk])
      · exact .inl (List.mem_cons_of_mem _ h)
    · rcases List.mem_cons.mp h with h | h
      · exact .inl (by rw [h]; exact List.mem_cons_self)
      · exact (mem_dictSet h).imp (List.mem_cons_of_mem _) id

theorem mem_foldl_dictSet {q : κ × υ} {items d : List (κ × υ)}
    (h : q ∈ items.foldl (fun d p => dictSet d p.1 p.2) d) : q ∈ d ∨ q ∈ items :=
  List.foldlRecOn items _ (motive := fun r => q ∈ r → q ∈ d ∨ q ∈ items) .inl
    (fun _ ih _ hp h => (mem_dictSet h).elim ih fun e => .inr (e ▸ hp)) h

/-- `reverse`: the last item with key `k` wins -/
theorem lookup_foldl_dictSet (k : κ) :
    ∀ (items d : List (κ × υ)),
      (items.foldl (fun d p => dictSet d p.1 p.2) d).lookup k = (items.reverse.lookup k).or (d.lookup k)
  | [], d => rfl
  | (k0, v0) :: rest, d => by
    rw [List.foldl_cons, lookup_foldl_dictSet k rest, lookup_dictSet, List.reverse_cons, List.lookup_append,
      lookup_cons_ite, Option.or_assoc]
    split <;> rfl

/-- as in Python, a key stays at the place of its first assignment -/
theorem keys_foldl_dictSet :
    ∀ (items d : List (κ × υ)), (items.foldl (fun d p => dictSet d p.1 p.2) d).map (·.1) =
      d.map (·.1) ++ ((dictOf items).map (·.1)).filter (fun k => decide (k ∉ d.map (·.1)))
  | [], d => by simp [dictOf]
  | p :: rest, d => by
    have h1 : (dictOf (p :: rest)).map (·.1) =
        p.1 :: ((dictOf rest).map (·.1)).filter (fun k => decide (k ∉ [p.1])) :=
      keys_foldl_dictSet rest [(p.1, p.2)]
    rw [List.foldl_cons, keys_foldl_dictSet rest, h1, List.filter_cons, List.filter_filter]
    by_cases hm : p.1 ∈ d.map (·.1)
    · rw [keys_dictSet_of_mem _ _ _ hm, if_neg (by simpa using hm)]
      congr 1
      apply List.filter_congr
      intro k _
      by_cases hk : k = p.1
      · simp [hk, hm]
      · simp [hk]
    · rw [dictSet_of_not_mem _ _ _ hm, if_pos (by simpa using hm)]
      simp only [List.map_append, List.map_cons, List.map_nil, List.append_assoc, List.singleton_append]
      congr 2
      apply List.filter_congr
      intro k _
      simp only [List.mem_append, List.mem_singleton, not_or, Bool.decide_and]

theorem keys_dictOf_cons (p : κ × υ) (rest : List (κ × υ)) :
    (dictOf (p :: rest)).map (·.1) = p.1 :: ((dictOf rest).map (·.1)).filter (· != p.1) := by
  have h : (dictOf (p :: rest)).map (·.1) =
      p.1 :: ((dictOf rest).map (·.1)).filter (fun k => decide (k ∉ [p.1])) :=
    keys_foldl_dictSet rest [(p.1, p.2)]
  rw [h]
  congr 1
  apply List.filter_congr
  intro k _
  simp only [List.mem_singleton, decide_not]
  rfl

theorem mem_keys_dictOf (items : List (κ × υ)) (k : κ) :
    k ∈ (dictOf items).map (·.1) ↔ k ∈ items.map (·.1) := by
  rw [← lookup_isSome_iff_mem_keys, dictOf, lookup_foldl_dictSet, List.lookup_nil, Option.or_none,
    lookup_isSome_iff_mem_keys, List.map_reverse, List.mem_reverse]

theorem nodup_keys_dictOf (items : List (κ × υ)) : ((dictOf items).map (·.1)).Nodup :=
  List.foldlRecOn items _ (motive := fun r => (r.map (·.1)).Nodup) List.nodup_nil
    fun d hd p _ => nodup_keys_dictSet p.1 p.2 d hd

theorem dictOf_of_nodup (items : List (κ × υ)) (h : (items.map (·.1)).Nodup) : dictOf items = items := by
  unfold dictOf
  rw [foldl_set_of_nodup dictSet (fun d k v => dictSet_of_not_mem k v d) items [] (by simpa using h)]
  simp

end Abmarl
