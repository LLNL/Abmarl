import Abmarl.Lemmas.GridWrites
/-!
# The move actors

Their common body in closed form (`moveBy_cases`) and its judge as a proposition (`Reloc`, `specMoveBy_iff`).
`MoverStep w a w'`: what a call for `a` that returns can have done: nothing, a relocation, a relocation and a turn.  The
three actors are walked once, with no hypothesis (`runMoveCall_step`); a property of a move is then a case distinction over
the constructors.  A call for an agent stored in the cell of its position returns (`*_returns`); in a sound cell table the
judge accepts exactly what `moveBy` returns (`specMoveBy_iff_moveBy`).
-/
namespace Abmarl
namespace World

/-- the move by `d` would be carried out: the destination is another cell, inside the grid, and
`Grid.query` answers `True` for it -/
def wouldMove (w : World) (a : Aid) (d : Pos) : Bool :=
  w.inGrid ((w.stOf a).pos.1 + d.1, (w.stOf a).pos.2 + d.2) &&
  decide (((w.stOf a).pos.1 + d.1, (w.stOf a).pos.2 + d.2) ≠ (w.stOf a).pos) &&
  w.query a ((w.stOf a).pos.1 + d.1, (w.stOf a).pos.2 + d.2)

/-- the move by `d` is the trivial one: the destination is the stored position and lies in the grid -/
def staysPut (w : World) (a : Aid) (d : Pos) : Bool :=
  w.inGrid ((w.stOf a).pos.1 + d.1, (w.stOf a).pos.2 + d.2) &&
  decide (((w.stOf a).pos.1 + d.1, (w.stOf a).pos.2 + d.2) = (w.stOf a).pos)

/-- `r` stands for the result of `remove` and `k` for what follows it, so that the nested `if`s split without unfolding
`remove` and `place` -/
private theorem moveBy_shape (w : World) (a : Aid) (dst src : Pos) (r : Except GErr World) (k : World → Bool × World) :
    (if w.inGrid dst then
        if dst = src then (Except.ok (true, w) : Except GErr (Bool × World))
        else if w.query a dst then (match r with | .error e => .error e | .ok w1 => .ok (k w1)) else .ok (false, w)
      else .ok (false, w)) =
      if (w.inGrid dst && decide (dst ≠ src) && w.query a dst) then r.map k
      else .ok (w.inGrid dst && decide (dst = src), w) := by
  by_cases h2 : dst = src <;> cases h1 : w.inGrid dst <;> cases h3 : w.query a dst <;> cases r <;> simp [h2, Except.map]

theorem moveBy_cases (w : World) (a : Aid) (d : Pos) :
    w.moveBy a d =
      if w.wouldMove a d then
        (w.remove a (w.stOf a).pos).map fun w1 =>
          (true, (w1.place a ((w.stOf a).pos.1 + d.1, (w.stOf a).pos.2 + d.2)).2)
      else .ok (w.staysPut a d, w) :=
  moveBy_shape w a _ _ _ _

theorem wouldMove_iff {w : World} {a : Aid} {d : Pos} :
    w.wouldMove a d = true ↔
      w.inGrid ((w.stOf a).pos.1 + d.1, (w.stOf a).pos.2 + d.2) = true ∧
      ((w.stOf a).pos.1 + d.1, (w.stOf a).pos.2 + d.2) ≠ (w.stOf a).pos ∧
      w.query a ((w.stOf a).pos.1 + d.1, (w.stOf a).pos.2 + d.2) = true := by
  simp only [wouldMove, Bool.and_eq_true, decide_eq_true_eq, and_assoc]

theorem dst_ne_src {p d : Pos} (hd : d ≠ (0, 0)) : ((p.1 + d.1, p.2 + d.2) : Pos) ≠ p := by
  intro h
  apply hd
  have h1 : p.1 + d.1 = p.1 := congrArg Prod.fst h
  have h2 : p.2 + d.2 = p.2 := congrArg Prod.snd h
  have : d.1 = 0 := by omega
  have : d.2 = 0 := by omega
  exact Prod.ext ‹d.1 = 0› ‹d.2 = 0›

theorem staysPut_of_ne {w : World} {a : Aid} {d : Pos} (hd : d ≠ (0, 0)) : w.staysPut a d = false := by
  simp [staysPut, dst_ne_src hd]

theorem crossTable_ne_zero {x : Int} {d : Pos} (hx : x ≠ 0) (h : crossTable x = some d) : d ≠ (0, 0) := by
  unfold crossTable at h
  split at h <;> first | (exact absurd rfl hx) | (cases h; decide) | cases h

theorem crossTable_range {x : Int} {d : Pos} (h : crossTable x = some d) (h0 : x ≠ 0) : 1 ≤ x.toNat ∧ x.toNat ≤ 4 := by
  unfold crossTable at h
  split at h <;> first | (exact absurd rfl h0) | decide | cases h

theorem destFree_eq (w : World) (a : Aid) (d : Pos) : w.destFree a d = (w.wouldMove a d || w.staysPut a d) := by
  simp only [destFree, query_eq, wouldMove, staysPut]
  by_cases h2 : ((w.stOf a).pos.1 + d.1, (w.stOf a).pos.2 + d.2) = (w.stOf a).pos <;>
    cases w.inGrid ((w.stOf a).pos.1 + d.1, (w.stOf a).pos.2 + d.2) <;> simp [h2]

/-- `w'` is `w` with `a` taken from the cell of its position and put last into the cell of `dst`, as the judge of a move
(`specMoveBy`, success branch) says it clause by clause: what `Grid.remove` followed by `Grid.place` leaves -/
structure Reloc (w : World) (a : Aid) (dst : Pos) (w' : World) : Prop where
  st    : w'.stOf a = { w.stOf a with pos := dst }
  other : ∀ b < w.n, b ≠ a → w'.stOf b = w.stOf b
  from_ : w'.cell (w.stOf a).pos = (w.cell (w.stOf a).pos).erase a
  to_   : w'.cell dst = w.cell dst ++ [a]
  cells : ∀ i < w.rows * w.cols, i ≠ w.idx (w.stOf a).pos → i ≠ w.idx dst → w'.cells.getD i [] = w.cells.getD i []

theorem specMoveBy_iff {w w' : World} {a : Aid} {d : Pos} {ok : Bool} :
    specMoveBy w a d ok w' = true ↔
      ok = w.destFree a d ∧ sameStatic w w' = true ∧
      if ok = true ∧ ((w.stOf a).pos.1 + d.1, (w.stOf a).pos.2 + d.2) ≠ (w.stOf a).pos then
        Reloc w a ((w.stOf a).pos.1 + d.1, (w.stOf a).pos.2 + d.2) w'
      else w' = w := by
  unfold specMoveBy
  simp only [Bool.and_eq_true, beq_iff_eq, bne_iff_ne, ne_eq, and_assoc]
  refine and_congr_right fun _ => and_congr_right fun _ => ?_
  split
  · simp only [Bool.and_eq_true, beq_iff_eq, List.all_eq_true, Bool.or_eq_true, allAgents, allCells, List.mem_range,
      sameAgent, sameCell, and_assoc]
    exact ⟨fun ⟨h1, h2, h3, h4, h5⟩ => ⟨h1, fun b hb hba => ((h2 b hb).resolve_left hba).symm, h3, h4,
        fun i hi h1' h2' => ((h5 i hi).resolve_left (not_or.mpr ⟨h1', h2'⟩)).symm⟩,
      fun h => ⟨h.st, fun b hb => Decidable.or_iff_not_imp_left.mpr fun hba => (h.other b hb hba).symm, h.from_, h.to_,
        fun i hi => Decidable.or_iff_not_imp_left.mpr fun hn => (h.cells i hi (not_or.mp hn).1 (not_or.mp hn).2).symm⟩⟩
  · exact beq_iff_eq

theorem crossAct_eq_moveAct {w : World} {a : Aid} {x : Int} {d : Pos} (hd : crossTable x = some d) :
    w.crossAct a x = w.moveAct a d := by
  simp only [crossAct, moveAct, hd]

theorem crossTable_of_range {x : Int} (h0 : 0 ≤ x) (h4 : x ≤ 4) : ∃ d, crossTable x = some d := by
  have : x = 0 ∨ x = 1 ∨ x = 2 ∨ x = 3 ∨ x = 4 := by omega
  rcases this with h | h | h | h | h <;> subst h <;> exact ⟨_, rfl⟩

open PM

/-- what a call of a move actor for `a` can do to the world: nothing; relocate `a` (a `remove` from the cell of its
stored position that returned, then `place` on another cell of the grid that `query` accepted); the same followed by
a turn -/
inductive MoverStep (w : World) (a : Aid) : World → Prop
  | same : MoverStep w a w
  | moved {w1 : World} {dst : Pos} (hr : w.remove a (w.stOf a).pos = .ok w1) (hin : w.inGrid dst = true)
      (hne : dst ≠ (w.stOf a).pos) (hq : w.query a dst = true) : MoverStep w a (w1.place a dst).2
  | turned {w1 : World} {dst : Pos} {o : Nat} (hr : w.remove a (w.stOf a).pos = .ok w1) (hin : w.inGrid dst = true)
      (hne : dst ≠ (w.stOf a).pos) (hq : w.query a dst = true) (ho : 1 ≤ o ∧ o ≤ 4) :
      MoverStep w a ((w1.place a dst).2.setSt a { (w1.place a dst).2.stOf a with orient := o })

theorem moveBy_ok {w w' : World} {a : Aid} {d : Pos} {b : Bool} (h : w.moveBy a d = .ok (b, w')) :
    (w.wouldMove a d = false ∧ b = w.staysPut a d ∧ w' = w) ∨
    (w.wouldMove a d = true ∧ b = true ∧ ∃ w1, w.remove a (w.stOf a).pos = .ok w1 ∧
      w' = (w1.place a ((w.stOf a).pos.1 + d.1, (w.stOf a).pos.2 + d.2)).2) := by
  rw [moveBy_cases] at h
  split at h
  · rename_i hm
    cases hr : w.remove a (w.stOf a).pos with
    | error e => rw [hr] at h; cases h
    | ok w1 => rw [hr] at h; cases h; exact Or.inr ⟨hm, rfl, w1, rfl, rfl⟩
  · rename_i hm
    cases h
    exact Or.inl ⟨by simpa using hm, rfl, rfl⟩

theorem moveBy_step {w w' : World} {a : Aid} {d : Pos} {b : Bool} (h : w.moveBy a d = .ok (b, w')) :
    MoverStep w a w' := by
  rcases moveBy_ok h with ⟨_, _, rfl⟩ | ⟨hm, _, w1, hr, rfl⟩
  · exact .same
  · obtain ⟨hin, hne, hq⟩ := wouldMove_iff.mp hm
    exact .moved hr hin hne hq

theorem moveAct_ok {w w' : World} {a : Aid} {d : Pos} {r : Option Bool} (h : w.moveAct a d = .ok (r, w')) :
    (r = none ∧ w' = w) ∨ ∃ b, r = some b ∧ w.moveBy a d = .ok (b, w') := by
  unfold moveAct at h
  split at h
  · split at h
    · rename_i b w1 hm
      cases h; exact Or.inr ⟨b, rfl, hm⟩
    · cases h
  · cases h; exact Or.inl ⟨rfl, rfl⟩

theorem moveAct_step {w w' : World} {a : Aid} {d : Pos} {r : Option Bool} (h : w.moveAct a d = .ok (r, w')) :
    MoverStep w a w' := by
  rcases moveAct_ok h with ⟨_, rfl⟩ | ⟨b, _, hm⟩
  · exact .same
  · exact moveBy_step hm

theorem crossAct_ok {w w' : World} {a : Aid} {x : Int} {r : Option Bool} (h : w.crossAct a x = .ok (r, w')) :
    (r = none ∧ w' = w) ∨ ∃ d b, crossTable x = some d ∧ r = some b ∧ w.moveBy a d = .ok (b, w') := by
  cases hd : crossTable x with
  | none =>
    simp only [crossAct, hd] at h
    split at h <;> cases h
    exact Or.inl ⟨rfl, rfl⟩
  | some d =>
    rw [crossAct_eq_moveAct hd] at h
    exact (moveAct_ok h).imp_right fun ⟨b, hb, hm⟩ => ⟨d, b, rfl, hb, hm⟩

theorem crossAct_step {w w' : World} {a : Aid} {x : Int} {r : Option Bool} (h : w.crossAct a x = .ok (r, w')) :
    MoverStep w a w' := by
  rcases crossAct_ok h with ⟨_, rfl⟩ | ⟨d, b, _, _, hm⟩
  · exact .same
  · exact moveBy_step hm

/-- `DriftMoveActor.process_action`, any mover, any action: when the first attempt is not carried out it has
written nothing (its offset is not `(0, 0)`, so it did not answer `True` either), and the second attempt starts from
the world the call was given -/
theorem driftAct_step {w w' : World} {a : Aid} {x : Int} {r : Option Bool} {l : Int}
    (h : w.driftAct a x = .ok (r, w', l)) : MoverStep w a w' := by
  unfold driftAct at h
  simp only at h
  split at h
  · have hdrift : ∀ (r' : Option Bool) (w'' : World) (l' : Int),
        (match w.crossAct a ((w.stOf a).orient : Int) with
         | .ok (b, w1) => Except.ok (b, w1, ((w.stOf a).orient : Int))
         | .error e => .error e) = .ok (r', w'', l') → MoverStep w a w'' := by
      intro r' w'' l' hd
      split at hd
      · rename_i b w1 hc
        cases hd; exact crossAct_step hc
      · cases hd
    by_cases hx0 : x ≠ 0
    · rw [if_pos hx0] at h
      cases hc : w.crossAct a x with
      | error e => rw [hc] at h; cases h
      | ok rw1 =>
        obtain ⟨r1, w1⟩ := rw1
        rw [hc] at h
        rcases crossAct_ok hc with ⟨rfl, rfl⟩ | ⟨d, b, hd, rfl, hm⟩
        · exact hdrift r w' l h
        · rcases moveBy_ok hm with ⟨_, rfl, rfl⟩ | ⟨hmv, rfl, w2, hr, rfl⟩
          · rw [staysPut_of_ne (crossTable_ne_zero hx0 hd)] at h
            exact hdrift r w' l h
          · obtain ⟨hin, hne, hq⟩ := wouldMove_iff.mp hmv
            simp only [Except.ok.injEq, Prod.mk.injEq] at h
            rw [← h.2.1]
            exact .turned hr hin hne hq (crossTable_range hd hx0)
    · rw [if_neg hx0] at h
      exact hdrift r w' l h
  · cases h; exact .same

theorem runMoveCall_step {w : World} {c : MoveCall} {o : MoveOut} (h : runMoveCall w c = .ok o) :
    MoverStep w c.agent o.post := by
  cases c with
  | move a d => obtain ⟨r, hc, rfl⟩ := map_ok h; exact moveAct_step hc
  | cross a x => obtain ⟨r, hc, rfl⟩ := map_ok h; exact crossAct_step hc
  | drift a x => obtain ⟨r, hc, rfl⟩ := map_ok h; exact driftAct_step hc

theorem MoverStep.sframe {w w' : World} {a : Aid} (h : MoverStep w a w') : SFrame w w' := by
  cases h with
  | same => exact SFrame.refl w
  | moved hr _ _ _ => exact (sframe_remove hr).trans (sframe_place _ _ _)
  | turned hr _ _ _ _ =>
    exact ((sframe_remove hr).trans (sframe_place _ _ _)).trans (sframe_setSt _ _ _)

theorem MoverStep.eq_of_not_stored {w w' : World} {a : Aid} (h : MoverStep w a w')
    (hno : a ∉ w.cell (w.stOf a).pos) : w' = w := by
  cases h with
  | same => rfl
  | moved hr _ _ _ => exact absurd (remove_shape hr).1 hno
  | turned hr _ _ _ _ => exact absurd (remove_shape hr).1 hno

theorem stOf_reloc {w w1 : World} {a : Aid} {src dst : Pos} (hr : w.remove a src = .ok w1) (b : Aid) :
    (b ≠ a → (w1.place a dst).2.stOf b = w.stOf b) ∧ ∃ q, (w1.place a dst).2.stOf a = { w.stOf a with pos := q } := by
  refine ⟨fun hb => ?_, ?_⟩
  · rw [stOf_place, if_neg (fun h => hb h.2.1), remove_stOf hr]
  · rw [stOf_place, remove_stOf hr]
    split
    · exact ⟨dst, rfl⟩
    · exact ⟨_, rfl⟩

theorem moveBy_stOf {w w' : World} {a : Aid} {d : Pos} {ok : Bool} (h : w.moveBy a d = .ok (ok, w')) (b : Aid) :
    (b ≠ a → w'.stOf b = w.stOf b) ∧ ∃ q, w'.stOf a = { w.stOf a with pos := q } := by
  rcases moveBy_ok h with ⟨_, _, rfl⟩ | ⟨_, _, w1, hr, rfl⟩
  · exact ⟨fun _ => rfl, _, rfl⟩
  · exact stOf_reloc hr b

theorem MoverStep.stOf {w w' : World} {a : Aid} (h : MoverStep w a w') (b : Aid) :
    (b ≠ a → w'.stOf b = w.stOf b) ∧ ∃ q o, w'.stOf a = { w.stOf a with pos := q, orient := o } := by
  cases h with
  | same => exact ⟨fun _ => rfl, _, _, rfl⟩
  | moved hr _ _ _ =>
    obtain ⟨h1, q, h2⟩ := stOf_reloc hr b
    exact ⟨h1, q, (w.stOf a).orient, h2⟩
  | @turned w1 dst o hr _ _ _ _ =>
    obtain ⟨h1, q, h2⟩ := stOf_reloc (dst := dst) hr b
    refine ⟨fun hb => ?_, ?_⟩
    · rw [stOf_setSt, if_neg (fun h => hb h.1)]; exact h1 hb
    · rw [stOf_setSt]
      split
      · exact ⟨q, o, by rw [h2]⟩
      · exact ⟨q, _, by rw [h2]⟩

theorem MoverStep.active {w w' : World} {a : Aid} (h : MoverStep w a w') (b : Aid) :
    (w'.stOf b).active = (w.stOf b).active := by
  obtain ⟨hne, q, o, ha⟩ := h.stOf b
  by_cases hb : b = a
  · rw [hb, ha]
  · rw [hne hb]

theorem moveBy_returns {w : World} {a : Aid} (hm : a ∈ w.cell (w.stOf a).pos) (d : Pos) :
    ∃ b w', w.moveBy a d = .ok (b, w') ∧ (b = false → w' = w) := by
  rw [moveBy_cases, remove, if_pos hm]
  split
  · exact ⟨_, _, rfl, nofun⟩
  · exact ⟨_, _, rfl, fun _ => rfl⟩

theorem crossAct_returns {w : World} {a : Aid} (hm : a ∈ w.cell (w.stOf a).pos) (hmv : (w.cfgOf a).moving = true)
    {x : Int} (h0 : 0 ≤ x) (h4 : x ≤ 4) : ∃ b w', w.crossAct a x = .ok (some b, w') ∧ (b = false → w' = w) := by
  obtain ⟨d, hd⟩ := crossTable_of_range h0 h4
  obtain ⟨b, w', h, hb⟩ := moveBy_returns hm d
  exact ⟨b, w', by simp only [crossAct, hmv, if_true, hd, h], hb⟩

/-- a first attempt that answered `False` has written nothing, so the second finds the agent stored too -/
theorem driftAct_returns {w : World} {a : Aid} (hm : a ∈ w.cell (w.stOf a).pos)
    (hmv : ((w.cfgOf a).moving && (w.cfgOf a).hasOrient) = true)
    (hor : 1 ≤ (w.stOf a).orient ∧ (w.stOf a).orient ≤ 4) {x : Int} (h0 : 0 ≤ x) (h4 : x ≤ 4) :
    ∃ b w' l, w.driftAct a x = .ok (some b, w', l) := by
  have hmoving : (w.cfgOf a).moving = true := (Bool.and_eq_true _ _ ▸ hmv).1
  have hdrift : ∃ b w' l, (match w.crossAct a ((w.stOf a).orient : Int) with
       | .ok (b, w1) => Except.ok (b, w1, ((w.stOf a).orient : Int))
       | .error e => .error e) = .ok (some b, w', l) := by
    obtain ⟨b, w', hc, _⟩ := crossAct_returns hm hmoving (x := ((w.stOf a).orient : Int)) (by omega) (by omega)
    exact ⟨b, w', _, by rw [hc]⟩
  unfold driftAct
  simp only [hmv, if_true]
  by_cases hx0 : x ≠ 0
  · rw [if_pos hx0]
    obtain ⟨b, w1, hc, hb⟩ := crossAct_returns hm hmoving h0 h4
    rw [hc]
    cases b with
    | true => exact ⟨true, _, x, rfl⟩
    | false => simp only; rw [hb rfl]; exact hdrift
  · rw [if_neg hx0]; exact hdrift

theorem ext_of_getD {w w1 w2 : World} (h1 : sameStatic w w1 = true) (h2 : sameStatic w w2 = true)
    (hc : ∀ i < w.cells.length, w1.cells.getD i [] = w2.cells.getD i [])
    (hs : ∀ b < w.st.length, w1.stOf b = w2.stOf b) : w1 = w2 := by
  obtain ⟨a1, a2, a3, a4, a5, a6⟩ := (sameStatic_iff _ _).mp h1
  obtain ⟨b1, b2, b3, b4, b5, b6⟩ := (sameStatic_iff _ _).mp h2
  cases w1; cases w2
  simp only at a1 a2 a3 a4 a5 a6 b1 b2 b3 b4 b5 b6 hc hs
  simp only [World.mk.injEq]
  refine ⟨a1.symm.trans b1, a2.symm.trans b2, a3.symm.trans b3,
    getD_ext [] (a5.symm.trans b5) (fun i hi => hc i (by rw [b5]; exact hi)), a4.symm.trans b4,
    getD_ext {} (a6.symm.trans b6) (fun b hb => hs b (by rw [b6]; exact hb))⟩

theorem reloc_of_moved {w w1 : World} {a : Aid} {dst : Pos} (hC : CInv w) (hr : w.remove a (w.stOf a).pos = .ok w1)
    (hin : w.inGrid dst = true) (hne : dst ≠ (w.stOf a).pos) (hq : w.query a dst = true) :
    sameStatic w (w1.place a dst).2 = true ∧ Reloc w a dst (w1.place a dst).2 := by
  rw [place_eq (query_of_remove hC hr hq) (nowhere_remove hC hr _)]
  obtain ⟨ha, hinS, _⟩ := hC.occ _ a (remove_shape hr).1
  have hc1 : w1.cells = w.cells.set (w.idx (w.stOf a).pos) ((w.cell (w.stOf a).pos).erase a) := by
    rw [(remove_shape hr).2]
  have hi1 : ∀ p, w1.idx p = w.idx p := (sframe_remove hr).sameG.idx
  have hidx : w.idx dst ≠ w.idx (w.stOf a).pos := fun e => hne (idx_inj hin hinS e)
  have hsl : w.idx (w.stOf a).pos < w.cells.length := by rw [hC.lenC]; exact idx_lt hinS
  have hdl : w1.idx dst < w1.cells.length := by rw [hc1, hi1, List.length_set, hC.lenC]; exact idx_lt hin
  refine ⟨sameStatic_of_sframe ((sframe_remove hr).trans (sframe_placed w1 a dst)) (by simp [placedWorld, hc1]),
    by rw [stOf_placed_same dst (by rw [(sframe_remove hr).len, hC.lenS]; exact ha), remove_stOf hr],
    fun b _ hb => by rw [stOf_placed_ne dst hb, remove_stOf hr], ?_, ?_, fun i _ h1 h2 => ?_⟩
  · show (placedWorld w1 a dst).cells.getD (w1.idx (w.stOf a).pos) [] = _
    rw [cells_placed_ne w1 a dst _ (by rw [hi1, hi1]; exact hidx.symm), hi1, hc1, getD_set_same _ _ _ _ hsl]
  · show (placedWorld w1 a dst).cells.getD (w1.idx dst) [] = _
    rw [cells_placed_same w1 a dst hdl, cell, hi1, hc1, getD_set_ne _ _ _ _ _ hidx.symm]; rfl
  · rw [cells_placed_ne w1 a dst i (by rw [hi1]; exact h2), hc1, getD_set_ne _ _ _ _ _ (Ne.symm h1)]

theorem Reloc.unique {w w1 w2 : World} {a : Aid} {dst : Pos} (hlenC : w.cells.length = w.rows * w.cols)
    (hlenS : w.st.length = w.n) (h1 : sameStatic w w1 = true) (h2 : sameStatic w w2 = true) (r1 : Reloc w a dst w1)
    (r2 : Reloc w a dst w2) : w1 = w2 := by
  have hcell : ∀ {w' : World} (_ : sameStatic w w' = true) p, w'.cell p = w'.cells.getD (w.idx p) [] := fun h p => by
    simp only [cell, idx, ((sameStatic_iff _ _).mp h).2.1]
  refine ext_of_getD h1 h2 (fun i hi => ?_) (fun b hb => ?_)
  · by_cases e1 : i = w.idx (w.stOf a).pos
    · rw [e1, ← hcell h1, ← hcell h2, r1.from_, r2.from_]
    · by_cases e2 : i = w.idx dst
      · rw [e2, ← hcell h1, ← hcell h2, r1.to_, r2.to_]
      · rw [r1.cells i (hlenC ▸ hi) e1 e2, r2.cells i (hlenC ▸ hi) e1 e2]
  · by_cases e : b = a
    · rw [e, r1.st, r2.st]
    · rw [r1.other b (hlenS ▸ hb) e, r2.other b (hlenS ▸ hb) e]

/-- no other outcome is accepted: `specMoveBy` fixes the answer, the static part, every cell and every agent's state
(`Reloc.unique`) -/
theorem specMoveBy_iff_moveBy {w w' : World} {a : Aid} {d : Pos} {ok : Bool} (hC : CInv w)
    (hm : a ∈ w.cell (w.stOf a).pos) :
    specMoveBy w a d ok w' = true ↔ w.moveBy a d = .ok (ok, w') := by
  rw [specMoveBy_iff, moveBy_cases, destFree_eq]
  cases hmv : w.wouldMove a d with
  | true =>
    obtain ⟨hin, hne, hq⟩ := wouldMove_iff.mp hmv
    have hr := remove_of_mem hm
    obtain ⟨hs0, hr0⟩ := reloc_of_moved hC hr hin hne hq
    simp only [hr, Except.map, Bool.true_or, if_true, Except.ok.injEq, Prod.mk.injEq]
    constructor
    · rintro ⟨rfl, hs, h⟩
      rw [if_pos ⟨rfl, hne⟩] at h
      exact ⟨rfl, Reloc.unique hC.lenC hC.lenS hs0 hs hr0 h⟩
    · rintro ⟨rfl, rfl⟩
      exact ⟨rfl, hs0, by rw [if_pos ⟨rfl, hne⟩]; exact hr0⟩
  | false =>
    -- nothing is written, and the answer is `True` for the trivial move only
    have hst : w.staysPut a d = true → ((w.stOf a).pos.1 + d.1, (w.stOf a).pos.2 + d.2) = (w.stOf a).pos := fun h => by
      simp only [staysPut, Bool.and_eq_true, decide_eq_true_eq] at h; exact h.2
    simp only [Bool.false_or, Bool.false_eq_true, if_false, Except.ok.injEq, Prod.mk.injEq]
    constructor
    · rintro ⟨rfl, _, h⟩
      rw [if_neg fun hh => hh.2 (hst hh.1)] at h
      exact ⟨rfl, h.symm⟩
    · rintro ⟨rfl, rfl⟩
      exact ⟨rfl, sameStatic_refl w, by rw [if_neg fun hh => hh.2 (hst hh.1)]⟩

end World

open World

/-- `specDrift` judges the outcome of a turn with the old orientation put back -/
theorem setSt_back {w1 : World} {a : Aid} (x o : Nat) (ha : a < w1.st.length)
    (ho : (w1.stOf a).orient = o) :
    (w1.setSt a { w1.stOf a with orient := x }).setSt a
      { (w1.setSt a { w1.stOf a with orient := x }).stOf a with orient := o } = w1 := by
  rw [stOf_setSt_same _ _ _ ha, setSt, setSt, List.set_set, ← ho]
  exact setSt_self w1 a

end Abmarl
