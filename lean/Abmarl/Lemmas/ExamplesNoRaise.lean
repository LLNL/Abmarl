import Abmarl.Lemmas.ExamplesHist
import Abmarl.Lemmas.DoneSmart
/-!
# A `step` of a packaged example with in-space actions does not raise

Under `LedgerFull` (every learning agent has a reward entry, ExamplesHist.lean) no accrual raises (`accrue_ok`), and
with in-space items (`ItemOK`, `StepOK`) no pass of any loop of `step` does (`stepPS_ok`). The move pass, the penalty
pass and the attack pass are proved over an abstract state of the loop (`Loop`, `AttackKeeps`: an invariant of the
world under which the actors return and which they keep, an invariant of the reward dict); the classes with and
without `if agent.active:` are two instances, `ReachTheTargetSim` (`RT.loop_weak`) and `BroadcastSim` (`BC.loop_all`)
two more. So `step` returns from a good state with a full ledger (`step_ok`); that every reachable state is one is
`Ex.runOp_live` (ExamplesHist.lean).
-/
namespace Abmarl
open World
namespace Ex

theorem accrue_ok {cfg : Cfg} {n : Nat} {r : Ledger} (hL : LedgerFull cfg n r) {a : Aid} (ha : a < n)
    (hl : cfg.isLearning a = true) (x : Int) : ∃ r', accrue r a x = .ok r' ∧ LedgerFull cfg n r' := by
  unfold accrue
  cases hlk : r.lookup a with
  | none => have := hL a ha hl; rw [hlk] at this; cases this
  | some v => exact ⟨_, rfl, hL.dictSet a (v + x)⟩

theorem inSpace_attack_sframe {w0 w : World} (hF : SFrame w0 w) (cfg : AttackCfg) (a : Aid) (act : AttackAct) :
    inSpace cfg w a act = inSpace cfg w0 a act := by
  simp only [inSpace, hF.sameG.cfgOf, hF.sameG.encOf]

/-- the agents whose reward entry the loops of `step` write: the learning agents of the simulation -/
def Learner (cfg : Cfg) (w0 : World) (a : Aid) : Prop := a < w0.n ∧ cfg.isLearning a = true

/-- what a loop of `step` needs of its state so that a move pass returns: under `W` (of the world) `MoveActor` returns
for an active agent in `K` and keeps `W`; under `L` (of the reward dict) an accrual for an agent in `K` returns and
keeps `L`. -/
structure Loop (W : World → Prop) (L : Ledger → Prop) (K : Aid → Prop) : Prop where
  lt : ∀ {w : World} {a : Aid}, W w → K a → a < w.n
  move : ∀ {w : World} {a : Aid} (d : Pos), W w → K a → (w.stOf a).active = true →
    ∃ res w', w.moveAct a d = .ok (res, w') ∧ W w'
  acc : ∀ {r : Ledger} {a : Aid} (x : Int), L r → K a → ∃ r', accrue r a x = .ok r' ∧ L r'

structure PSIn (W : World → Prop) (L : Ledger → Prop) (p : PS) : Prop where
  w : W p.w
  r : L p.r

section loop
variable {W : World → Prop} {L : Ledger → Prop} {K : Aid → Prop} (hC : Loop W L K) {p : PS}
include hC

theorem Loop.moveAcc {a : Aid} (hP : PSIn W L p) (ha : K a) (hact : (p.w.stOf a).active = true) (d : Pos) :
    ∃ p', moveAcc p a d = .ok p' ∧ PSIn W L p' := by
  obtain ⟨res, w', hm, hW'⟩ := hC.move d hP.w ha hact
  unfold Ex.moveAcc
  simp only [hm]
  split
  · exact ⟨_, rfl, hW', hP.r⟩
  · obtain ⟨r', h1, hL'⟩ := hC.acc (-10) hP.r ha
    exact ⟨⟨w', r', p.t⟩, by simp only [h1, Except.map], hW', hL'⟩

theorem Loop.moveGuarded1 {x : Aid × Act} (hP : PSIn W L p) (hx : K x.1) :
    ∃ p', moveGuarded1 p x = .ok p' ∧ PSIn W L p' := by
  unfold Ex.moveGuarded1
  rw [if_neg (Nat.not_le.mpr (hC.lt hP.w hx))]
  by_cases hact : (p.w.stOf x.1).active = true
  · rw [if_pos hact]
    exact hC.moveAcc hP hx hact x.2.move
  · rw [if_neg hact]
    exact ⟨p, rfl, hP⟩

theorem Loop.entropy1 {x : Aid × Act} (hP : PSIn W L p) (hx : K x.1) :
    ∃ p', entropy1 p x = .ok p' ∧ PSIn W L p' := by
  obtain ⟨r', h1, hL'⟩ := hC.acc (-1) hP.r hx
  exact ⟨⟨p.w, r', p.t⟩, by simp only [Ex.entropy1, h1, Except.map], hP.w, hL'⟩

end loop

/-- what one item of the action dict has to satisfy (seen from the constructed world) -/
structure ItemOK (cfg : Cfg) (w0 : World) (x : Aid × Act) : Prop where
  lt : x.1 < w0.n
  learning : cfg.isLearning x.1 = true
  move : (MoveCall.move x.1 x.2.move).inSpace w0 = true
  attack : (cfg.which = .teamBattle ∨ cfg.which = .predatorPrey) → (w0.cfgOf x.1).attacking = true →
    inSpace cfg.attack w0 x.1 x.2.attack = true

theorem ItemOK.learner {cfg : Cfg} {w0 : World} {x : Aid × Act} (h : ItemOK cfg w0 x) : Learner cfg w0 x.1 :=
  ⟨h.lt, h.learning⟩

theorem kill_ok {cfg : Cfg} {w0 : World} (w' : World) (a : Aid) (ha : a < w0.n) (hl : cfg.isLearning a = true)
    (r : Ledger) (v : Aid) (hr : LedgerFull cfg w0.n r) (hv : v < w0.n) :
    ∃ r', (if cfg.which == .predatorPrey then preyKill cfg w' a else teamKill cfg w' a) r v = .ok r' ∧
      LedgerFull cfg w0.n r' := by
  split
  · simp only [preyKill]
    split
    · obtain ⟨r1, h1, hf1⟩ := accrue_ok hr ha hl 100
      simp only [h1]
      split
      · rename_i hlv
        exact accrue_ok hf1 hv hlv (-100)
      · exact ⟨r1, rfl, hf1⟩
    · exact ⟨r, rfl, hr⟩
  · simp only [teamKill]
    split
    · by_cases hlv : cfg.isLearning v = true
      · obtain ⟨r1, h1, hf1⟩ := accrue_ok hr hv hlv (-100)
        obtain ⟨r2, h2, hf2⟩ := accrue_ok hf1 ha hl 100
        exact ⟨r2, by simp only [hlv, if_true, h1, h2], hf2⟩
      · obtain ⟨r2, h2, hf2⟩ := accrue_ok hr ha hl 100
        exact ⟨r2, by simp only [hlv, Bool.false_eq_true, if_false, h2], hf2⟩
    · exact ⟨r, rfl, hr⟩

/-- what an attack pass needs of `W`.  Not a field of `Loop`: an attack does not keep "nobody is dead", the `W` of the
classes without an attack actor. -/
def AttackKeeps (acfg : AttackCfg) (w0 : World) (W : World → Prop) : Prop :=
  ∀ {w : World} {a : Aid} (act : AttackAct) (t : Tape), W w → a < w0.n → (w.stOf a).active = true →
    ((w0.cfgOf a).attacking = true → inSpace acfg w0 a act = true) →
    ∃ st H w' t', processAttack acfg w a act t = .ok ((st, H), w', t') ∧ (∀ v ∈ H, v < w0.n) ∧ W w'

theorem attack1_okW {cfg : Cfg} {w0 : World} {W : World → Prop}
    (hC : Loop W (LedgerFull cfg w0.n) (Learner cfg w0)) (hA : AttackKeeps cfg.attack w0 W)
    (hw : cfg.which = .teamBattle ∨ cfg.which = .predatorPrey) {p : PS} {x : Aid × Act}
    (hP : PSIn W (LedgerFull cfg w0.n) p) (hx : ItemOK cfg w0 x) :
    ∃ p', attack1 cfg p x = .ok p' ∧ PSIn W (LedgerFull cfg w0.n) p' := by
  unfold attack1
  rw [if_neg (Nat.not_le.mpr (hC.lt hP.w hx.learner))]
  by_cases hact : (p.w.stOf x.1).active = true
  · rw [if_pos hact]
    obtain ⟨st, H, w', t', hp, hH, hW'⟩ := hA x.2.attack p.t hP.w hx.lt hact (hx.attack hw)
    simp only [hp]
    by_cases hst : st = true
    · simp only [hst, if_true]
      by_cases hemp : H.isEmpty = true
      · rw [if_pos hemp]
        obtain ⟨r', h1, hf⟩ := accrue_ok hP.r hx.lt hx.learning (-10)
        exact ⟨⟨w', r', t'⟩, by simp only [h1, Except.map], hW', hf⟩
      · rw [if_neg hemp]
        obtain ⟨r', h1, hf⟩ := foldE_ok
          (if cfg.which == .predatorPrey then preyKill cfg w' x.1 else teamKill cfg w' x.1)
          (LedgerFull cfg w0.n) (fun v => v < w0.n)
          (fun r v hr hv => kill_ok w' x.1 hx.lt hx.learning r v hr hv) H p.r hP.r hH
        exact ⟨⟨w', r', t'⟩, by simp only [h1, Except.map], hW', hf⟩
    · simp only [hst, Bool.false_eq_true, if_false]
      exact ⟨⟨w', p.r, t'⟩, rfl, hW', hP.r⟩
  · rw [if_neg hact]
    exact ⟨p, rfl, hP⟩

theorem XInv.move {w0 w : World} (hX : XInv w0 w) {a : Aid} (ha : a < w0.n) (hact : (w.stOf a).active = true)
    (d : Pos) : ∃ res w', w.moveAct a d = .ok (res, w') ∧ XInv w0 w' :=
  have ⟨res, w', hm, _⟩ := moveAct_invV (fun _ _ => trivial) d ((WInv_iff_InvV w).mp hX.inv)
    (by rw [hX.frame.sameG.n]; exact ha) hact
  ⟨res, w', hm, hX.call (atk := False) (.move hm)⟩

theorem XInvA.move {w0 w : World} (hX : XInvA w0 w) {a : Aid} (ha : a < w0.n) (hact : (w.stOf a).active = true)
    (d : Pos) : ∃ res w', w.moveAct a d = .ok (res, w') ∧ XInvA w0 w' :=
  have ⟨res, w', hm, _⟩ := hX.toXInv.move ha hact d
  ⟨res, w', hm, hX.call (.move hm)⟩

/-- the classes with `if agent.active:` -/
theorem loop_xinv (cfg : Cfg) (w0 : World) : Loop (XInv w0) (LedgerFull cfg w0.n) (Learner cfg w0) where
  lt := fun hX ha => by rw [hX.frame.sameG.n]; exact ha.1
  move := fun d hX ha hact => hX.move ha.1 hact d
  acc := fun x hL ha => accrue_ok hL ha.1 ha.2 x

/-- the classes without it -/
theorem loop_xinvA (cfg : Cfg) (w0 : World) : Loop (XInvA w0) (LedgerFull cfg w0.n) (Learner cfg w0) where
  lt := fun hX ha => by rw [hX.frame.sameG.n]; exact ha.1
  move := fun d hX ha hact => hX.move ha.1 hact d
  acc := fun x hL ha => accrue_ok hL ha.1 ha.2 x

/-- the attack actor in a world of the invariant (C11), which it keeps (C03) -/
theorem attackKeeps_xinv (acfg : AttackCfg) (w0 : World) : AttackKeeps acfg w0 (XInv w0) := by
  intro w a act t hX ha hact hsp
  obtain ⟨st, H, w', t', hp, hH⟩ := processAttack_returns (cfg := acfg) (a := a) (act := act) t hX.inv fun hatt => by
    rw [inSpace_attack_sframe hX.frame]
    exact hsp (by rw [← hX.frame.sameG.cfgOf]; exact hatt)
  exact ⟨st, H, w', t', hp, fun v hv => by rw [← hX.frame.sameG.n]; exact hH v hv, hX.call (.attack trivial hp)⟩

theorem stepBattle_ok {cfg : Cfg} {w0 : World} (hw : cfg.which = .teamBattle ∨ cfg.which = .predatorPrey)
    (p : PS) (acts : List (Aid × Act)) (hP : PSIn (XInv w0) (LedgerFull cfg w0.n) p)
    (hA : ∀ x ∈ acts, ItemOK cfg w0 x) : ∃ p', stepBattle cfg p acts = .ok p' := by
  have hC := loop_xinv cfg w0
  obtain ⟨p1, h1, hP1⟩ := foldE_ok (attack1 cfg) _ (ItemOK cfg w0)
    (fun _ _ hP hx => attack1_okW hC (attackKeeps_xinv cfg.attack w0) hw hP hx) acts p hP hA
  obtain ⟨p2, h2, hP2⟩ := foldE_ok moveGuarded1 _ (ItemOK cfg w0)
    (fun _ _ hP hx => hC.moveGuarded1 hP hx.learner) acts p1 hP1 hA
  obtain ⟨p3, h3, _⟩ := foldE_ok entropy1 _ (ItemOK cfg w0) (fun _ _ hP hx => hC.entropy1 hP hx.learner) acts p2 hP2 hA
  exact ⟨p3, by simp only [stepBattle, h1, h2, h3]⟩

theorem moveAccA_ok {cfg : Cfg} {w0 : World} {p : PS} {a : Aid} (hP : PSIn (XInvA w0) (LedgerFull cfg w0.n) p)
    (ha : Learner cfg w0 a) (d : Pos) : ∃ p', moveAcc p a d = .ok p' ∧ PSIn (XInvA w0) (LedgerFull cfg w0.n) p' :=
  have hC := loop_xinvA cfg w0
  hC.moveAcc hP ha (hP.w.alive a (hC.lt hP.w ha)).2.2 d

theorem multi1_ok {cfg : Cfg} {w0 : World} (p : PS) (x : Aid × Act)
    (hP : PSIn (XInvA w0) (LedgerFull cfg w0.n) p) (hx : ItemOK cfg w0 x) :
    ∃ p', multi1 cfg p x = .ok p' ∧ PSIn (XInvA w0) (LedgerFull cfg w0.n) p' := by
  have hn : p.w.n = w0.n := hP.w.frame.sameG.n
  obtain ⟨p1, h1, hP1⟩ := moveAccA_ok hP hx.learner x.2.move
  have hn1 : p1.w.n = w0.n := hP1.w.frame.sameG.n
  have hd : multiDone cfg p1.w x.1 = .ok (decide (p1.w.posOf x.1 = p1.w.posOf cfg.target)) := by
    simp only [multiDone, hn1, hx.lt, if_true]
  unfold multi1
  rw [if_neg (Nat.not_le.mpr (by rw [hn]; exact hx.lt))]
  simp only [h1, hd]
  cases decide (p1.w.posOf x.1 = p1.w.posOf cfg.target) with
  | true =>
    obtain ⟨r1, h2, hf1⟩ := accrue_ok hP1.r hx.lt hx.learning 100
    obtain ⟨r2, h3, hf2⟩ := accrue_ok hf1 hx.lt hx.learning (-1)
    exact ⟨⟨p1.w, r2, p1.t⟩, by simp only [if_true, h2, h3, Except.map], ⟨hP1.w, hf2⟩⟩
  | false =>
    obtain ⟨r2, h3, hf2⟩ := accrue_ok hP1.r hx.lt hx.learning (-1)
    exact ⟨⟨p1.w, r2, p1.t⟩, by simp only [Bool.false_eq_true, if_false, h3, Except.map], ⟨hP1.w, hf2⟩⟩

/-- the done components `TrafficCorridorSimulation.step` consults answer for the acting agent -/
def DoneTotalFor (cfg : Cfg) (a : Aid) : Prop :=
  ∃ ds, cfg.dones = some ds ∧ ∀ c ∈ ds,
    match c with
    | .targetOverlap m | .targetInactive m => (m.lookup a).isSome = true
    | _ => True

theorem smartDone_ok {cfg : Cfg} {w : World} {a : Aid} (ha : a < w.n) (hd : DoneTotalFor cfg a) :
    ∃ b, smartDone cfg w a = .ok b := by
  obtain ⟨ds, hds, hall⟩ := hd
  unfold smartDone
  simp only [hds, ha, if_true]
  refine (anyLazy_total_iff _ ds fun c hc => ?_).imp fun _ h => h.1
  have := hall c hc
  cases c with
  | active => exact ⟨_, rfl⟩
  | oneTeam => exact ⟨_, rfl⟩
  | targetEncoding m one =>
    simp only [Done.getDone]
    cases m.lookup (w.encOf a) <;> exact ⟨_, rfl⟩
  | targetOverlap m =>
    obtain ⟨t, ht⟩ := Option.isSome_iff_exists.mp this
    exact ⟨_, overlapDone_of_lookup w ht⟩
  | targetInactive m =>
    obtain ⟨t, ht⟩ := Option.isSome_iff_exists.mp this
    exact ⟨_, inactiveDone_of_lookup w ht⟩

theorem traffic1_ok {cfg : Cfg} {w0 : World} (p : PS) (x : Aid × Act)
    (hP : PSIn (XInvA w0) (LedgerFull cfg w0.n) p) (hx : ItemOK cfg w0 x ∧ DoneTotalFor cfg x.1) :
    ∃ p', traffic1 cfg p x = .ok p' ∧ PSIn (XInvA w0) (LedgerFull cfg w0.n) p' := by
  have hn : p.w.n = w0.n := hP.w.frame.sameG.n
  obtain ⟨p1, h1, hP1⟩ := moveAccA_ok hP hx.1.learner x.2.move
  have hn1 : p1.w.n = w0.n := hP1.w.frame.sameG.n
  obtain ⟨b, hb⟩ := smartDone_ok (cfg := cfg) (w := p1.w) (a := x.1) (by rw [hn1]; exact hx.1.lt) hx.2
  unfold traffic1
  rw [if_neg (Nat.not_le.mpr (by rw [hn]; exact hx.1.lt))]
  simp only [h1, hb]
  cases b with
  | true =>
    obtain ⟨r', h2, hf⟩ := accrue_ok hP1.r hx.1.lt hx.1.learning 100
    exact ⟨⟨p1.w, r', p1.t⟩, by simp only [h2, Except.map], ⟨hP1.w, hf⟩⟩
  | false => exact ⟨p1, rfl, hP1⟩

theorem stepMaze_ok {cfg : Cfg} {w0 : World} (p : PS) (acts : List (Aid × Act))
    (hP : PSIn (XInvA w0) (LedgerFull cfg w0.n) p) (act : Act) (hl : acts.lookup cfg.navigator = some act)
    (hx : ItemOK cfg w0 (cfg.navigator, act)) : ∃ p', stepMaze cfg p acts = .ok p' := by
  obtain ⟨p1, h1, hP1⟩ := moveAccA_ok hP hx.learner act.move
  unfold stepMaze
  simp only [hl, h1]
  by_cases hd : mazeDone cfg p1.w = true
  · obtain ⟨r1, h2, hf1⟩ := accrue_ok hP1.r hx.lt hx.learning 100
    obtain ⟨r2, h3, _⟩ := accrue_ok hf1 hx.lt hx.learning (-1)
    exact ⟨⟨p1.w, r2, p1.t⟩, by simp only [hd, if_true, h2, h3, Except.map]⟩
  · obtain ⟨r2, h3, _⟩ := accrue_ok hP1.r hx.lt hx.learning (-1)
    exact ⟨⟨p1.w, r2, p1.t⟩, by simp only [hd, Bool.false_eq_true, if_false, h3, Except.map]⟩

/-- **the hypotheses under which `step` must not raise**: every item of the action dict is a point of
the declared action space of a learning agent of the simulation (`ItemOK`: the agent exists, is a
learning agent — it has a reward entry —, its move is in the declared `move` space and, if it can
attack, its attack in the declared `attack` space) — nothing more for `TeamBattleSim`,
`PredatorPreyResourcesSim` and `MultiMazeNavigationSim`; `MazeNavigationSim`: the dict
has an item for the navigator (the class reads `action_dict['navigator']` unconditionally);
`TrafficCorridorSimulation`: the done components answer for the acting agents (its `step` calls
`self.get_done(agent_id)`; a `TargetAgentOverlapDone` without an entry for the agent raises) -/
def StepOK (cfg : Cfg) (w0 : World) (acts : List (Aid × Act)) : Prop :=
  (∀ x ∈ acts, ItemOK cfg w0 x) ∧
  (cfg.which = .mazeNav → ∃ act, acts.lookup cfg.navigator = some act ∧ ItemOK cfg w0 (cfg.navigator, act)) ∧
  (cfg.which = .traffic → ∀ x ∈ acts, DoneTotalFor cfg x.1)

theorem stepPS_ok {cfg : Cfg} {w0 : World} (p : PS) (acts : List (Aid × Act))
    (hI : Inv cfg w0 p.w) (hL : LedgerFull cfg w0.n p.r) (hS : StepOK cfg w0 acts) :
    ∃ p', stepPS cfg p acts = .ok p' := by
  obtain ⟨hitems, hmaze, htr⟩ := hS
  unfold stepPS
  unfold Inv at hI
  cases hc : cfg.which <;> rw [hc] at hI <;> simp only at hI ⊢
  · exact stepBattle_ok (Or.inl hc) p acts ⟨hI, hL⟩ hitems
  · exact stepBattle_ok (Or.inr hc) p acts ⟨hI, hL⟩ hitems
  · obtain ⟨act, hl, hx⟩ := hmaze hc
    exact stepMaze_ok p acts ⟨hI, hL⟩ act hl hx
  · obtain ⟨p', h, _⟩ := foldE_ok (multi1 cfg) _ (ItemOK cfg w0) multi1_ok acts p ⟨hI, hL⟩ hitems
    exact ⟨p', h⟩
  · obtain ⟨p', h, _⟩ := foldE_ok (traffic1 cfg) _ (fun x => ItemOK cfg w0 x ∧ DoneTotalFor cfg x.1)
      traffic1_ok acts p ⟨hI, hL⟩ (fun x hx => ⟨hitems x hx, htr hc x hx⟩)
    exact ⟨p', h⟩

theorem step_ok {cfg : Cfg} {w0 : World} (s : St) (hG : Good cfg w0 s) {r : Ledger}
    (hr : s.rewards = some r) (hF : LedgerFull cfg w0.n r) (acts : List (Aid × Act)) (hS : StepOK cfg w0 acts) :
    ∃ s', step cfg s acts = .ok s' := by
  obtain ⟨p', hp⟩ := stepPS_ok ⟨s.w, r, s.tape⟩ acts (good_inv hG hr) hF hS
  exact ⟨{ w := p'.w, rewards := some p'.r, tape := p'.t }, by simp only [step, hr, hp]⟩

end Ex
end Abmarl
