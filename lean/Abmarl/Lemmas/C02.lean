import Abmarl.Spec.Membership
import Abmarl.Props.C03
import Abmarl.Props.C09
/-!
# C02 lemmas (grid part): reachable worlds, the observers in a `WInv` world, null points

`Reachable` packs the hypotheses of `C03_reachable`, which the theorems of `Props/C02.lean` list one by one (`cs0`,
`t0`, `ops`, `FullReset`, `ResetsFull`, the run), to use `reachable_inv`.  `getObs_declared` is C09's chain for `WInv`:
every observer returns a member of the space it declared.  The null points are members of the declared spaces
(`nullObs_declared`, `nullMove_inSpace`, `nullAttack_inSpace`).
-/
namespace Abmarl
open World

/-- `w` is reachable from the constructed world `w0`: a first full reset, then any history of moves,
attacks and further full resets that ran to its end -/
def Reachable (w0 w : World) : Prop :=
  ∃ (cs0 : List StateComp) (t0 : Tape) (ops : List (GOp × Tape)),
    FullReset w0 cs0 ∧ ResetsFull w0 ops ∧ runGOps w0 ((.reset cs0, t0) :: ops) = .ok w

theorem reachable_inv {w0 w : World} (hcfg : CfgOK w0) (hn : NoAmmoC w0) (h : Reachable w0 w) :
    SFrame w0 w ∧ w.WInv = true := by
  obtain ⟨cs0, t0, ops, h0, hR, h⟩ := h
  exact runGOps_start hcfg _ w0 w (resetsFull_cons h0 hR) (SFrame.refl w0) (Or.inr ⟨hn, rfl⟩) h

theorem reachable_snoc {w0 w w' : World} {op : GOp} {t : Tape} (h : Reachable w0 w)
    (hfull : ∀ cs, op = .reset cs → FullReset w0 cs) (hop : runGOp w t op = .ok w') :
    Reachable w0 w' := by
  obtain ⟨cs0, t0, ops, h0, hR, h⟩ := h
  exact ⟨cs0, t0, ops ++ [(op, t)], h0, resetsFull_snoc hR hfull,
    runGOps_snoc (ops := (.reset cs0, t0) :: ops) h hop⟩

namespace Observers

theorem getObs_declared (w : World) (a : Aid) (k : Kind) (t : Tape) (hI : w.WInv = true) (ha : a < w.n)
    (hpos : w.inGrid (w.stOf a).pos = true) (henc : ∀ b < w.n, 0 < w.encOf b)
    (hammo : 0 ≤ (w.cfgOf a).initAmmo) :
    ∃ o t', getObs w a k t = .ok (o, t') ∧ declared w a k o = true :=
  (ObsInv.of_WInv hI).getObs_declared a k t ha hpos henc hammo

theorem specTab_const {β : Type} (n m : Nat) (p : Nat → Nat → β → Bool) (v : β) (h : ∀ i j, p i j v = true) :
    specTab n m p (tab n m fun _ _ => v) = true :=
  (specTab_iff ..).mpr (TabP_tab _ _ _ _ fun i _ j _ => h i j)

theorem nullObs_declared (w : World) (a : Aid) (k : Kind) (ha : a < w.n)
    (henc : ∀ b < w.n, 0 < w.encOf b) (hrows : 0 < w.rows) (hcols : 0 < w.cols)
    (hammo : 0 ≤ (w.cfgOf a).initAmmo) :
    declared w a k (nullObs w a k) = true := by
  have hE := maxEnc_pos w ha henc
  cases k <;> simp only [nullObs, declared, inBox2, topEnc_eq w (Nat.zero_lt_of_lt ha)]
  case absolute | centered =>
    refine specTab_const _ _ _ _ fun _ _ => ?_
    simp only [Bool.and_eq_true, decide_eq_true_eq]
    omega
  case stacked =>
    refine specTab_const _ _ _ _ fun _ _ => ?_
    simp only [List.length_replicate, beq_self_eq_true, Bool.true_and, List.all_replicate, ite_eq_left_iff,
      Bool.and_eq_true, decide_eq_true_eq]
    omega
  case position | ammo =>
    simp only [Bool.and_eq_true, decide_eq_true_eq]
    omega

end Observers

theorem nullMove_inSpace (w : World) (a : Aid) :
    (nullMove a).inSpace w = true ∧ (nullCross a).inSpace w = true ∧ (nullDrift a).inSpace w = true := by
  simp [nullMove, nullCross, nullDrift, MoveCall.inSpace]

/-- `s` is the row of the attack mapping for the attacker's encoding: a Python `set`, hence `Nodup` -/
theorem nullAttack_inSpace (cfg : AttackCfg) (w : World) (a : Aid) {s : List Int}
    (hmap : cfg.mapping.lookup (w.encOf a) = some s) (hs : s.Nodup) :
    inSpace cfg w a (nullAttack cfg w a) = true := by
  unfold inSpace nullAttack
  rw [hmap]
  cases hk : cfg.kind with
  | binary => simp
  | encoding =>
    simp only [Option.getD_some, List.map_map, Bool.and_eq_true, decide_eq_true_eq, List.all_eq_true,
      List.any_eq_true, beq_iff_eq]
    refine ⟨⟨?_, ?_⟩, ?_⟩
    · have : ((fun p : Int × Nat => p.1) ∘ fun e : Int => (e, 0)) = id := by funext e; rfl
      rw [this, List.map_id]; exact hs
    · intro p hp
      obtain ⟨e, he, rfl⟩ := List.mem_map.mp hp
      exact ⟨he, Nat.zero_le _⟩
    · intro e he
      exact ⟨(e, 0), List.mem_map.mpr ⟨e, he, rfl⟩, rfl⟩
  | selective | restricted =>
    simp only [List.length_replicate, beq_self_eq_true, Bool.true_and, List.all_replicate, Nat.zero_le, decide_true,
      ite_self]

end Abmarl
