import Abmarl.Spec.Comm
import Abmarl.Lemmas.Managers
/-!
# C20: the communication wrapper, one call at a time

Each loop of a wrapper step is characterised once (`procReceives_spec`, `procSend1_spec`, `procSends_spec`:
the matrix it leaves is pointwise this function of the action dictionary); the rest is derived from these.
`CInv` links the wrapper's two matrices to the expectations computed from the call history alone.
One call inside the domain re-establishes it (`commRunOp_inv`) and, since it raises nothing and its
entry shows the state after the call, yields an entry that passes the judge `c20Entry` (`commOp_sound`);
`Props/C20.lean` lifts both over call sequences.  `expBuffer_iff`, `expFuse_iff` read the two
expectations without recursion; `comm_lawful` is the functor lemma.
-/
namespace Abmarl
variable {σ α ω ι : Type}

def MShape (n : Nat) (m : Matrix) : Prop := m.length = n ∧ ∀ x, x < n → (m.getD x []).length = n

theorem mzero_shape (n : Nat) : MShape n (mzero n) := by
  refine ⟨by simp [mzero], fun x hx => ?_⟩
  unfold mzero
  rw [getD_replicate _ _ _ _ hx]
  simp

theorem mget_mzero (n x y : Nat) : mget (mzero n) x y = false := by
  unfold mget mzero
  by_cases hx : x < n
  · rw [getD_replicate _ _ _ _ hx]
    by_cases hy : y < n
    · rw [getD_replicate _ _ _ _ hy]
    · simp [List.getD_eq_getElem?_getD, hy]
  · simp [List.getD_eq_getElem?_getD, hx]

theorem mget_nil (x y : Nat) : mget [] x y = false := by simp [mget]

theorem mget_mset {n : Nat} {m : Matrix} (h : MShape n m) {x y : Aid} (hx : x < n) (hy : y < n)
    (x' y' : Aid) (v : Bool) :
    mget (mset m x y v) x' y' = if x' = x ∧ y' = y then v else mget m x' y' := by
  unfold mget mset
  by_cases h1 : x' = x
  · subst h1
    rw [getD_set, if_pos ⟨rfl, h.1 ▸ hx⟩, getD_set]
    by_cases h2 : y' = y
    · subst h2; rw [if_pos ⟨rfl, h.2 x' hx ▸ hy⟩, if_pos ⟨rfl, rfl⟩]
    · simp [h2, Ne.symm h2]
  · rw [getD_set, if_neg fun h => h1 h.1.symm]
    simp [h1]

theorem mset_shape {n : Nat} {m : Matrix} (h : MShape n m) (x y : Aid) (v : Bool) : MShape n (mset m x y v) := by
  obtain ⟨h1, h2⟩ := h
  refine ⟨by simp [mset, h1], fun x' hx' => ?_⟩
  unfold mset
  by_cases e : x' = x
  · subst e
    rw [getD_set, if_pos ⟨rfl, by omega⟩, List.length_set]
    exact h2 x' hx'
  · rw [getD_set, if_neg fun h => e h.1.symm]
    exact h2 x' hx'

theorem mem_others {n x y : Nat} : y ∈ others n x ↔ y < n ∧ y ≠ x := by
  simp [others]

theorem others_nodup (n x : Nat) : (others n x).Nodup := List.nodup_range.sublist List.filter_sublist

theorem mget_recvRow (n : Nat) (buffer : Matrix) (x : Aid) (recv : Row) (y : Aid) (hy : y < n) :
    (recvRow n buffer x recv).getD y false =
      ((y != x) && mget buffer x y && (recv.lookup y).getD false) := by
  simp [recvRow, List.getD_eq_getElem?_getD, hy]

/-- what the receive loop needs to run through -/
def RecvPre (n : Nat) (buffer : Matrix) (acts : List (Aid × CAct α)) : Prop :=
  (acts.map (·.1)).Nodup ∧ ∀ p ∈ acts, recvOK n buffer p.1 p.2.receive = true

theorem procReceives_spec (n : Nat) (buffer : Matrix) :
    ∀ (acts : List (Aid × CAct α)) (rc : Matrix), RecvPre n buffer acts → rc.length = n →
      (procReceives n buffer acts rc).2 = true ∧ (procReceives n buffer acts rc).1.length = n ∧
      ∀ x, x < n → (procReceives n buffer acts rc).1.getD x [] =
        match acts.lookup x with
        | some a => recvRow n buffer x a.receive
        | none => rc.getD x [] := by
  intro acts
  induction acts with
  | nil => intro rc _ hl; exact ⟨rfl, hl, fun x _ => rfl⟩
  | cons p rest ih =>
    intro rc hpre hl
    obtain ⟨x0, a0⟩ := p
    obtain ⟨hnd, hok⟩ := hpre
    have hnd' := List.nodup_cons.mp hnd
    have hpre' : RecvPre n buffer rest := ⟨hnd'.2, fun p hp => hok p (List.mem_cons_of_mem _ hp)⟩
    obtain ⟨h1, h2, h3⟩ := ih (rc.set x0 (recvRow n buffer x0 a0.receive)) hpre' (by simp [hl])
    have hE : procReceives n buffer ((x0, a0) :: rest) rc =
        procReceives n buffer rest (rc.set x0 (recvRow n buffer x0 a0.receive)) := by
      simp only [procReceives, hok (x0, a0) (by simp), if_true]
    rw [hE]
    refine ⟨h1, h2, fun x hx => ?_⟩
    rw [h3 x hx, lookup_cons_ite, getD_set]
    by_cases hx' : x = x0
    · subst hx'
      rw [lookup_none_of_not_mem_keys rest x hnd'.1, if_pos ⟨rfl, hl ▸ hx⟩, if_pos rfl]
    · rw [if_neg hx', if_neg fun h => hx' h.1.symm]

def SendPre (n : Nat) (_s : Aid) (send : Row) : Prop :=
  (send.map (·.1)).Nodup ∧ ∀ q ∈ send, q.1 < n

theorem procSend1_spec (n : Nat) (s : Aid) (hs : s < n) :
    ∀ (send : Row) (b : Matrix), SendPre n s send → MShape n b →
      (procSend1 n s send b).2 = true ∧ MShape n (procSend1 n s send b).1 ∧
      ∀ r s', mget (procSend1 n s send b).1 r s' =
        if s' = s then (send.lookup r).getD (mget b r s') else mget b r s' := by
  intro send
  induction send with
  | nil =>
    intro b _ hb
    refine ⟨rfl, hb, fun r s' => ?_⟩
    by_cases h : s' = s <;> simp [procSend1, h]
  | cons q rest ih =>
    intro b hpre hb
    obtain ⟨r0, v0⟩ := q
    obtain ⟨hnd, hlt⟩ := hpre
    have hnd' := List.nodup_cons.mp hnd
    have hr0 : r0 < n := hlt (r0, v0) (by simp)
    have hpre' : SendPre n s rest := ⟨hnd'.2, fun q hq => hlt q (List.mem_cons_of_mem _ hq)⟩
    obtain ⟨h1, h2, h3⟩ := ih (mset b r0 s v0) hpre' (mset_shape hb _ _ _)
    have hE : procSend1 n s ((r0, v0) :: rest) b = procSend1 n s rest (mset b r0 s v0) := by
      simp only [procSend1, hr0, if_true]
    rw [hE]
    refine ⟨h1, h2, fun r s' => ?_⟩
    rw [h3 r s', mget_mset hb hr0 hs r s' v0]
    rw [lookup_cons_ite]
    by_cases hs' : s' = s
    · by_cases hr : r = r0
      · simp [hs', hr, lookup_none_of_not_mem_keys rest r0 hnd'.1]
      · simp [hs', hr]
    · simp [hs']

/-- what the send loop needs to run through -/
def SendsPre (n : Nat) (acts : List (Aid × CAct α)) : Prop :=
  (acts.map (·.1)).Nodup ∧ ∀ p ∈ acts, p.1 < n ∧ SendPre n p.1 p.2.send

theorem procSends_spec (n : Nat) :
    ∀ (acts : List (Aid × CAct α)) (b : Matrix), SendsPre n acts → MShape n b →
      (procSends n acts b).2 = true ∧ MShape n (procSends n acts b).1 ∧
      ∀ r s, mget (procSends n acts b).1 r s =
        match acts.lookup s with
        | some a => (a.send.lookup r).getD (mget b r s)
        | none => mget b r s := by
  intro acts
  induction acts with
  | nil => intro b _ hb; exact ⟨rfl, hb, fun r s => rfl⟩
  | cons p rest ih =>
    intro b hpre hb
    obtain ⟨s0, a0⟩ := p
    obtain ⟨hnd, hall⟩ := hpre
    have hnd' := List.nodup_cons.mp hnd
    obtain ⟨hs0, hsp⟩ := hall (s0, a0) (by simp)
    have hpre' : SendsPre n rest := ⟨hnd'.2, fun p hp => hall p (List.mem_cons_of_mem _ hp)⟩
    obtain ⟨g1, g2, g3⟩ := procSend1_spec n s0 hs0 a0.send b hsp hb
    obtain ⟨h1, h2, h3⟩ := ih (procSend1 n s0 a0.send b).1 hpre' g2
    have hE : procSends n ((s0, a0) :: rest) b = procSends n rest (procSend1 n s0 a0.send b).1 := by
      simp only [procSends, g1, if_true]
    rw [hE]
    refine ⟨h1, h2, fun r s => ?_⟩
    rw [h3 r s, lookup_cons_ite, g3 r s]
    by_cases hs : s = s0
    · rw [hs, lookup_none_of_not_mem_keys rest s0 hnd'.1, if_pos rfl, if_pos rfl]
    · rw [if_neg hs, if_neg hs]

theorem procSends_mzero (n : Nat) (acts : List (Aid × CAct α)) (h : SendsPre n acts) (x y : Aid) :
    mget (procSends n acts (mzero n)).1 x y = sentTo acts y x := by
  rw [(procSends_spec n acts (mzero n) h (mzero_shape n)).2.2 x y]
  unfold sentTo
  cases acts.lookup y with
  | none => exact mget_mzero n x y
  | some a => simp only [mget_mzero]

theorem getD_false_eq_true {o : Option Bool} : o.getD false = true ↔ o = some true := by
  cases o <;> simp

theorem sentTo_iff (acts : List (Aid × CAct α)) (y x : Aid) :
    sentTo acts y x = true ↔ ∃ a, acts.lookup y = some a ∧ a.send.lookup x = some true := by
  unfold sentTo
  cases acts.lookup y with
  | none => simp
  | some a => simp [getD_false_eq_true]

/-- the step runs through without an exception -/
structure StepPre (n : Nat) (c : CState σ) (acts : List (Aid × CAct α)) : Prop where
  started : c.started = true
  len : c.received.length = n
  recv : RecvPre n c.buffer acts
  sends : SendsPre n acts

theorem commStep_eq (S : CommIface σ α ω ι) (c : CState σ) (acts : List (Aid × CAct α))
    (h : StepPre S.n c acts) :
    commStep S c acts =
      ⟨{ sim := S.step c.sim (simOnly acts), started := true,
         buffer := (procSends S.n acts (mzero S.n)).1,
         received := (procReceives S.n c.buffer acts c.received).1 }, some (simOnly acts), none⟩ := by
  have hr := (procReceives_spec S.n c.buffer acts c.received h.recv h.len).1
  have hs := (procSends_spec S.n acts (mzero S.n) h.sends (mzero_shape S.n)).1
  simp only [commStep, h.started, hr, hs, Bool.not_true, Bool.false_eq_true, if_false, if_true]

/-- off the diagonal the wrapper's two matrices hold what the history `past` lets one expect -/
structure CInv (n : Nat) (c : CState σ) (past : List (COp α)) : Prop where
  len : c.received.length = n
  buf : ∀ x y, x < n → y < n → x ≠ y → mget c.buffer x y = expBuffer past x y
  rcv : ∀ x y, x < n → y < n → x ≠ y → mget c.received x y = expFuse past x y

/-- loop invariant along a history: `st` = a reset has happened -/
structure LInv (n : Nat) (c : CState σ) (st : Bool) (past : List (COp α)) : Prop where
  started : c.started = st
  live : st = true → CInv n c past

theorem rowDict_eq {n : Nat} {m : Matrix} {f : Aid → Aid → Bool}
    (h : ∀ x y, x < n → y < n → x ≠ y → mget m x y = f x y) {x : Aid} (hx : x < n) :
    rowDict n m x = expRow n f x := by
  unfold rowDict expRow
  apply List.map_congr_left
  intro y hy
  obtain ⟨h1, h2⟩ := mem_others.mp hy
  rw [h x y hx h1 (fun e => h2 e.symm)]

theorem ghostRows_eq {n : Nat} {m : Matrix} {f : Aid → Aid → Bool}
    (h : ∀ x y, x < n → y < n → x ≠ y → mget m x y = f x y) : ghostRows n true m = expRows n f := by
  unfold ghostRows expRows
  simp only [if_true]
  apply List.map_congr_left
  intro x hx
  exact rowDict_eq h (List.mem_range.mp hx)

theorem allClear_expRows (n : Nat) (f : Aid → Aid → Bool) (h : ∀ x y, f x y = false) :
    allClear (expRows n f) = true := by
  simp [allClear, expRows, expRow, h]

theorem expRows_getElem? (n : Nat) (f : Aid → Aid → Bool) (a : Aid) (ha : a < n) :
    (expRows n f)[a]? = some (expRow n f a) := by
  simp [expRows, ha]

theorem stepPre_of_wf {n : Nat} {c : CState σ} {past : List (COp α)} {acts : List (Aid × CAct α)}
    (hs : c.started = true) (hI : CInv n c past) (hwf : actsWF n past acts = true) : StepPre n c acts := by
  simp only [actsWF, isDict, Bool.and_eq_true, decide_eq_true_eq, List.all_eq_true, actWF] at hwf
  obtain ⟨hnd, hall⟩ := hwf
  refine ⟨hs, hI.len, ⟨hnd, ?_⟩, ⟨hnd, ?_⟩⟩
  · intro p hp
    obtain ⟨hlt, ⟨_, _⟩, hr⟩ := hall p hp
    simp only [recvOK, Bool.and_eq_true, decide_eq_true_eq, List.all_eq_true]
    refine ⟨hlt, fun y hy => ?_⟩
    obtain ⟨h1, h2⟩ := mem_others.mp hy
    rw [hI.buf p.1 y hlt h1 (fun e => h2 e.symm)]
    exact hr y hy
  · intro p hp
    obtain ⟨hlt, ⟨hsd, hsl⟩, _⟩ := hall p hp
    refine ⟨hlt, hsd, fun q hq => ?_⟩
    exact (hsl q hq).1

theorem CInv.reset (S : CommIface σ α ω ι) (c : CState σ) (past : List (COp α)) :
    CInv S.n (commReset S c) (.reset :: past) :=
  { len := (mzero_shape S.n).1
    buf := fun x y _ _ _ => mget_mzero S.n x y
    rcv := fun x y _ _ _ => mget_mzero S.n x y }

theorem CInv.step {S : CommIface σ α ω ι} {c : CState σ} {past : List (COp α)}
    {acts : List (Aid × CAct α)} (hI : CInv S.n c past) (hp : StepPre S.n c acts) :
    CInv S.n (commStep S c acts).st (.step acts :: past) := by
  obtain ⟨_, r2, r3⟩ := procReceives_spec S.n c.buffer acts c.received hp.recv hp.len
  rw [commStep_eq S c acts hp]
  refine ⟨r2, fun x y _ _ _ => procSends_mzero S.n acts hp.sends x y, fun x y hx hy hxy => ?_⟩
  show mget _ x y = (match acts.lookup x with
    | some a => expBuffer past x y && (a.receive.lookup y).getD false
    | none => expFuse past x y)
  unfold mget
  rw [r3 x hx]
  cases acts.lookup x with
  | none => exact hI.rcv x y hx hy hxy
  | some a =>
    have hne : (y != x) = true := by simpa using fun e : y = x => hxy e.symm
    simp only [mget_recvRow S.n c.buffer x a.receive y hy, hne, Bool.true_and, hI.buf x y hx hy hxy]

theorem CInv.getObs {S : CommIface σ α ω ι} {c : CState σ} {past : List (COp α)} (a : Aid)
    (hI : CInv S.n c past) : CInv S.n ((commSim S).obs c a).2 (.getObs a :: past) :=
  { len := hI.len, buf := hI.buf, rcv := hI.rcv }

theorem commRunOp_op (S : CommIface σ α ω ι) (c : CState σ) (op : COp α) : (commRunOp S c op).1.op = op := by
  cases op with
  | reset => rfl
  | step acts =>
    simp only [commRunOp]
    split <;> rfl
  | getObs a =>
    simp only [commRunOp]
    split <;> rfl

theorem commRunOp_step (S : CommIface σ α ω ι) {c : CState σ} {acts : List (Aid × CAct α)}
    (hp : StepPre S.n c acts) :
    commRunOp S c (.step acts) =
      (mkEntry S (.step acts) .stepOk (some (simOnly acts)) none (commStep S c acts).st,
       (commStep S c acts).st) := by
  simp only [commRunOp, commStep_eq S c acts hp]

theorem commRunOp_getObs (S : CommIface σ α ω ι) {c : CState σ} {a : Aid} (hs : c.started = true)
    (ha : a < S.n) :
    commRunOp (α := α) S c (.getObs a) =
      (mkEntry S (.getObs a) (.obsOk ((commSim S).obs c a).1) none (some (rowDict S.n c.received a))
        ((commSim S).obs c a).2, ((commSim S).obs c a).2) := by
  simp [commRunOp, hs, ha]

theorem started_of_opWF {n : Nat} {st : Bool} {past : List (COp α)} {op : COp α}
    (h : opWF n st past op = true) : (st || isReset op) = true := by
  cases op <;> simp_all [opWF, isReset]

/-- stated apart from `commOp_sound` because it needs no `DecidableEq α` (only the judge does) -/
theorem commRunOp_inv (S : CommIface σ α ω ι) (c : CState σ) (st : Bool) (past : List (COp α))
    (op : COp α) (hI : LInv S.n c st past) (hwf : opWF S.n st past op = true) :
    LInv S.n (commRunOp S c op).2 (st || isReset op) (op :: past) := by
  cases op with
  | reset => exact ⟨by simp [commRunOp, commReset, isReset], fun _ => CInv.reset S c past⟩
  | step acts =>
    simp only [opWF, Bool.and_eq_true] at hwf
    have hp := stepPre_of_wf (hI.started.trans hwf.1) (hI.live hwf.1) hwf.2
    rw [commRunOp_step S hp, hwf.1]
    exact ⟨by rw [commStep_eq S c acts hp]; rfl, fun _ => CInv.step (hI.live hwf.1) hp⟩
  | getObs a =>
    simp only [opWF, Bool.and_eq_true, decide_eq_true_eq] at hwf
    have hs := hI.started.trans hwf.1
    rw [commRunOp_getObs S hs hwf.2, hwf.1]
    exact ⟨hs, fun _ => CInv.getObs a (hI.live hwf.1)⟩

theorem mkEntry_matrices (S : CommIface σ α ω ι) {c : CState σ} {now : List (COp α)}
    (hs : c.started = true) (hI : CInv S.n c now) (op : COp α) (res : CRes ω)
    (args : Option (List (Aid × α))) (fu : Option Row) :
    mkEntry S op res args fu c =
      { op := op, res := res, simArgs := args, fusion := fu,
        buffer := expRows S.n (expBuffer now), received := expRows S.n (expFuse now) } := by
  simp only [mkEntry, hs, ghostRows_eq hI.buf, ghostRows_eq hI.rcv]

theorem commOp_sound [DecidableEq α] (S : CommIface σ α ω ι) (c : CState σ) (st : Bool)
    (past : List (COp α)) (op : COp α) (hI : LInv S.n c st past) (hwf : opWF S.n st past op = true) :
    c20Entry S.n past (commRunOp S c op).1 = true ∧
    LInv S.n (commRunOp S c op).2 (st || isReset op) (op :: past) := by
  have hL := commRunOp_inv S c st past op hI hwf
  refine ⟨?_, hL⟩
  have hst := started_of_opWF hwf
  -- no call inside the domain raises, so its entry is made from the state after the call
  have hE := mkEntry_matrices S (hL.started.trans hst) (hL.live hst)
  cases op with
  | reset =>
    simp only [commRunOp] at hE ⊢
    simp only [c20Entry, hE, decide_true, Option.isNone_none, Bool.true_and, Bool.and_eq_true]
    exact ⟨allClear_expRows _ _ (fun _ _ => rfl), allClear_expRows _ _ (fun _ _ => rfl)⟩
  | step acts =>
    simp only [opWF, Bool.and_eq_true] at hwf
    have hp := stepPre_of_wf (hI.started.trans hwf.1) (hI.live hwf.1) hwf.2
    simp only [commRunOp_step S hp] at hE ⊢
    simp only [c20Entry, hE, decide_true, Option.isNone_none, Bool.and_self]
  | getObs a =>
    simp only [opWF, Bool.and_eq_true, decide_eq_true_eq] at hwf
    have hC := hI.live hwf.1
    simp only [commRunOp_getObs S (hI.started.trans hwf.1) hwf.2] at hE ⊢
    have hf : rowDict S.n c.received a = expRow S.n (expFuse past) a := rowDict_eq hC.rcv hwf.2
    have ho : ((commSim S).obs c a).1.buffer = expRow S.n (expBuffer past) a := rowDict_eq hC.buf hwf.2
    have hg : (expRows S.n (expBuffer (COp.getObs a :: past)))[a]? = some (expRow S.n (expBuffer past) a) := by
      rw [expRows_getElem? _ _ _ hwf.2]; rfl
    simp only [c20Entry, hE, hf, ho, hg, decide_true, Option.isNone_none, Bool.and_self]

def isGetObs : COp α → Prop
  | .getObs _ => True
  | _ => False

/-- `x` does not act in this call and the call is not a reset -/
def idleFor (x : Aid) : COp α → Prop
  | .reset => False
  | .getObs _ => True
  | .step acts => acts.lookup x = none

theorem expBuffer_skip (x y : Aid) : ∀ (gs rest : List (COp α)), (∀ o ∈ gs, isGetObs o) →
    expBuffer (gs ++ rest) x y = expBuffer rest x y
  | [], _, _ => rfl
  | .getObs _ :: gs, rest, h => expBuffer_skip x y gs rest (fun o ho => h o (List.mem_cons_of_mem _ ho))
  | .reset :: _, _, h => (h _ (List.mem_cons_self ..)).elim
  | .step _ :: _, _, h => (h _ (List.mem_cons_self ..)).elim

theorem expFuse_skip (x y : Aid) : ∀ (pre rest : List (COp α)), (∀ o ∈ pre, idleFor x o) →
    expFuse (pre ++ rest) x y = expFuse rest x y
  | [], _, _ => rfl
  | .getObs _ :: pre, rest, h => expFuse_skip x y pre rest (fun o ho => h o (List.mem_cons_of_mem _ ho))
  | .reset :: _, _, h => (h _ (List.mem_cons_self ..)).elim
  | .step acts :: pre, rest, h => by
    have h0 : acts.lookup x = none := h _ (List.mem_cons_self ..)
    simp only [List.cons_append, expFuse, h0]
    exact expFuse_skip x y pre rest (fun o ho => h o (List.mem_cons_of_mem _ ho))

/-- `buffer[x][y]` holds iff the most recent call that is not a `get_obs` is a step in which `y`
acted and chose to send to `x` -/
theorem expBuffer_iff (past : List (COp α)) (x y : Aid) :
    expBuffer past x y = true ↔
      ∃ gs acts rest a, past = gs ++ .step acts :: rest ∧ (∀ o ∈ gs, isGetObs o) ∧
        acts.lookup y = some a ∧ a.send.lookup x = some true := by
  constructor
  · induction past with
    | nil => intro h; cases h
    | cons op past ih =>
      cases op with
      | reset => intro h; cases h
      | getObs b =>
        intro h
        obtain ⟨gs, acts, rest, a, rfl, hg, h12⟩ := ih h
        exact ⟨.getObs b :: gs, acts, rest, a, rfl, List.forall_mem_cons.mpr ⟨trivial, hg⟩, h12⟩
      | step acts =>
        intro h
        obtain ⟨a, h12⟩ := (sentTo_iff acts y x).mp h
        exact ⟨[], acts, past, a, rfl, by simp, h12⟩
  · rintro ⟨gs, acts, rest, a, rfl, hg, h12⟩
    rw [expBuffer_skip x y gs _ hg]
    exact (sentTo_iff acts y x).mpr ⟨a, h12⟩

/-- `fuse[x][y]` holds iff at `x`'s most recent action since the last reset the message from `y` was
pending and `x` chose to receive it -/
theorem expFuse_iff (past : List (COp α)) (x y : Aid) :
    expFuse past x y = true ↔
      ∃ pre acts rest a, past = pre ++ .step acts :: rest ∧ (∀ o ∈ pre, idleFor x o) ∧
        acts.lookup x = some a ∧ a.receive.lookup y = some true ∧ expBuffer rest x y = true := by
  constructor
  · induction past with
    | nil => intro h; cases h
    | cons op past ih =>
      -- a call in which `x` is idle is put in front of the decomposition of the older calls
      have lift : idleFor x op → expFuse past x y = true →
          ∃ pre acts rest a, op :: past = pre ++ .step acts :: rest ∧ (∀ o ∈ pre, idleFor x o) ∧
            acts.lookup x = some a ∧ a.receive.lookup y = some true ∧ expBuffer rest x y = true := by
        intro hop h
        obtain ⟨pre, acts, rest, a, rfl, hg, h123⟩ := ih h
        exact ⟨op :: pre, acts, rest, a, rfl, List.forall_mem_cons.mpr ⟨hop, hg⟩, h123⟩
      cases op with
      | reset => intro h; cases h
      | getObs b => exact lift trivial
      | step acts =>
        cases h0 : acts.lookup x with
        | none => intro h; exact lift h0 (by simpa [expFuse, h0] using h)
        | some a =>
          intro h
          simp only [expFuse, h0, Bool.and_eq_true] at h
          exact ⟨[], acts, past, a, rfl, by simp, h0, getD_false_eq_true.mp h.2, h.1⟩
  · rintro ⟨pre, acts, rest, a, rfl, hg, h1, h2, h3⟩
    rw [expFuse_skip x y pre _ hg]
    simp [expFuse, h1, h2, h3]

theorem comm_lawful (S : CommIface σ α ω ι) (h : ∀ rows, Lawful (S.toSim rows)) : Lawful (commSim S) where
  obs_done := fun c a b => (h fun _ => rowDict S.n c.received a).obs_done c.sim a b
  obs_allDone := fun c a => (h fun _ => rowDict S.n c.received a).obs_allDone c.sim a
  obs_next := fun c a => (h fun _ => rowDict S.n c.received a).obs_next c.sim a
  obs_pending := fun c a b => (h fun _ => rowDict S.n c.received a).obs_pending c.sim a b
  rew_done := fun c a b => (h fun _ => []).rew_done c.sim a b
  rew_allDone := fun c a => (h fun _ => []).rew_allDone c.sim a
  rew_next := fun c a => (h fun _ => []).rew_next c.sim a
  rew_val := fun c a => (h fun _ => []).rew_val c.sim a
  rew_pending := fun c a b => (h fun _ => []).rew_pending c.sim a b

end Abmarl
