import Abmarl.Lemmas.Adapters
/-!
# Lemmas behind C15 with the `current_player` setter in the call alphabet

`OSInvX` is `OSInv` without the conjunct "the current player has not been reported done": after
`current_player = a` the current player is only known to be a learning agent (the fake step that
answers an action for a done agent re-establishes the full `OSInv`, `osStep_fake_sound`).  Whenever the
current player *is* live, `OSInvX` is `OSInv` again and `osReset_sound` / `osStep_full` apply; what is
left is the fake step, the setter and the ill-formed action lists.  `noFwdDone_of_loop` reads the
never-forwards clause back from `specC15X`.
-/
namespace Abmarl
variable {σ α ω ι : Type}

structure OSInvX (S : SimIface σ α ω ι) (k : MKind) (st : OSState σ) (gh : OSGhost) : Prop where
  sr : gh.shouldReset = st.shouldReset
  cur : gh.current = st.current
  live : st.shouldReset = false →
    Inv S k st.m gh.g ∧ gh.g.started = true ∧ gh.g.over = false ∧
    (k = .turnBased → st.current ∈ S.learners) ∧
    (∃ a ∈ S.learners, a ∉ gh.g.R)

theorem OSInv.toX {S : SimIface σ α ω ι} {k : MKind} {st : OSState σ} {gh : OSGhost}
    (h : OSInv S k st gh) : OSInvX S k st gh :=
  ⟨h.sr, h.cur, fun hs =>
    ⟨(h.live hs).1, (h.live hs).2.1, (h.live hs).2.2.1, fun hk => ((h.live hs).2.2.2.1 hk).1,
     (h.live hs).2.2.2.2⟩⟩

theorem OSInvX.toInv {S : SimIface σ α ω ι} {k : MKind} {st : OSState σ} {gh : OSGhost}
    (h : OSInvX S k st gh)
    (hc : k = .turnBased → st.shouldReset = false → st.current ∉ gh.g.R) : OSInv S k st gh :=
  ⟨h.sr, h.cur, fun hs =>
    ⟨(h.live hs).1, (h.live hs).2.1, (h.live hs).2.2.1,
     fun hk => ⟨(h.live hs).2.2.2.1 hk, hc hk hs⟩, (h.live hs).2.2.2.2⟩⟩

theorem osSetCurrent_sound [DecidableEq α] [DecidableEq ω] {S : SimIface σ α ω ι} {k : MKind}
    (st : OSState σ) (gh : OSGhost) (hI : OSInvX S k st gh) (a : Aid) :
    c15XItem (α := α) (ω := ω) (ι := ι) k S.n S.learning gh (.setCurrent a)
      (.set (osSetCurrent S st a).1) = true ∧
    OSInvX S k (osSetCurrent S st a).2
      (osGhostNextX (α := α) (ω := ω) (ι := ι) gh (.setCurrent a) (.set (osSetCurrent S st a).1)) := by
  by_cases h : a ∈ S.learners
  · have hE : osSetCurrent S st a = (.ok (), { st with current := a }) := by simp [osSetCurrent, h]
    rw [hE]
    refine ⟨by simpa [c15XItem] using (isLearner_iff_mem a).mpr h, ?_⟩
    simp only [osGhostNextX]
    exact ⟨hI.sr, rfl, fun hs =>
      ⟨(hI.live hs).1, (hI.live hs).2.1, (hI.live hs).2.2.1, fun _ => h, (hI.live hs).2.2.2.2⟩⟩
  · have hE : osSetCurrent S st a = (.error .rejected, st) := by simp [osSetCurrent, h]
    rw [hE]
    have hn : isLearner S.n S.learning a = false := by
      cases hx : isLearner S.n S.learning a with
      | false => rfl
      | true => exact absurd ((isLearner_iff_mem a).mp hx) h
    refine ⟨by simp [c15XItem, hn], ?_⟩
    simpa [osGhostNextX] using hI

theorem pickFake_spec (obs : List (Aid × ω)) (ds : List Aid) (hex : ∃ p ∈ obs, p.1 ∉ ds) :
    ∃ cur, pickFake obs ds = some cur ∧ cur ∈ keys obs ∧ cur ∉ ds := by
  unfold pickFake
  rw [List.head?_filter]
  cases hf : obs.find? (fun p => !(decide (p.1 ∈ ds))) with
  | some p =>
    exact ⟨p.1, rfl, List.mem_map.mpr ⟨p, List.mem_of_find?_eq_some hf, rfl⟩,
      by simpa using List.find?_some hf⟩
  | none =>
    obtain ⟨p, hp, hpd⟩ := hex
    simpa [hpd] using List.find?_eq_none.mp hf p hp

theorem osStep_fake_sound [DecidableEq α] [DecidableEq ω] {S : SimIface σ α ω ι} {k : MKind} (hW : WF S k)
    (hkt : k = .turnBased) (st : OSState σ) (gh : OSGhost) (hI : OSInvX S k st gh)
    (hsr : st.shouldReset = false) (hcur : st.current ∈ gh.g.R) (acts : List α)
    (hc : callOK k S.learners.length (some acts) = true) :
    c15Fake S.n S.learning gh (osStep S k st acts).1 = true ∧
    (osStep S k st acts).1.mgrCalls = [] ∧
    OSInv S k (osStep S k st acts).2 (osGhostNext gh (osStep S k st acts).1) := by
  have hS := hW.lawful
  obtain ⟨hInv, hst, hov, hturn, hex⟩ := hI.live hsr
  obtain ⟨a, rest, hacts⟩ : ∃ a rest, acts = a :: rest := by
    cases acts with
    | nil => simp [callOK, hkt] at hc
    | cons a rest => exact ⟨a, rest, rfl⟩
  have hdict : osDict S k st.current acts = .ok [(st.current, a)] := by simp [osDict, hkt, hacts]
  have hds : st.current ∈ st.m.doneSet := (hInv.ds st.current).mpr (Or.inl hcur)
  have hfil : ([(st.current, a)].filter fun p => !(decide (p.1 ∈ st.m.doneSet))) = [] := by
    simp [hds]
  have hlearnR : ∀ x, x ∈ S.learners → (x ∈ st.m.doneSet ↔ x ∈ gh.g.R) :=
    fun x hx => hInv.mem_doneSet_learner hx
  obtain ⟨ao, hao⟩ : ∃ ao, ao = appendObs S S.learners [] st.m.sim := ⟨_, rfl⟩
  obtain ⟨_, haok, haop⟩ := appendObs_spec hS S.learners [] st.m.sim
  rw [← hao] at haok haop
  have hkl : ∀ x, x ∈ keys ao.1 ↔ x ∈ S.learners := by
    intro x; rw [haok x]; simp [keys]
  -- somebody can still act, so the fake step names such an agent
  obtain ⟨cur, hpick, hcurk, hcurd⟩ : ∃ cur, pickFake ao.1 st.m.doneSet = some cur ∧ cur ∈ keys ao.1 ∧
      cur ∉ st.m.doneSet := by
    apply pickFake_spec
    obtain ⟨b, hb, hbR⟩ := hex
    obtain ⟨p, hp, hpe⟩ := List.mem_map.mp ((hkl b).mpr hb)
    exact ⟨p, hp, by rw [hpe]; exact fun h => hbR ((hlearnR b hb).mp h)⟩
  have hcl : cur ∈ S.learners := (hkl cur).mp hcurk
  have hcR : cur ∉ gh.g.R := fun h => hcurd ((hlearnR cur hcl).mpr h)
  have hE : osStep S k st acts =
      (⟨.ok { infoState := ao.1, legal := S.learners, current := cur,
              rewards := some (appendReward S.learners []), stepType := .mid }, []⟩,
       { st with m := { st.m with sim := ao.2 }, current := cur }) := by
    simp only [osStep, hsr, Bool.false_eq_true, if_false, hdict, hfil, List.isEmpty_nil, if_true, ← hao, hpick]
  rw [hE]
  obtain ⟨_, hrw2, hrwk⟩ := appendReward_spec S.learners []
  refine ⟨?_, rfl, ?_⟩
  · simp only [c15Fake, List.isEmpty_nil, Bool.true_and, Bool.and_eq_true, decide_eq_true_eq,
      List.all_eq_true, beq_iff_eq]
    refine ⟨⟨⟨⟨⟨?_, ?_⟩, ?_, ?_⟩, trivial⟩, (isLearner_iff_mem _).mpr hcl⟩, hcR⟩
    · exact sameSet_of_appended haok nofun
    · simp [SimIface.learners, SimIface.agents]
    · exact sameSet_of_appended hrwk nofun
    · intro p hp
      rcases hrw2 p hp with h | h
      · cases h
      · exact h
  · refine ⟨by simp [osGhostNext, hsr], by simp [osGhostNext], ?_⟩
    intro _
    simp only [osGhostNext, foldG, List.foldl_nil]
    exact ⟨Inv.of_sim hInv ao.2 haop, hst, hov, fun _ => ⟨hcl, hcR⟩, hex⟩

theorem osStep_bad {S : SimIface σ α ω ι} {k : MKind} (st : OSState σ) (hsr : st.shouldReset = false)
    (acts : List α) (hc : callOK k S.learners.length (some acts) = false) :
    ∃ e, osStep (ω := ω) (ι := ι) S k st acts = (⟨.error e, []⟩, st) := by
  by_cases hkt : k = .turnBased
  · have : acts = [] := by simpa [callOK, hkt] using hc
    exact ⟨.crash, by simp [osStep, hsr, osDict, hkt, this]⟩
  · have hkt' : (k == MKind.turnBased) = false := by simpa using hkt
    have : acts.length ≠ S.learners.length := by simpa [callOK, hkt'] using hc
    exact ⟨.rejected, by simp [osStep, hsr, osDict, hkt, this]⟩

theorem osGhostNext_err_nil (gh : OSGhost) (e : Err) :
    osGhostNext gh (⟨.error e, []⟩ : OSCall α ω ι) = gh := by
  cases gh; simp [osGhostNext, foldG]

theorem fakeDue_iff {k : MKind} {gh : OSGhost} :
    fakeDue k gh = true ↔ k = .turnBased ∧ gh.shouldReset = false ∧ gh.current ∈ gh.g.R := by
  simp [fakeDue, and_assoc]

theorem osStepX_sound [DecidableEq α] [DecidableEq ω] {S : SimIface σ α ω ι} {k : MKind} (hW : WF S k)
    (hk : k ≠ .dynamic) (hl : S.learners ≠ []) (st : OSState σ) (gh : OSGhost) (hI : OSInvX S k st gh)
    (acts : List α) :
    c15XItem k S.n S.learning gh (.step acts) (.ts (osStep S k st acts).1) = true ∧
    OSInvX S k (osStep S k st acts).2 (osGhostNext gh (osStep S k st acts).1) := by
  -- by the judge's own case distinction
  cases hc : callOK k S.learners.length (some acts) with
  | true =>
    have hc' : callOK k ((List.range S.n).filter S.learning).length (some acts) = true := hc
    cases hfd : fakeDue k gh with
    | true =>
      obtain ⟨hkt, hsr, hR⟩ := fakeDue_iff.mp hfd
      obtain ⟨h1, h2, h3⟩ := osStep_fake_sound hW hkt st gh hI (hI.sr ▸ hsr) (hI.cur ▸ hR) acts hc
      exact ⟨by simp only [c15XItem, h2, noFwdDone, hfd, if_true, h1, Bool.or_true, Bool.and_self], h3.toX⟩
    | false =>
      obtain ⟨h1, h2, h3⟩ := osStep_full hW hk hl st gh (hI.toInv fun hkt hsr hR => by
        simp [fakeDue_iff.mpr ⟨hkt, hI.sr ▸ hsr, hI.cur ▸ hR⟩] at hfd) acts hc
      exact ⟨by simp only [c15XItem, hfd, h1, h3, Bool.false_eq_true, if_false, Bool.or_true, Bool.and_self],
        h2.toX⟩
  | false =>
    have hc' : callOK k ((List.range S.n).filter S.learning).length (some acts) = false := hc
    by_cases hsr : st.shouldReset = true
    · rw [show osStep S k st acts = osReset S k st by simp [osStep, hsr]]
      exact ⟨by simp [c15XItem, hc', osReset_noFwdDone S k st gh.g],
        (osReset_sound hW hk hl st gh (some acts) (by simp [hI.sr, hsr])).2.toX⟩
    · obtain ⟨e, hE⟩ := osStep_bad (ω := ω) (ι := ι) st (Bool.eq_false_iff.mpr hsr) acts hc
      rw [hE, osGhostNext_err_nil]
      exact ⟨by simp [c15XItem, noFwdDone, hc'], hI⟩

theorem osResetX_sound [DecidableEq α] [DecidableEq ω] {S : SimIface σ α ω ι} {k : MKind} (hW : WF S k)
    (hk : k ≠ .dynamic) (hl : S.learners ≠ []) (st : OSState σ) (gh : OSGhost) :
    c15XItem (α := α) k S.n S.learning gh .reset (.ts (osReset S k st).1) = true ∧
    OSInvX S k (osReset (α := α) S k st).2 (osGhostNext gh (osReset (α := α) S k st).1) := by
  obtain ⟨h1, h2⟩ := osReset_sound (α := α) hW hk hl st gh none (by simp)
  refine ⟨?_, h2.toX⟩
  simp only [c15XItem, Bool.and_eq_true]
  exact ⟨osReset_noFwdDone S k st gh.g, h1⟩

theorem noFwdDone_append (g : GSt) (l1 l2 : List (Entry α ω ι)) :
    noFwdDone g (l1 ++ l2) = (noFwdDone g l1 && noFwdDone (foldG g l1) l2) := by
  induction l1 generalizing g with
  | nil => simp [noFwdDone, foldG]
  | cons e es ih =>
    simp only [List.cons_append, noFwdDone, ih, foldG, List.foldl_cons, Bool.and_assoc]

theorem noFwdDone_split {g : GSt} {l : List (Entry α ω ι)} (h : noFwdDone g l = true)
    {pre post : List (Entry α ω ι)} {e : Entry α ω ι} (hl : l = pre ++ e :: post)
    {sent : List (Aid × α)} (hop : e.op = .step sent) : ∀ p ∈ sent, p.1 ∉ (foldG g pre).R := by
  rw [hl, noFwdDone_append] at h
  simp only [noFwdDone, hop, Bool.and_eq_true, List.all_eq_true, decide_eq_true_eq] at h
  exact h.2.1

theorem foldG_append (g : GSt) (l1 l2 : List (Entry α ω ι)) :
    foldG g (l1 ++ l2) = foldG (foldG g l1) l2 := by
  simp [foldG, List.foldl_append]

theorem osGhostNext_g (gh : OSGhost) (c : OSCall α ω ι) :
    (osGhostNext gh c).g = foldG gh.g c.mgrCalls := by
  unfold osGhostNext
  split <;> rfl

theorem noFwdDone_of_loop [DecidableEq α] [DecidableEq ω] {k : MKind} {n : Nat}
    {learning : Aid → Bool} (calls : List (OSIn α)) (tr : List (OSOut α ω ι)) (gh : OSGhost)
    (h : c15XLoop k n learning gh calls tr = true) : noFwdDone gh.g (mgrCallsOf tr) = true := by
  fun_induction c15XLoop k n learning gh calls tr with
  | case1 => rfl
  | case3 => cases h
  | case2 gh call calls o os ih =>
    simp only [Bool.and_eq_true] at h
    obtain ⟨h1, h2⟩ := h
    have := ih h2
    cases o with
    | set r =>
      cases call with
      | reset => simp [c15XItem] at h1
      | step _ => simp [c15XItem] at h1
      | setCurrent a =>
        simp only [mgrCallsOf]
        cases r <;> simpa [osGhostNextX] using this
    | ts c =>
      simp only [mgrCallsOf, noFwdDone_append, Bool.and_eq_true]
      have hg : (osGhostNextX gh call (.ts c)).g = foldG gh.g c.mgrCalls := by
        cases call <;> simp [osGhostNextX, osGhostNext_g]
      rw [hg] at this
      refine ⟨?_, this⟩
      cases call with
      | setCurrent _ => simp [c15XItem] at h1
      | reset =>
        simp only [c15XItem, Bool.and_eq_true] at h1
        exact h1.1
      | step _ =>
        simp only [c15XItem, Bool.and_eq_true] at h1
        exact h1.1

/-! ## `specC15X` contains `specC15` (histories without setter calls) -/

theorem c15Call_current_live [DecidableEq α] [DecidableEq ω] {k : MKind} {n : Nat} {learning : Aid → Bool}
    {gh : OSGhost} {call : Option (List α)} {c : OSCall α ω ι} {ts : TimeStep ω}
    (h : c15Call k n learning gh call c = true) (hr : c.res = .ok ts) (hkt : k = .turnBased)
    (hnl : ts.stepType ≠ .last) :
    isLearner n learning ts.current = true ∧ ts.current ∉ (foldG gh.g c.mgrCalls).R := by
  simp only [c15Call, hr, Bool.and_eq_true] at h
  have h5 := h.2
  subst hkt
  simp only [beq_self_eq_true, Bool.not_true, Bool.false_or, Bool.or_eq_true, decide_eq_true_eq,
    Bool.and_eq_true] at h5
  exact h5.resolve_left hnl

theorem c15Call_next_current_live [DecidableEq α] [DecidableEq ω] {k : MKind} {n : Nat} {learning : Aid → Bool}
    {gh : OSGhost} {call : Option (List α)} {c : OSCall α ω ι} (h : c15Call k n learning gh call c = true)
    (hkt : k = .turnBased) (hns : (osGhostNext gh c).shouldReset = false) :
    (osGhostNext gh c).current ∉ (osGhostNext gh c).g.R := by
  cases hr : c.res with
  | error e => simp [c15Call, hr] at h
  | ok ts =>
    simp only [osGhostNext, hr, decide_eq_false_iff_not] at hns ⊢
    exact (c15Call_current_live h hr hkt hns).2

/-- the hypothesis on `gh` is the invariant of the loop (`c15Call_next_current_live` keeps it): while the current
player is live `fakeDue` is false, and `c15XItem` of a well-formed step is `c15Call` -/
theorem c15Loop_of_X [DecidableEq α] [DecidableEq ω] {k : MKind} {n : Nat}
    {learning : Aid → Bool} :
    ∀ (calls : List (Option (List α))) (tr : List (OSCall α ω ι)) (gh : OSGhost),
      (k = .turnBased → gh.shouldReset = false → gh.current ∉ gh.g.R) →
      c15XLoop k n learning gh (calls.map OSIn.ofPlain) (tr.map OSOut.ts) = true →
      c15Loop k n learning gh calls tr = true := by
  intro calls
  induction calls with
  | nil =>
    intro tr gh _ h
    cases tr with
    | nil => simp [c15Loop]
    | cons _ _ => simp [c15XLoop] at h
  | cons call calls ih =>
    intro tr gh hinv h
    cases tr with
    | nil => simp [c15XLoop] at h
    | cons c cs =>
      simp only [List.map_cons, c15XLoop, Bool.and_eq_true] at h
      obtain ⟨h1, h2⟩ := h
      simp only [c15Loop]
      cases hco : callOK k ((List.range n).filter learning).length call with
      | false => simp
      | true =>
        simp only [Bool.not_true, Bool.false_eq_true, if_false, Bool.and_eq_true]
        have hcall : c15Call k n learning gh call c = true := by
          cases call with
          | none =>
            simp only [OSIn.ofPlain, c15XItem, Bool.and_eq_true] at h1
            exact h1.2
          | some acts =>
            simp only [OSIn.ofPlain, c15XItem, hco, Bool.not_true, Bool.false_or, Bool.and_eq_true] at h1
            have hnf : fakeDue k gh = false :=
              Bool.eq_false_iff.mpr fun hfd => (hinv (fakeDue_iff.mp hfd).1 (fakeDue_iff.mp hfd).2.1) (fakeDue_iff.mp hfd).2.2
            simpa [hnf] using h1.2
        have hg : osGhostNextX gh (OSIn.ofPlain call) (OSOut.ts c) = osGhostNext gh c := by
          cases call <;> simp [osGhostNextX]
        rw [hg] at h2
        exact ⟨hcall, ih cs _ (fun hkt hns => c15Call_next_current_live hcall hkt hns) h2⟩


end Abmarl
