import Abmarl.Spec.Placement
import Abmarl.Lemmas.ListAux
/-!
# C13 — `generate_maze`: the loop ends, and every passage of the maze is connected to the start

`specMaze` judges the finished maze `finish rows cols g`, a flat `rows × cols` table, by a flood fill from the start.
So the loop's invariant is stated about the finished maze of the padded grid `g` on which the algorithm works: the maze
cell in row `a`, column `b` is the padded cell `(a + 1, b + 1)` and the flat index `a * cols + b`, and no subtraction
appears.

* What `unvisited_neighboring_cells` (`unvisitedNbrs_facts`) and `list(set(..))` (`dedup_facts`) do to the grid, the
  frontier and the measure of the loop, frontier length + number of unvisited (`2`) cells (`cnt2`).
* `Reach`: what the flood fill computes, with the number of rounds (`floodN_iff`, `specMaze_iff`).  `Reach.grow`: opening
  a cell next to a passage keeps every passage reachable, one round later.
* `finish_zero`, `open_facts`: what `grid[cell] = 0` followed by `unvisited_neighboring_cells(cell)` does, seen on the
  finished maze.
* `MInv`, the invariant of the frontier loop, with the measure in it: iterations made + measure fit the fuel (`fits`).  An
  iteration keeps it (`iter_step`), so the loop ends within its fuel (`mazeLoop_spec`); the fuel is also the number of
  rounds of the flood, so the round counter of `Reach` never exceeds what the flood sees (`generateMaze_total`).
* `Conn`: connected through 4-adjacent passages (`Adj`), the form in which Props/C13.lean states the result; `Reach`
  implies it (`Reach.conn`).
-/
namespace Abmarl
namespace Maze

def cnt2 (g : List Nat) : Nat := g.count 2

/-- no bound on `i`: a cell that reads `2` is inside the table, the default of a read being `1` -/
theorem cnt2_set (g : List Nat) (i : Nat) {v : Nat} (hv : v ≠ 2) :
    cnt2 (g.set i v) + (if g.getD i 1 = 2 then 1 else 0) = cnt2 g := by
  by_cases hi : i < g.length
  · have h2 : (v == 2) = false := by simpa using hv
    have hpos : g[i] = 2 → 0 < g.count 2 := fun e => List.count_pos_iff.mpr (e ▸ List.getElem_mem hi)
    rw [cnt2, cnt2, List.count_set hi, List.getD_eq_getElem?_getD, List.getElem?_eq_getElem hi, Option.getD_some]
    simp only [h2, beq_iff_eq, Bool.false_eq_true, if_false]
    split
    · have := hpos ‹_›
      omega
    · omega
  · rw [List.set_eq_of_length_le (Nat.le_of_not_lt hi), List.getD_eq_getElem?_getD,
      List.getElem?_eq_none (Nat.le_of_not_lt hi)]
    rfl

theorem visitNbr_cases (R C : Nat) (u : List Cell × List Nat) (q : Cell) :
    visitNbr R C u q = u ∨ (isBorder R C q = false ∧ u.2.getD (q.1 * C + q.2) 1 = 2 ∧
      visitNbr R C u q = (u.1 ++ [q], u.2.set (q.1 * C + q.2) 1)) := by
  unfold visitNbr
  split
  · exact Or.inl rfl
  · rename_i hb
    split
    · rename_i h2
      exact Or.inr ⟨Bool.eq_false_iff.mpr hb, beq_iff_eq.mp h2, rfl⟩
    · exact Or.inl rfl

theorem unvisitedNbrs_facts {R C : Nat} {g : List Nat} {cell : Cell} {u : List Cell × List Nat}
    (hu : u = unvisitedNbrs R C g cell) :
    u.2.length = g.length ∧ (∀ n, u.2.getD n 1 = 0 ↔ g.getD n 1 = 0) ∧
    (∀ q ∈ u.1, q ∈ nbrs cell ∧ isBorder R C q = false) ∧ u.1.length + cnt2 u.2 = cnt2 g := by
  subst hu
  unfold unvisitedNbrs
  refine List.foldlRecOn (b := ([], g)) (nbrs cell) (visitNbr R C) (motive := fun u => u.2.length = g.length ∧
    (∀ n, u.2.getD n 1 = 0 ↔ g.getD n 1 = 0) ∧ (∀ q ∈ u.1, q ∈ nbrs cell ∧ isBorder R C q = false) ∧
    u.1.length + cnt2 u.2 = cnt2 g) ⟨rfl, fun _ => Iff.rfl, fun _ h => absurd h List.not_mem_nil, Nat.zero_add _⟩ ?_
  rintro u ⟨h1, h2, h3, h4⟩ q hq
  rcases visitNbr_cases R C u q with e | ⟨hb, h2q, e⟩ <;> rw [e]
  · exact ⟨h1, h2, h3, h4⟩
  dsimp only
  refine ⟨by rw [List.length_set, h1], fun n => ?_, fun p hp => ?_, ?_⟩
  · -- the cell written held `2` and now holds `1`: no passage before or after
    rw [getD_set, ← h2 n]
    split
    · rename_i h
      rw [← h.1, h2q]
      simp
    · rfl
  · rcases List.mem_append.mp hp with h | h
    · exact h3 p h
    · rw [List.mem_singleton.mp h]
      exact ⟨hq, hb⟩
  · have := cnt2_set u.2 (q.1 * C + q.2) (v := 1) (by decide)
    rw [if_pos h2q] at this
    rw [List.length_append, List.length_singleton]
    omega

theorem insertNew_facts (acc : List Cell) (x : Cell) :
    (∀ y, y ∈ insertNew acc x ↔ (y ∈ acc ∨ y = x)) ∧ (insertNew acc x).length ≤ acc.length + 1 := by
  unfold insertNew
  split
  · rename_i hx
    exact ⟨fun y => ⟨Or.inl, fun h => h.elim id (fun e => e ▸ hx)⟩, Nat.le_succ _⟩
  · exact ⟨fun y => by rw [List.mem_append, List.mem_singleton], Nat.le_of_eq List.length_append⟩

theorem dedup_facts (l : List Cell) : (∀ y, y ∈ dedup l ↔ y ∈ l) ∧ (dedup l).length ≤ l.length := by
  have : ∀ l acc : List Cell, (∀ y, y ∈ l.foldl insertNew acc ↔ (y ∈ acc ∨ y ∈ l)) ∧
      (l.foldl insertNew acc).length ≤ acc.length + l.length := by
    intro l
    induction l with
    | nil =>
      intro acc
      exact ⟨fun y => by simp, Nat.le_refl _⟩
    | cons x xs ih =>
      intro acc
      obtain ⟨h1, h2⟩ := ih (insertNew acc x)
      obtain ⟨a1, a2⟩ := insertNew_facts acc x
      refine ⟨fun y => ?_, ?_⟩
      · rw [List.foldl_cons, h1, a1, List.mem_cons, or_assoc]
      · rw [List.foldl_cons, List.length_cons]
        omega
  obtain ⟨h1, h2⟩ := this l []
  exact ⟨fun y => by simp [dedup, h1], by simpa [dedup] using h2⟩

/-- `j` is one of the (up to four) cells the flood fill looks at from `i`: above, below, left, right,
each only if it lies inside the grid -/
def Looks (rows cols : Nat) (i j : Nat) : Prop :=
  (j = i - cols ∧ 0 < i / cols) ∨ (j = i + cols ∧ i / cols + 1 < rows) ∨
  (j = i - 1 ∧ 0 < i % cols) ∨ (j = i + 1 ∧ i % cols + 1 < cols)

/-- reachable from `s` within `k` rounds of the flood fill: a round marks what was marked, and the passages that look
at a marked cell (`floodStep_getD_iff`) -/
def Reach (rows cols : Nat) (m : List Nat) (s : Nat) : Nat → Nat → Prop
  | 0, i => i = s ∧ i < rows * cols
  | k + 1, i => i < rows * cols ∧
      (Reach rows cols m s k i ∨ (m.getD i 1 = 0 ∧ ∃ j, Looks rows cols i j ∧ Reach rows cols m s k j))

theorem Reach.lt {rows cols : Nat} {m : List Nat} {s k i : Nat} (h : Reach rows cols m s k i) :
    i < rows * cols := by
  cases k with
  | zero => exact h.2
  | succ k => exact h.1

theorem Reach.mono {rows cols : Nat} {m m' : List Nat} {s k k' i : Nat}
    (hm : ∀ j, m.getD j 1 = 0 → m'.getD j 1 = 0) (h : Reach rows cols m s k i) (hk : k ≤ k') :
    Reach rows cols m' s k' i := by
  induction hk with
  | step _ ih => exact ⟨ih.lt, Or.inl ih⟩
  | refl =>
    induction k generalizing i with
    | zero => exact h
    | succ k ih => exact ⟨h.1, h.2.imp ih fun ⟨hz, j, hj, hr⟩ => ⟨hm _ hz, j, hj, ih hr⟩⟩

/-- Prim's algorithm grows a tree, and this is its step with the grid abstracted away: the maze `m'` has the passages of
`m` and one more, `c` (`grid[tuple(current_cell)] = 0`), from which the flood looks at a passage `j` of `m`.  The old
passages keep their paths and `c` takes the path of `j`, one round longer. -/
theorem Reach.grow {rows cols : Nat} {m m' : List Nat} {s k c j : Nat}
    (h : ∀ i, m.getD i 1 = 0 → Reach rows cols m s k i)
    (hm : ∀ i, m'.getD i 1 = 0 ↔ (m.getD i 1 = 0 ∨ i = c))
    (hc : c < rows * cols) (hj : Looks rows cols c j) (hz : m.getD j 1 = 0) :
    ∀ i, m'.getD i 1 = 0 → Reach rows cols m' s (k + 1) i := by
  have hsub : ∀ j, m.getD j 1 = 0 → m'.getD j 1 = 0 := fun j h => (hm j).mpr (Or.inl h)
  intro i hi
  rcases (hm i).mp hi with h' | rfl
  · exact (h i h').mono hsub (Nat.le_succ k)
  · exact ⟨hc, Or.inr ⟨hi, j, hj, (h j hz).mono hsub (Nat.le_refl k)⟩⟩

def floodN (rows cols : Nat) (m : List Nat) : Nat → List Bool → List Bool
  | 0, marks => marks
  | k + 1, marks => floodStep rows cols m (floodN rows cols m k marks)

theorem marks_lt {f : Nat → Bool} {n i : Nat} (h : ((List.range n).map f).getD i false = true) : i < n := by
  simpa using getD_true_lt h

theorem floodStep_getD_iff {rows cols : Nat} (m : List Nat) (marks : List Bool) (i : Nat) :
    (floodStep rows cols m marks).getD i false = true ↔
      (i < rows * cols ∧ (marks.getD i false = true ∨
        (m.getD i 1 = 0 ∧ ∃ j, Looks rows cols i j ∧ marks.getD j false = true))) := by
  unfold floodStep
  by_cases hi : i < rows * cols
  · rw [getD_map_range _ _ _ _ hi]
    simp only [hi, true_and, Looks, Bool.or_eq_true, Bool.and_eq_true, beq_iff_eq,
      decide_eq_true_eq, or_and_right, exists_or, and_assoc, exists_eq_left, or_assoc]
  · constructor
    · intro h
      exact absurd (marks_lt h) hi
    · intro h
      exact absurd h.1 hi

theorem floodN_comm (rows cols : Nat) (m : List Nat) (k : Nat) (marks : List Bool) :
    floodN rows cols m k (floodStep rows cols m marks) = floodStep rows cols m (floodN rows cols m k marks) := by
  induction k with
  | zero => rfl
  | succ k ih => simp only [floodN, ih]

theorem floodN_fix (rows cols : Nat) (m : List Nat) (marks : List Bool)
    (h : floodStep rows cols m marks = marks) (k : Nat) : floodN rows cols m k marks = marks := by
  induction k with
  | zero => rfl
  | succ k ih => simp only [floodN, ih, h]

/-- stopping at a fixed point changes nothing -/
theorem flood_eq_floodN (rows cols : Nat) (m : List Nat) (k : Nat) (marks : List Bool) :
    flood rows cols m k marks = floodN rows cols m k marks := by
  induction k generalizing marks with
  | zero => rfl
  | succ k ih =>
    simp only [flood]
    by_cases h : (floodStep rows cols m marks == marks) = true
    · rw [if_pos h]
      exact (floodN_fix rows cols m marks (by simpa using h) (k + 1)).symm
    · rw [if_neg h, ih, floodN_comm]
      rfl

theorem floodN_iff {rows cols : Nat} (m : List Nat) (s : Nat) (k i : Nat) :
    (floodN rows cols m k ((List.range (rows * cols)).map fun j => j == s)).getD i false = true ↔
      Reach rows cols m s k i := by
  induction k generalizing i with
  | zero =>
    rw [floodN, Reach]
    constructor
    · intro h
      have hi : i < rows * cols := marks_lt h
      rw [getD_map_range _ _ _ _ hi, beq_iff_eq] at h
      exact ⟨h, hi⟩
    · rintro ⟨rfl, hs⟩
      rw [getD_map_range _ _ _ _ hs]
      exact beq_self_eq_true _
  | succ k ih => simp only [floodN, floodStep_getD_iff, Reach, ih]

def startInGrid (rows cols : Nat) (start : Pos) : Prop :=
  0 ≤ start.1 ∧ start.1 < rows ∧ 0 ≤ start.2 ∧ start.2 < cols

theorem specMaze_iff {rows cols : Nat} {start : Pos} {m : List Nat} :
    specMaze rows cols start m = true ↔
      (m.length = rows * cols ∧ (∀ v ∈ m, v ≤ 1) ∧ startInGrid rows cols start ∧
        m.getD (startIdx cols start) 1 = 0 ∧
        ∀ i, i < rows * cols → m.getD i 1 = 0 →
          Reach rows cols m (startIdx cols start) (fuelFor rows cols) i) := by
  unfold specMaze startInGrid
  simp only [Bool.and_eq_true, beq_iff_eq, List.all_eq_true, decide_eq_true_eq, Bool.or_eq_true,
    bne_iff_ne, ne_eq, List.mem_range, flood_eq_floodN, floodN_iff, and_assoc, Decidable.imp_iff_not_or]

theorem pad_lt {b n : Nat} (h : b < n) : b + 1 < n + 2 := Nat.succ_lt_succ (Nat.lt_succ_of_lt h)

theorem pidx_lt {rows cols a b : Nat} (ha : a < rows) (hb : b < cols) :
    (a + 1) * (cols + 2) + (b + 1) < (rows + 2) * (cols + 2) := flat_lt (pad_lt ha) (pad_lt hb)

theorem finish_length (rows cols : Nat) (g : List Nat) : (finish rows cols g).length = rows * cols := by
  simp [finish]

theorem finish_getD {rows cols : Nat} (g : List Nat) {i : Nat} (hi : i < rows * cols) :
    (finish rows cols g).getD i 1 = if mget (cols + 2) g (i / cols + 1, i % cols + 1) == 0 then 0 else 1 :=
  getD_map_range _ _ _ _ hi

theorem finish_zero {rows cols : Nat} (g : List Nat) (i : Nat) :
    (finish rows cols g).getD i 1 = 0 ↔
      ∃ a b, a < rows ∧ b < cols ∧ i = a * cols + b ∧ g.getD ((a + 1) * (cols + 2) + (b + 1)) 1 = 0 := by
  constructor
  · intro h
    have hi : i < rows * cols := by
      refine Decidable.byContradiction fun hl => ?_
      have hlen : (finish rows cols g).length ≤ i := finish_length rows cols g ▸ Nat.le_of_not_lt hl
      rw [List.getD_eq_getElem?_getD, List.getElem?_eq_none hlen] at h
      cases h
    rw [finish_getD g hi] at h
    refine ⟨i / cols, i % cols, (div_mod_lt hi).1, (div_mod_lt hi).2, (Nat.div_add_mod' i cols).symm, ?_⟩
    simpa [mget] using h
  · rintro ⟨a, b, ha, hb, rfl, h⟩
    rw [finish_getD g (flat_lt ha hb), (mul_add_div_mod hb).1, (mul_add_div_mod hb).2]
    rw [show mget (cols + 2) g (a + 1, b + 1) = 0 from h]
    rfl

/-- the border test of `unvisited_neighboring_cells` in one coordinate (`neighbor[0] in [0, rows - 1]`, `n + 2` the padded
size): next to the coordinate `x + 1` of a maze cell and off the border ring is the coordinate of a maze cell again -/
theorem off_border {n x y : Nat} (hx : x < n) (hy : y ≤ x + 1 + 1) (h0 : y ≠ 0) (hn : y ≠ n + 1) :
    ∃ x', x' < n ∧ y = x' + 1 := by
  obtain ⟨x', rfl⟩ := Nat.exists_eq_add_one_of_ne_zero h0
  exact ⟨x', by omega, rfl⟩

theorem nbrs_le {p q : Cell} (h : q ∈ nbrs p) : q.1 ≤ p.1 + 1 ∧ q.2 ≤ p.2 + 1 := by
  simp only [nbrs, List.mem_cons, List.not_mem_nil, or_false] at h
  rcases h with rfl | rfl | rfl | rfl <;> simp <;> omega

/-- from a maze cell the flood fill looks at each of its neighbours (the tests of `floodStep` hold because both are maze
cells) -/
theorem looks_nbr {rows cols a b a' b' : Nat} (ha : a < rows) (hb : b < cols) (hb' : b' < cols)
    (h : (a' + 1, b' + 1) ∈ nbrs (a + 1, b + 1)) : Looks rows cols (a' * cols + b') (a * cols + b) := by
  unfold Looks
  rw [(mul_add_div_mod hb').1, (mul_add_div_mod hb').2]
  simp only [nbrs, List.mem_cons, List.not_mem_nil, or_false, Prod.mk.injEq, Nat.add_sub_cancel,
    Nat.add_right_cancel_iff] at h
  rcases h with ⟨rfl, rfl⟩ | ⟨rfl, rfl⟩ | ⟨rfl, rfl⟩ | ⟨rfl, rfl⟩
  · exact Or.inr (Or.inl ⟨by rw [Nat.succ_mul, Nat.add_right_comm], ha⟩)
  · exact Or.inl ⟨by rw [Nat.succ_mul, Nat.add_right_comm, Nat.add_sub_cancel], Nat.succ_pos _⟩
  · exact Or.inr (Or.inr (Or.inr ⟨rfl, hb⟩))
  · exact Or.inr (Or.inr (Or.inl ⟨rfl, Nat.succ_pos _⟩))

/-- `grid[tuple(cell)] = 0` followed by `unvisited_neighboring_cells(cell)`, for the maze cell `(a, b)`: `generate_maze`
does this to the start before the loop and to the drawn cell inside it.  `u` is the pair of the cells returned and the
grid afterwards (callers pass `rfl`).  Seen on the finished maze, `(a, b)` is the one new passage: the neighbours go from
unvisited to wall, and `finish` reads both as wall.  The cells returned are maze cells (`off_border`) from which the flood
looks at the new passage (`looks_nbr`): what `MInv.front` asks. -/
theorem open_facts {rows cols a b : Nat} {g : List Nat} {u : List Cell × List Nat}
    (hl : g.length = (rows + 2) * (cols + 2)) (ha : a < rows) (hb : b < cols)
    (hu : u = unvisitedNbrs (rows + 2) (cols + 2) (mset (cols + 2) g (a + 1, b + 1) 0) (a + 1, b + 1)) :
    u.2.length = (rows + 2) * (cols + 2) ∧
    (∀ i, (finish rows cols u.2).getD i 1 = 0 ↔ ((finish rows cols g).getD i 1 = 0 ∨ i = a * cols + b)) ∧
    (∀ q ∈ u.1, ∃ a' b', a' < rows ∧ b' < cols ∧ q = (a' + 1, b' + 1) ∧
      ∃ j, Looks rows cols (a' * cols + b') j ∧ (finish rows cols u.2).getD j 1 = 0) ∧
    u.1.length + cnt2 u.2 ≤ cnt2 g := by
  obtain ⟨f1, f2, f3, f4⟩ := unvisitedNbrs_facts hu
  have hin : (a + 1) * (cols + 2) + (b + 1) < g.length := hl ▸ pidx_lt ha hb
  have hpass : ∀ i, (finish rows cols u.2).getD i 1 = 0 ↔ ((finish rows cols g).getD i 1 = 0 ∨ i = a * cols + b) := by
    intro i
    simp only [finish_zero, f2]
    simp only [mset, getD_set, hin, and_true]
    constructor
    · rintro ⟨a', b', ha', hb', rfl, h⟩
      split at h
      · -- the padded index determines the cell
        rename_i e
        obtain ⟨e1, e2⟩ := mul_add_inj (pad_lt hb) (pad_lt hb') e
        rw [Nat.succ.inj e1, Nat.succ.inj e2]
        exact Or.inr rfl
      · exact Or.inl ⟨a', b', ha', hb', rfl, h⟩
    · rintro (⟨a', b', ha', hb', rfl, h⟩ | rfl)
      · refine ⟨a', b', ha', hb', rfl, ?_⟩
        split
        · rfl
        · exact h
      · exact ⟨a, b, ha, hb, rfl, if_pos rfl⟩
  refine ⟨?_, hpass, fun q hq => ?_, ?_⟩
  · rw [f1, mset, List.length_set, hl]
  · obtain ⟨hq, hn⟩ := f3 q hq
    simp only [isBorder, Bool.or_eq_false_iff, beq_eq_false_iff_ne, ne_eq] at hn
    obtain ⟨a', ha', e1⟩ := off_border ha (nbrs_le hq).1 hn.1.1.1 hn.1.1.2
    obtain ⟨b', hb', e2⟩ := off_border hb (nbrs_le hq).2 hn.1.2 hn.2
    obtain rfl : q = (a' + 1, b' + 1) := Prod.ext e1 e2
    exact ⟨a', b', ha', hb', rfl, _, looks_nbr ha hb hb' hq, (hpass _).mpr (Or.inr rfl)⟩
  · rw [f4]
    exact Nat.le.intro (cnt2_set g _ (v := 0) (by decide))

/-- The invariant of `while unvisited_walls:`.  `g` is the padded grid, `fr` the frontier `unvisited_walls`, `k` the number of
iterations so far, `s` the flat index of the start.  Apart from `len` (the writes land inside the table) and `fits` it
speaks of `g` only through the maze that would be returned if the loop stopped now: that is what `specMaze` judges, and
there a wall and an unvisited cell read alike, so of all the writes only `grid[tuple(current_cell)] = 0` is seen.
* `start`: `grid[tuple(start)] = 0` is never undone;
* `reach`: the flood finds every passage within `k` rounds, an iteration opening one cell at most;
* `front`: a frontier cell is a maze cell (`unvisited_neighboring_cells` skips the border ring) from which the flood looks
  at a passage (the cell that was opened when it was collected): what `Reach.grow` asks of the cell opened next;
* `fits`: the iterations made and the measure of the loop, frontier length + number of unvisited cells, fit the fuel, which
  is also the number of rounds of the flood: an iteration takes the drawn cell off the frontier, and every cell that
  enters the frontier stops being unvisited. -/
structure MInv (rows cols : Nat) (s : Nat) (g : List Nat) (fr : List Cell) (k : Nat) : Prop where
  len : g.length = (rows + 2) * (cols + 2)
  start : (finish rows cols g).getD s 1 = 0
  reach : ∀ i, (finish rows cols g).getD i 1 = 0 → Reach rows cols (finish rows cols g) s k i
  front : ∀ q ∈ fr, ∃ a b, a < rows ∧ b < cols ∧ q = (a + 1, b + 1) ∧
    ∃ j, Looks rows cols (a * cols + b) j ∧ (finish rows cols g).getD j 1 = 0
  fits : fr.length + cnt2 g + k ≤ fuelFor rows cols

theorem iter_step {rows cols s : Nat} {g : List Nat} {fr : List Cell} {k : Nat} {cur : Cell}
    (hI : MInv rows cols s g fr k) (hc : cur ∈ fr) :
    MInv rows cols s (iter (rows + 2) (cols + 2) g fr cur).1 (iter (rows + 2) (cols + 2) g fr cur).2 (k + 1) := by
  have hfits := hI.fits
  -- when the drawn cell is not opened it only leaves the frontier
  have hstay : MInv rows cols s g (fr.erase cur) (k + 1) := by
    refine ⟨hI.len, hI.start, fun i hi => ⟨(hI.reach i hi).lt, Or.inl (hI.reach i hi)⟩, fun q hq => hI.front q (List.mem_of_mem_erase hq), ?_⟩
    have := List.length_pos_of_mem hc
    rw [List.length_erase_of_mem hc]
    omega
  unfold iter
  split
  · split
    · obtain ⟨a, b, ha, hb, rfl, j, hj, hz⟩ := hI.front cur hc
      obtain ⟨hlen, hpass, hnew, hcnt⟩ := open_facts hI.len ha hb rfl
      obtain ⟨hmem, hdl⟩ := dedup_facts (fr ++ (unvisitedNbrs (rows + 2) (cols + 2)
        (mset (cols + 2) g (a + 1, b + 1) 0) (a + 1, b + 1)).1)
      refine ⟨hlen, (hpass s).mpr (Or.inl hI.start),
        Reach.grow hI.reach hpass (flat_lt ha hb) hj hz, fun q hq => ?_, ?_⟩
      · -- an old frontier cell keeps its passage, a new one has the cell just opened
        rcases List.mem_append.mp ((hmem q).mp (List.mem_of_mem_erase hq)) with h | h
        · obtain ⟨a', b', ha', hb', e, j', hj', hz'⟩ := hI.front q h
          exact ⟨a', b', ha', hb', e, j', hj', (hpass j').mpr (Or.inl hz')⟩
        · exact hnew q h
      · -- the cells that join the frontier are paid for by unvisited cells (`hcnt`), and the drawn cell leaves it
        have hin := (hmem _).mpr (List.mem_append_left _ hc)
        have := List.length_pos_of_mem hin
        rw [List.length_append] at hdl
        simp only [List.length_erase_of_mem hin]
        omega
    · exact hstay
  · exact hstay

theorem MInv.init {rows cols a b : Nat} {u : List Cell × List Nat} (ha : a < rows) (hb : b < cols)
    (hu : u = unvisitedNbrs (rows + 2) (cols + 2)
      (mset (cols + 2) (List.replicate ((rows + 2) * (cols + 2)) 2) (a + 1, b + 1) 0) (a + 1, b + 1)) :
    MInv rows cols (a * cols + b) u.2 u.1 0 := by
  obtain ⟨hlen, hpass, hnew, hcnt⟩ := open_facts List.length_replicate ha hb hu
  have h0 : ∀ i, (finish rows cols (List.replicate ((rows + 2) * (cols + 2)) 2)).getD i 1 ≠ 0 := by
    intro i hi
    obtain ⟨a', b', ha', hb', _, h⟩ := (finish_zero _ i).mp hi
    rw [List.getD_eq_getElem?_getD, List.getElem?_replicate, if_pos (pidx_lt ha' hb')] at h
    cases h
  refine ⟨hlen, (hpass _).mpr (Or.inr rfl), fun i hi => ?_, hnew, ?_⟩
  · rcases (hpass i).mp hi with h | rfl
    · exact absurd h (h0 i)
    · exact ⟨rfl, flat_lt ha hb⟩
  · rwa [show cnt2 (List.replicate ((rows + 2) * (cols + 2)) 2) = fuelFor rows cols from
      List.count_replicate_self] at hcnt

/-- by `fits` the fuel is not used up while the frontier has a cell -/
theorem mazeLoop_spec {rows cols s : Nat} (fuel : Nat) (g : List Nat) (fr : List Cell) (t : Tape) (k : Nat)
    (hI : MInv rows cols s g fr k) (hf : fuelFor rows cols ≤ k + fuel) :
    ∃ r k', mazeLoop (rows + 2) (cols + 2) fuel g fr t = some r ∧ MInv rows cols s r.1 [] k' := by
  induction fuel, g, fr, t using mazeLoop.induct (R := rows + 2) (C := cols + 2) generalizing k with
  | case1 fuel g t => exact ⟨(g, t), k, by rw [mazeLoop], hI⟩
  | case2 g x xs t =>
    have := hI.fits
    rw [List.length_cons] at this
    omega
  | case3 f g x xs t d cur r ih =>
    rw [mazeLoop]
    exact ih (k + 1) (iter_step hI (getD_mem_cons x xs d.1.toNat)) (by omega)

/-- what `maze_terminates` and `maze_connected` (Props/C13.lean) read -/
theorem generateMaze_total (rows cols : Nat) (start : Pos) (t : Tape) (hs : startInGrid rows cols start) :
    ∃ r, generateMaze rows cols start t = .ok r ∧ specMaze rows cols start r.1 = true := by
  have ⟨s1, s2, s3, s4⟩ := hs
  have hI0 := MInv.init ((Int.toNat_lt s1).mpr s2) ((Int.toNat_lt s3).mpr s4) rfl
  obtain ⟨r, k, hr, hI⟩ := mazeLoop_spec (fuelFor rows cols) _ _ t 0 hI0 (Nat.le_add_left _ _)
  refine ⟨(finish rows cols r.1, r.2), ?_,
    specMaze_iff.mpr ⟨finish_length _ _ _, ?_, hs, hI.start, fun i _ hi => ?_⟩⟩
  · unfold generateMaze generatePadded
    rw [if_pos (by simp [s1, s2, s3, s4])]
    simp only [hr]
  · intro v hv
    obtain ⟨i, _, rfl⟩ := List.mem_map.mp hv
    split <;> simp
  · -- the iterations made fit the fuel (`fits`), which is the number of rounds of the flood
    exact (hI.reach i hi).mono (fun _ h => h) (Nat.le_trans (Nat.le_add_left _ _) hI.fits)

theorem generateMaze_ok (rows cols : Nat) (start : Pos) (t : Tape) (hs : startInGrid rows cols start) :
    ∃ r, generateMaze rows cols start t = .ok r :=
  (generateMaze_total rows cols start t hs).imp fun _ h => h.1

theorem generateMaze_spec {rows cols : Nat} {start : Pos} {t : Tape} {m : List Nat} {t' : Tape}
    (h : generateMaze rows cols start t = .ok (m, t')) : specMaze rows cols start m = true := by
  -- a maze is returned only past the guard
  have hs : startInGrid rows cols start := by
    by_cases hg : (decide (0 ≤ start.1) && decide (start.1 < rows) && decide (0 ≤ start.2) &&
        decide (start.2 < cols)) = true
    · simp only [Bool.and_eq_true, decide_eq_true_eq] at hg
      exact ⟨hg.1.1.1, hg.1.1.2, hg.1.2, hg.2⟩
    · unfold generateMaze generatePadded at h
      rw [if_neg hg] at h
      cases h
  obtain ⟨r, hr, hspec⟩ := generateMaze_total rows cols start t hs
  rw [h] at hr
  cases hr
  exact hspec

/-- `j` and `i` are 4-neighbours in the flat `rows × cols` indexing: one above the other, or side by
side in the same row -/
def Adj (cols : Nat) (j i : Nat) : Prop :=
  j + cols = i ∨ i + cols = j ∨ (j + 1 = i ∧ 0 < i % cols) ∨ (i + 1 = j ∧ i % cols + 1 < cols)

/-- connected to `s` by a path of 4-adjacent cells that are passages (after `s` itself) -/
inductive Conn (rows cols : Nat) (m : List Nat) (s : Nat) : Nat → Prop
  | start : Conn rows cols m s s
  | step {i j : Nat} : Conn rows cols m s j → j < rows * cols → i < rows * cols → Adj cols j i →
      m.getD i 1 = 0 → Conn rows cols m s i

theorem Looks.adj {rows cols i j : Nat} (h : Looks rows cols i j) : Adj cols j i := by
  unfold Adj
  rcases h with ⟨rfl, h⟩ | ⟨rfl, _⟩ | ⟨rfl, h⟩ | ⟨rfl, h⟩
  · exact Or.inl (Nat.sub_add_cancel (Nat.div_pos_iff.mp h).2)
  · exact Or.inr (Or.inl rfl)
  · exact Or.inr (Or.inr (Or.inl ⟨Nat.sub_add_cancel (Nat.lt_of_lt_of_le h (Nat.mod_le _ _)), h⟩))
  · exact Or.inr (Or.inr (Or.inr ⟨rfl, h⟩))

theorem Reach.conn {rows cols : Nat} {m : List Nat} {s k i : Nat} (h : Reach rows cols m s k i) :
    Conn rows cols m s i := by
  induction k generalizing i with
  | zero => exact h.1 ▸ .start
  | succ k ih =>
    rcases h.2 with h' | ⟨hz, j, hj, hr⟩
    · exact ih h'
    · exact .step (ih hr) hr.lt h.1 hj.adj hz

end Maze
end Abmarl
