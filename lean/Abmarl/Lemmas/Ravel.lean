import Abmarl.Model.Spaces
import Abmarl.Spec.Spaces
import Abmarl.Lemmas.ListAux
/-!
# Ravel / unravel

Mixed radix first: `inRange rs ds` says that `ds` has one digit per radix, each below its radix; one induction per
direction (`encode_digits`, `decodeAux_digits`) gives the result, its bound and the way back together, each step
being one step of the row-major arithmetic of `Lemmas/ListAux.lean`.  Then the leaves and the mutual induction
`ravel_ok` / `ravelL_ok` over `Space` / `List Space`: MultiBinary and MultiDiscrete share one shape lemma, as do
Dict and Tuple.  `NatCodec` is what `ravel_ok` says of `ravel` / `unravel`, as a statement about any
encode/decode pair.  Last: `check_space` computes `supported` and accepts every well-formed space
(`checkSpace_eq_supported`, `wf_supported`), and `Pt.beq` decides equality (`LawfulBEq Pt`).
-/
namespace Abmarl

def inRange : List Nat → List Nat → Prop
  | [], [] => True
  | r :: rs, d :: ds => d < r ∧ inRange rs ds
  | _, _ => False

def ofNats (ds : List Nat) : List Int := ds.map Int.ofNat

@[simp] theorem ofNats_nil : ofNats [] = [] := rfl
@[simp] theorem ofNats_cons (d : Nat) (ds : List Nat) : ofNats (d :: ds) = Int.ofNat d :: ofNats ds := rfl

theorem inRange_length : ∀ (rs ds : List Nat), inRange rs ds → ds.length = rs.length
  | [], [], _ => rfl
  | [], _ :: _, h => nomatch h
  | _ :: _, [], h => nomatch h
  | _ :: rs, _ :: ds, h => by
    simp only [inRange] at h
    simp [inRange_length rs ds h.2]

theorem encode_cons {r : Nat} {rs : List Nat} {d : Nat} {ds : List Nat} {k : Nat} (hd : d < r)
    (hk : encode rs (ofNats ds) = some k) :
    encode (r :: rs) (ofNats (d :: ds)) = some (d * prod rs + k) := by
  have hd' : (0 : Int) ≤ Int.ofNat d ∧ Int.ofNat d < (r : Int) :=
    ⟨Int.natCast_nonneg d, Int.ofNat_lt.mpr hd⟩
  rw [ofNats_cons, encode, if_pos hd', hk]
  rfl

theorem encode_digits : ∀ (rs ds : List Nat), inRange rs ds →
    ∃ k, encode rs (ofNats ds) = some k ∧ k < prod rs ∧ decodeAux rs k = ds
  | [], [], _ => ⟨0, rfl, Nat.one_pos, rfl⟩
  | [], _ :: _, h => nomatch h
  | _ :: _, [], h => nomatch h
  | r :: rs, d :: ds, h => by
    obtain ⟨k, hk, hlt, hdec⟩ := encode_digits rs ds h.2
    obtain ⟨h2, h3⟩ := mul_add_div_mod (a := d) hlt
    exact ⟨_, encode_cons h.1 hk, flat_lt h.1 hlt, by simp only [decodeAux, h2, h3, hdec]⟩

theorem decodeAux_digits : ∀ (rs : List Nat) (k : Nat), k < prod rs →
    inRange rs (decodeAux rs k) ∧ encode rs (ofNats (decodeAux rs k)) = some k
  | [], k, h => by
    obtain rfl : k = 0 := by simp only [prod] at h; omega
    exact ⟨trivial, rfl⟩
  | r :: rs, k, h => by
    simp only [prod] at h
    obtain ⟨hd, hm⟩ := div_mod_lt h
    obtain ⟨ih1, ih2⟩ := decodeAux_digits rs (k % prod rs) hm
    exact ⟨⟨hd, ih1⟩, by rw [decodeAux, encode_cons hd ih2, Nat.div_add_mod']⟩

theorem decode_eq_some {rs : List Nat} {k : Nat} {ds : List Nat} (h : decode rs k = some ds) :
    k < prod rs ∧ ds = decodeAux rs k := by
  unfold decode at h
  split at h
  · simp only [Option.some.injEq] at h; exact ⟨‹_›, h.symm⟩
  · simp at h

theorem encode_spec (rs ds : List Nat) (h : inRange rs ds) :
    ∃ k, encode rs (ofNats ds) = some k ∧ k < prod rs ∧ decode rs k = some ds := by
  obtain ⟨k, hk, hlt, hdec⟩ := encode_digits rs ds h
  exact ⟨k, hk, hlt, by rw [decode, if_pos hlt, hdec]⟩

theorem decode_spec (rs : List Nat) (k : Nat) (h : k < prod rs) :
    ∃ ds, decode rs k = some ds ∧ inRange rs ds ∧ encode rs (ofNats ds) = some k :=
  ⟨decodeAux rs k, by rw [decode, if_pos h], decodeAux_digits rs k h⟩

theorem prod_replicate (n r : Nat) : prod (List.replicate n r) = r ^ n := by
  induction n with
  | zero => rfl
  | succ n ih => simp only [List.replicate_succ, prod, ih, Nat.pow_succ, Nat.mul_comm]

theorem prod_pos_of_allPos : ∀ (rs : List Nat), (∀ r ∈ rs, 0 < r) → 0 < prod rs
  | [], _ => by simp [prod]
  | r :: rs, h => by
    simp only [prod]
    exact Nat.mul_pos (h r (by simp)) (prod_pos_of_allPos rs fun x hx => h x (by simp [hx]))

theorem ints?_natNums (ds : List Nat) : ints? (ds.map natNum) = some (ofNats ds) := by
  induction ds with
  | nil => rfl
  | cons d ds ih => simp only [List.map_cons, natNum, ints?, ih, ofNats_cons]

theorem memMD_digits (rs : List Nat) (vs : List Num) : memMD rs vs = true →
    ∃ ds, vs = ds.map natNum ∧ inRange rs ds := by
  fun_induction memMD rs vs with
  | case1 => exact fun _ => ⟨[], rfl, trivial⟩
  | case2 r rs v vs ih =>
    intro h
    simp only [Bool.and_eq_true, decide_eq_true_eq] at h
    obtain ⟨ds, hds, hr⟩ := ih h.2
    refine ⟨v.toNat :: ds, ?_, by omega, hr⟩
    simp only [List.map_cons, natNum, hds]
    congr 2
    exact (Int.toNat_of_nonneg h.1.1).symm
  | case3 => exact fun h => nomatch h

theorem memMD_of_inRange (rs ds : List Nat) : inRange rs ds → memMD rs (ds.map natNum) = true := by
  fun_induction inRange rs ds with
  | case1 => exact fun _ => rfl
  | case2 r rs d ds ih =>
    intro h
    simp only [List.map_cons, natNum, memMD, Bool.and_eq_true, decide_eq_true_eq]
    exact ⟨⟨Int.natCast_nonneg d, Int.ofNat_lt.mpr h.1⟩, ih h.2⟩
  | case3 => exact fun h => nomatch h

theorem memMB_eq_memMD : ∀ (n : Nat) (vs : List Num), memMB n vs = memMD (List.replicate n 2) vs
  | 0, [] => rfl
  | 0, _ :: _ => rfl
  | _ + 1, [] => rfl
  | _ + 1, .flt _ :: _ => rfl
  | n + 1, .int v :: vs => by
    simp only [memMB, List.replicate_succ, memMD, memMB_eq_memMD n vs]
    congr 1
    rw [Bool.eq_iff_iff]
    simp only [Bool.or_eq_true, Bool.and_eq_true, decide_eq_true_eq]
    constructor
    · rintro (h | h) <;> subst h <;> decide
    · rintro ⟨h1, h2⟩
      have : v < 2 := h2
      omega

theorem memBoxI_digits (lo hi : List Int) (vs : List Num) : memBoxI lo hi vs = true →
    ∃ ds, vs = addLow ds lo ∧ inRange (radices lo hi) ds := by
  fun_induction memBoxI lo hi vs with
  | case1 => exact fun _ => ⟨[], rfl, trivial⟩
  | case2 l ls h' hs v vs ih =>
    intro h
    simp only [Bool.and_eq_true, decide_eq_true_eq] at h
    obtain ⟨ds, hvs, hr⟩ := ih h.2
    refine ⟨(v - l).toNat :: ds, ?_, by omega, hr⟩
    simp only [addLow, hvs]
    congr 2
    omega
  | case3 => exact fun h => nomatch h

theorem addLow_spec (lo hi : List Int) (ds : List Nat) : boundsOk lo hi = true →
    inRange (radices lo hi) ds →
    memBoxI lo hi (addLow ds lo) = true ∧
      ∃ is, ints? (addLow ds lo) = some is ∧ subLow is lo = some (ofNats ds) := by
  fun_induction boundsOk lo hi generalizing ds with
  | case1 => exact fun _ h => match ds, h with | [], _ => ⟨rfl, [], rfl, rfl⟩
  | case2 l ls h' hs ih =>
    intro hb h
    match ds, h with
    | d :: ds, h =>
      simp only [Bool.and_eq_true] at hb
      obtain ⟨hm, is, h1, h2⟩ := ih ds hb.2 h.2
      have := h.1
      refine ⟨?_, ((d : Int) + l) :: is, by simp only [addLow, ints?, h1], ?_⟩
      · simp only [addLow, memBoxI, hm, Bool.and_eq_true, decide_eq_true_eq, and_true]
        omega
      · simp only [subLow, h2, ofNats_cons]
        congr 2
        exact Int.add_sub_cancel _ _
  | case3 => exact fun h => nomatch h

theorem boundsOk_length (lo hi : List Int) : boundsOk lo hi = true → lo.length = hi.length := by
  fun_induction boundsOk lo hi with
  | case1 => exact fun _ => rfl
  | case2 _ _ _ _ ih =>
    intro h
    simp only [Bool.and_eq_true] at h
    simp [ih h.2]
  | case3 => exact fun h => nomatch h

theorem radices_pos (lo hi : List Int) : boundsOk lo hi = true → ∀ r ∈ radices lo hi, 0 < r := by
  fun_induction boundsOk lo hi with
  | case1 => exact fun _ => by simp [radices]
  | case2 l ls h' hs ih =>
    intro h r hr
    simp only [Bool.and_eq_true, decide_eq_true_eq] at h
    simp only [radices, List.mem_cons] at hr
    rcases hr with rfl | hr
    · omega
    · exact ih h.2 r hr
  | case3 => exact fun h => nomatch h

theorem pos_of_allPos : ∀ (rs : List Nat), allPos rs = true → ∀ r ∈ rs, 0 < r
  | [], _ => by simp
  | r :: rs, h => by
    simp only [allPos, Bool.and_eq_true, decide_eq_true_eq] at h
    intro x hx
    simp only [List.mem_cons] at hx
    rcases hx with hx | hx
    · subst hx; exact h.1
    · exact pos_of_allPos rs h.2 x hx

theorem WF04_wf {s : Space} (h : WF04 s = true) : wf s = true := by
  simp only [WF04, Bool.and_eq_true] at h
  exact h.1

theorem wf_dict {keys : List Nat} {ss : List Space} (h : wf (.dict keys ss) = true) :
    ss ≠ [] ∧ wfL ss = true := by
  simp only [wf, Bool.and_eq_true, Bool.not_eq_true', List.isEmpty_eq_false_iff] at h
  exact ⟨h.1.2, h.2⟩

theorem wf_tuple {ss : List Space} (h : wf (.tuple ss) = true) : ss ≠ [] ∧ wfL ss = true := by
  simpa only [wf, Bool.and_eq_true, Bool.not_eq_true', List.isEmpty_eq_false_iff] using h

/-- `_ravel_helper` numbers the members of `s` by `0 … card s - 1` (recomputing `card s`, the dimension
`_nested_dim_helper` gives, on the way) and `unravel` reads the numbers back -/
structure RavelOK (s : Space) : Prop where
  pos : 0 < card s
  fwd : ∀ p, mem s p = true →
    ∃ k : Nat, ravelH s p = some ((k : Int), card s) ∧ k < card s ∧ unravel s k = some p
  bwd : ∀ k, k < card s →
    ∃ p, unravel s k = some p ∧ mem s p = true ∧ ravelH s p = some ((k : Int), card s)

/-- the same for the children of a Dict or Tuple: their numbers are the digits the parent encodes -/
structure RavelLOK (ss : List Space) : Prop where
  pos : ∀ r ∈ cardL ss, 0 < r
  fwd : ∀ ps, memL ss ps = true →
    ∃ ks : List Nat, ravelL ss ps = some (ofNats ks, cardL ss) ∧ inRange (cardL ss) ks ∧
      unravelL ss ks = some ps
  bwd : ∀ ks, inRange (cardL ss) ks →
    ∃ ps, unravelL ss ks = some ps ∧ memL ss ps = true ∧ ravelL ss ps = some (ofNats ks, cardL ss)

/-- MultiDiscrete, and MultiBinary with `rs` all 2 -/
theorem ravelOK_md {s : Space} {rs : List Nat} (hpos : ∀ r ∈ rs, 0 < r) (hc : card s = prod rs)
    (hm : ∀ p, mem s p = true → ∃ vs, p = .arr vs ∧ memMD rs vs = true)
    (hm' : ∀ vs, memMD rs vs = true → mem s (.arr vs) = true)
    (hr : ∀ vs, ravelH s (.arr vs) = match ints? vs with
      | some ds => (match encode rs ds with | some k => some ((k : Int), card s) | none => none)
      | none => none)
    (hu : ∀ k, unravel s k = (decode rs k).map natsToPt) : RavelOK s where
  pos := hc ▸ prod_pos_of_allPos _ hpos
  fwd p hp := by
    obtain ⟨vs, rfl, hvs⟩ := hm p hp
    obtain ⟨ds, rfl, hrg⟩ := memMD_digits _ _ hvs
    obtain ⟨k, hk, hlt, hdec⟩ := encode_spec _ _ hrg
    exact ⟨k, by rw [hr, ints?_natNums]; simp only [hk], hc ▸ hlt, by rw [hu, hdec]; rfl⟩
  bwd k hk := by
    obtain ⟨ds, hdec, hrg, henc⟩ := decode_spec _ _ (hc ▸ hk)
    exact ⟨natsToPt ds, by rw [hu, hdec]; rfl, hm' _ (memMD_of_inRange _ _ hrg),
      by rw [natsToPt, hr, ints?_natNums]; simp only [henc]⟩

/-- `mk` is `.tuple` or `.dict keys`; the radices are the children's sizes -/
theorem ravelOK_composite {s : Space} {ss : List Space} (h : RavelLOK ss) (mk : List Pt → Pt)
    (hc : card s = prod (cardL ss))
    (hm : ∀ p, mem s p = true → ∃ ps, p = mk ps ∧ memL ss ps = true)
    (hm' : ∀ ps, memL ss ps = true → mem s (mk ps) = true)
    (hr : ∀ ps, ravelH s (mk ps) = match ravelL ss ps with
      | some vd => (match encode vd.2 vd.1 with | some k => some ((k : Int), prod vd.2) | none => none)
      | none => none)
    (hu : ∀ k, unravel s k = match decode (cardL ss) k with
      | some ds => (unravelL ss ds).map mk
      | none => none) : RavelOK s where
  pos := hc ▸ prod_pos_of_allPos _ h.pos
  fwd p hp := by
    obtain ⟨ps, rfl, hps⟩ := hm p hp
    obtain ⟨ks, h1, h2, h3⟩ := h.fwd ps hps
    obtain ⟨k, hk, hlt, hdec⟩ := encode_spec _ _ h2
    exact ⟨k, by rw [hr, h1]; simp only [hk, hc], hc ▸ hlt, by simp only [hu, hdec, h3, Option.map_some]⟩
  bwd k hk := by
    obtain ⟨ds, hdec, hrg, henc⟩ := decode_spec _ _ (hc ▸ hk)
    obtain ⟨ps, h1, h2, h3⟩ := h.bwd ds hrg
    exact ⟨mk ps, by simp only [hu, hdec, h1, Option.map_some], hm' _ h2,
      by rw [hr, h3]; simp only [henc, hc]⟩

mutual
/-- Of `wf s` the proof reads: for Discrete both clauses, for MultiBinary nothing, for MultiDiscrete
only `allPos`, for an integer Box only `boundsOk`, for Dict and Tuple only `wfL` of the children.
Non-emptiness, the shape of a Box and the key clauses of a Dict are never read, nor is the clause
`card s < 2^63` that `WF04` adds. -/
theorem ravel_ok : ∀ (s : Space), wf s = true → RavelOK s
  | .discrete n st, hw => by
    simp only [wf, Bool.and_eq_true, decide_eq_true_eq] at hw
    obtain ⟨hn, rfl⟩ := hw
    refine ⟨hn, fun p hm => ?_, fun k hk => ⟨.scalar (.int (k : Int)), rfl, ?_, rfl⟩⟩
    · match p, hm with
      | .scalar (.int v), hm =>
        simp only [mem, Bool.and_eq_true, decide_eq_true_eq] at hm
        refine ⟨v.toNat, ?_, ?_, ?_⟩
        · simp only [ravelH, card]; rw [Int.toNat_of_nonneg hm.1]
        · simp only [card]; omega
        · simp only [unravel]; rw [Int.toNat_of_nonneg hm.1]
    · simp only [card] at hk
      simp only [mem, Bool.and_eq_true, decide_eq_true_eq]
      omega
  | .multiBinary n, _ =>
    ravelOK_md (rs := List.replicate n 2) (by simp) (prod_replicate n 2).symm
      (fun p hm => match p, hm with | .arr vs, hm => ⟨vs, rfl, memMB_eq_memMD n vs ▸ hm⟩)
      (fun vs h => (memMB_eq_memMD n vs).trans h) (fun _ => rfl) (fun _ => rfl)
  | .multiDiscrete nvec, hw => by
    simp only [wf, Bool.and_eq_true] at hw
    exact ravelOK_md (pos_of_allPos _ hw.2) rfl
      (fun p hm => match p, hm with | .arr vs, hm => ⟨vs, rfl, hm⟩)
      (fun _ h => h) (fun _ => rfl) (fun _ => rfl)
  | .box shape lo hi wide, hw => by
    simp only [wf, Bool.and_eq_true] at hw
    refine ⟨prod_pos_of_allPos _ (radices_pos _ _ hw.2), fun p hm => ?_, fun k hk => ?_⟩
    · match p, hm with
      | .arr vs, hm =>
        obtain ⟨ds, rfl, hr⟩ := memBoxI_digits _ _ _ hm
        obtain ⟨_, is, hi', hs⟩ := addLow_spec lo hi ds hw.2 hr
        obtain ⟨k, hk, hlt, hdec⟩ := encode_spec _ _ hr
        exact ⟨k, by simp only [ravelH, hi', hs, hk, card], hlt,
          by simp only [unravel, hdec, Option.map_some]⟩
    · obtain ⟨ds, hdec, hr, henc⟩ := decode_spec _ _ hk
      obtain ⟨hmem, is, hi', hs⟩ := addLow_spec lo hi ds hw.2 hr
      exact ⟨.arr (addLow ds lo), by simp only [unravel, hdec, Option.map_some], hmem,
        by simp only [ravelH, hi', hs, henc, card]⟩
  | .fbox _ _ _, hw => nomatch hw
  | .ubox _, hw => nomatch hw
  | .dict keys ss, hw =>
    ravelOK_composite (ravelL_ok ss (wf_dict hw).2) (.dict keys) rfl
      (fun p hm => match p, hm with
        | .dict pk ps, hm => by
          simp only [mem, Bool.and_eq_true, decide_eq_true_eq] at hm
          exact ⟨ps, hm.1 ▸ rfl, hm.2⟩)
      (fun ps h => by simp only [mem, decide_true, Bool.true_and, h])
      (fun ps => by rw [ravelH, if_pos rfl]; rfl) (fun _ => rfl)
  | .tuple ss, hw =>
    ravelOK_composite (ravelL_ok ss (wf_tuple hw).2) .tuple rfl
      (fun p hm => match p, hm with | .tuple ps, hm => ⟨ps, rfl, hm⟩)
      (fun _ h => h) (fun _ => rfl) (fun _ => rfl)
theorem ravelL_ok : ∀ (ss : List Space), wfL ss = true → RavelLOK ss
  | [], _ =>
    ⟨by simp [cardL], fun ps hm => match ps, hm with | [], _ => ⟨[], rfl, trivial, rfl⟩,
      fun ks hr => match ks, hr with | [], _ => ⟨[], rfl, rfl, rfl⟩⟩
  | s :: ss, hw => by
    simp only [wfL, Bool.and_eq_true] at hw
    have h := ravel_ok s hw.1
    have g := ravelL_ok ss hw.2
    refine ⟨fun r hr => ?_, fun ps hm => ?_, fun ks hr => ?_⟩
    · simp only [cardL, List.mem_cons] at hr
      rcases hr with rfl | hr
      · exact h.pos
      · exact g.pos r hr
    · match ps, hm with
      | p :: ps, hm =>
        simp only [memL, Bool.and_eq_true] at hm
        obtain ⟨k, h1, h2, h3⟩ := h.fwd p hm.1
        obtain ⟨ks, g1, g2, g3⟩ := g.fwd ps hm.2
        exact ⟨k :: ks, by simp only [ravelL, h1, g1, cardL, ofNats_cons]; rfl, ⟨h2, g2⟩,
          by simp only [unravelL, h3, g3]⟩
    · match ks, hr with
      | k :: ks, hr =>
        obtain ⟨p, h1, h2, h3⟩ := h.bwd k hr.1
        obtain ⟨ps, g1, g2, g3⟩ := g.bwd ks hr.2
        exact ⟨p :: ps, by simp only [unravelL, h1, g1], by simp only [memL, h2, g2, Bool.and_self],
          by simp only [ravelL, h3, g3, cardL, ofNats_cons]; rfl⟩
end

/-! ## numberings

What C04 says of `ravel` / `unravel` on a space and C06 of the exclusive-channel encoding on a Dict is
one statement about two encode/decode pairs. -/

/-- `enc` numbers the elements satisfying `M` by `0 … n-1`, without gaps or repeats, and `dec` reads the
numbers back (`none` = the Python call raises) -/
structure NatCodec {α : Type} (M : α → Prop) (n : Nat) (enc : α → Option Int) (dec : Nat → Option α) :
    Prop where
  fwd : ∀ x, M x → ∃ k : Nat, enc x = some (k : Int) ∧ k < n ∧ dec k = some x
  bwd : ∀ k, k < n → ∃ x, dec k = some x ∧ M x ∧ enc x = some (k : Int)

namespace NatCodec
variable {α : Type} {M : α → Prop} {n : Nat} {enc : α → Option Int} {dec : Nat → Option α}

theorem enc_inj (h : NatCodec M n enc dec) {x y : α} (hx : M x) (hy : M y) (e : enc x = enc y) :
    x = y := by
  obtain ⟨k, h1, _, h3⟩ := h.fwd x hx
  obtain ⟨k', g1, _, g3⟩ := h.fwd y hy
  obtain rfl : k = k' := Int.ofNat.inj (Option.some.inj (h1.symm.trans (e.trans g1)))
  exact Option.some.inj (h3.symm.trans g3)

theorem dec_inj (h : NatCodec M n enc dec) {k k' : Nat} (hk : k < n) (hk' : k' < n)
    (e : dec k = dec k') : k = k' := by
  obtain ⟨x, h1, _, h3⟩ := h.bwd k hk
  obtain ⟨x', g1, _, g3⟩ := h.bwd k' hk'
  obtain rfl : x = x' := Option.some.inj (h1.symm.trans (e.trans g1))
  exact Int.ofNat.inj (Option.some.inj (h3.symm.trans g3))

theorem equiv (h : NatCodec M n enc dec) :
    ∃ (f : {x : α // M x} → Fin n) (g : Fin n → {x : α // M x}),
      (∀ a, g (f a) = a) ∧ (∀ y, f (g y) = y) ∧ (∀ a, enc a.1 = some ((f a).1 : Int)) ∧
      ∀ y, dec y.1 = some (g y).1 := by
  have F : ∀ a : {x : α // M x}, ∃ k : Fin n, enc a.1 = some ((k.1 : Nat) : Int) ∧ dec k.1 = some a.1 :=
    fun a => let ⟨k, h1, h2, h3⟩ := h.fwd a.1 a.2; ⟨⟨k, h2⟩, h1, h3⟩
  have G : ∀ y : Fin n, ∃ x : {x : α // M x}, dec y.1 = some x.1 ∧ enc x.1 = some ((y.1 : Nat) : Int) :=
    fun y => let ⟨x, h1, h2, h3⟩ := h.bwd y.1 y.2; ⟨⟨x, h2⟩, h1, h3⟩
  refine ⟨fun a => (F a).choose, fun y => (G y).choose, fun a => ?_, fun y => ?_,
    fun a => (F a).choose_spec.1, fun y => (G y).choose_spec.1⟩
  · exact Subtype.ext (Option.some.inj ((G (F a).choose).choose_spec.1.symm.trans (F a).choose_spec.2))
  · exact Fin.ext (Int.ofNat.inj (Option.some.inj
      ((F (G y).choose).choose_spec.1.symm.trans (G y).choose_spec.2)))

end NatCodec

theorem ravel_codec {s : Space} (hw : wf s = true) :
    NatCodec (fun p => mem s p = true) (card s) (ravel s) (unravel s) where
  fwd p hm := by
    obtain ⟨k, h1, h2, h3⟩ := (ravel_ok s hw).fwd p hm
    exact ⟨k, by rw [ravel, h1]; rfl, h2, h3⟩
  bwd k hk := by
    obtain ⟨p, h1, h2, h3⟩ := (ravel_ok s hw).bwd k hk
    exact ⟨p, h1, h2, by rw [ravel, h3]; rfl⟩

mutual
theorem checkSpace_eq_supported : ∀ (s : Space), checkSpace s = supported s
  | .discrete _ _ => rfl
  | .multiBinary _ => rfl
  | .multiDiscrete _ => rfl
  | .box _ _ _ _ => rfl
  | .fbox _ _ _ => rfl
  | .ubox _ => rfl
  | .dict _ ss => by simp only [checkSpace, supported, checkSpaceL_eq_supportedL ss]
  | .tuple ss => by simp only [checkSpace, supported, checkSpaceL_eq_supportedL ss]
theorem checkSpaceL_eq_supportedL : ∀ (ss : List Space), checkSpaceL ss = supportedL ss
  | [] => rfl
  | s :: ss => by
    simp only [checkSpaceL, supportedL, checkSpace_eq_supported s, checkSpaceL_eq_supportedL ss]
end

mutual
theorem wf_supported : ∀ (s : Space), wf s = true → supported s = true
  | .discrete _ _, _ => rfl
  | .multiBinary _, _ => rfl
  | .multiDiscrete _, _ => rfl
  | .box _ _ _ wide, hw => by
    simp only [wf, Bool.and_eq_true] at hw
    simp only [supported]; exact hw.1.1.1
  | .fbox _ _ _, hw => nomatch hw
  | .ubox _, hw => nomatch hw
  | .dict _ ss, hw => by
    simp only [wf, Bool.and_eq_true] at hw
    simp only [supported]; exact wfL_supportedL ss hw.2
  | .tuple ss, hw => by
    simp only [wf, Bool.and_eq_true] at hw
    simp only [supported]; exact wfL_supportedL ss hw.2
theorem wfL_supportedL : ∀ (ss : List Space), wfL ss = true → supportedL ss = true
  | [], _ => rfl
  | s :: ss, hw => by
    simp only [wfL, Bool.and_eq_true] at hw
    simp only [supportedL, wf_supported s hw.1, wfL_supportedL ss hw.2, Bool.and_self]
end

mutual
theorem Pt.beq_iff : ∀ (p q : Pt), Pt.beq p q = true ↔ p = q
  | .scalar _, .scalar _ => by simp [Pt.beq]
  | .arr _, .arr _ => by simp [Pt.beq]
  | .dict _ ps, .dict _ qs => by simp [Pt.beq, Pt.beqL_iff ps qs]
  | .tuple ps, .tuple qs => by simp [Pt.beq, Pt.beqL_iff ps qs]
  | .scalar _, .arr _ | .scalar _, .dict _ _ | .scalar _, .tuple _ | .arr _, .scalar _ | .arr _, .dict _ _
  | .arr _, .tuple _ | .dict _ _, .scalar _ | .dict _ _, .arr _ | .dict _ _, .tuple _ | .tuple _, .scalar _
  | .tuple _, .arr _ | .tuple _, .dict _ _ => by simp [Pt.beq]
theorem Pt.beqL_iff : ∀ (ps qs : List Pt), Pt.beqL ps qs = true ↔ ps = qs
  | [], [] => by simp [Pt.beqL]
  | p :: ps, q :: qs => by simp [Pt.beqL, Pt.beq_iff p q, Pt.beqL_iff ps qs]
  | [], _ :: _ | _ :: _, [] => by simp [Pt.beqL]
end

theorem Pt.beqL_refl : ∀ (ps : List Pt), Pt.beqL ps ps = true := fun ps => (Pt.beqL_iff ps ps).mpr rfl

theorem Pt.eq_of_beqL : ∀ (ps qs : List Pt), Pt.beqL ps qs = true → ps = qs := fun ps qs =>
  (Pt.beqL_iff ps qs).mp

instance : LawfulBEq Pt where
  rfl := (Pt.beq_iff _ _).mpr rfl
  eq_of_beq := (Pt.beq_iff _ _).mp

end Abmarl
