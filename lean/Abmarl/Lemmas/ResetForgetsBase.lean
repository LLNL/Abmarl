import Abmarl.Lemmas.Vitals
/-!
# Reset forgets — the agreement relation; health, ammunition, orientation

Two worlds *agree* (`WAgree cf F C x1 x2`) when they have the same static part, state lists as long as
the configuration, the same cell table if `C`, and when every agent's dynamic fields agree on the
field groups switched on by the flags `F` (one predicate over agents per group: position, health and
activity, ammunition, orientation).  The ghost fields — the ammunition of an agent without
ammunition, the orientation of an agent without orientation — must agree whatever the flags say: no
component ever writes them.

The reset components map agreeing worlds to agreeing worlds (or to the same error), each with its
own flag switched on for every agent, and agreement on everything is equality (`WAgree.eq_of_all`).  Here the three
vitals components: each is one pass over the listing (`World.passFrom`, Lemmas/Vitals.lean) in which the value
written is a function of the configuration and the tape alone (`passFrom_agree`).  The placement states and any list
of components (`applyComps_agree`) are in ResetForgetsComps; `grid_reset_forgets` is in Props/C08Grid.lean.
-/
namespace Abmarl
open World

/-- which field groups of which agents are already known to agree -/
structure Flags where
  P : Aid → Prop
  H : Aid → Prop
  A : Aid → Prop
  O : Aid → Prop

def Flags.none : Flags := ⟨fun _ => False, fun _ => False, fun _ => False, fun _ => False⟩
def Flags.all : Flags := ⟨fun _ => True, fun _ => True, fun _ => True, fun _ => True⟩

/-- `F'` claims at agent `b` no more than `F` -/
structure Flags.LeAt (F' F : Flags) (b : Aid) : Prop where
  P : F'.P b → F.P b
  H : F'.H b → F.H b
  A : F'.A b → F.A b
  O : F'.O b → F.O b

theorem Flags.LeAt.refl (F : Flags) (b : Aid) : Flags.LeAt F F b := ⟨id, id, id, id⟩

/-! Switching a flag on for one more agent, or for the agents of a list, is stated with `∨`; the
three ways such a disjunction is taken apart again: -/

theorem or_of_ne {p : Prop} {b a : Aid} (hb : b ≠ a) (h : p ∨ b = a) : p :=
  h.elim id fun e => (hb e).elim

theorem or_of_mem_nil {p : Prop} {b : Aid} (h : p ∨ b ∈ ([] : List Aid)) : p :=
  h.elim id fun e => nomatch e

theorem or_mem_cons {p : Prop} {b a : Aid} {as : List Aid} (h : p ∨ b ∈ a :: as) : (p ∨ b = a) ∨ b ∈ as :=
  h.elim (fun hp => Or.inl (Or.inl hp)) fun hm =>
    (List.mem_cons.mp hm).elim (fun e => Or.inl (Or.inr e)) Or.inr

structure StAgree (c : AgentCfg) (F : Flags) (a : Aid) (s1 s2 : AgentSt) : Prop where
  pos : F.P a → s1.pos = s2.pos
  health : F.H a → s1.health = s2.health
  active : F.H a → s1.active = s2.active
  ammo : F.A a ∨ c.hasAmmo = false → s1.ammo = s2.ammo
  orient : F.O a ∨ c.hasOrient = false → s1.orient = s2.orient

theorem StAgree.rfl' (c : AgentCfg) (F : Flags) (a : Aid) (s : AgentSt) : StAgree c F a s s :=
  ⟨fun _ => rfl, fun _ => rfl, fun _ => rfl, fun _ => rfl, fun _ => rfl⟩

theorem StAgree.mono {c : AgentCfg} {F F' : Flags} {a : Aid} {s1 s2 : AgentSt}
    (h : StAgree c F a s1 s2) (hle : Flags.LeAt F' F a) : StAgree c F' a s1 s2 :=
  ⟨fun p => h.pos (hle.P p), fun p => h.health (hle.H p), fun p => h.active (hle.H p),
   fun p => h.ammo (p.imp hle.A id), fun p => h.orient (p.imp hle.O id)⟩

/-- the agreement of two worlds of configuration `cf`.  `cf` is a parameter of its own, not `x1.cfg`,
so that it stays the same term while the two worlds are rewritten step by step; `C` says whether the
cell tables are known to agree; it is a proposition so that `True` (after a placement state) and
"one of the components so far is a placement state" (ResetForgetsComps) can both stand there. -/
structure WAgree (cf : List AgentCfg) (F : Flags) (C : Prop) (x1 x2 : World) : Prop where
  rows : x1.rows = x2.rows
  cols : x1.cols = x2.cols
  overlap : x1.overlap = x2.overlap
  cfg1 : x1.cfg = cf
  cfg2 : x2.cfg = cf
  len1 : x1.st.length = cf.length
  len2 : x2.st.length = cf.length
  cells : C → x1.cells = x2.cells
  st : ∀ a, StAgree (cf.getD a {}) F a (x1.stOf a) (x2.stOf a)

namespace WAgree
variable {cf : List AgentCfg} {F F' : Flags} {C C' : Prop} {x1 x2 : World}

theorem cfg (h : WAgree cf F C x1 x2) : x1.cfg = x2.cfg := h.cfg1.trans h.cfg2.symm
theorem n1 (h : WAgree cf F C x1 x2) : x1.n = cf.length := by simp [World.n, h.cfg1]
theorem n2 (h : WAgree cf F C x1 x2) : x2.n = cf.length := by simp [World.n, h.cfg2]
theorem cfgOf1 (h : WAgree cf F C x1 x2) (a : Aid) : x1.cfgOf a = cf.getD a {} := by
  simp [World.cfgOf, h.cfg1]
theorem cfgOf2 (h : WAgree cf F C x1 x2) (a : Aid) : x2.cfgOf a = cf.getD a {} := by
  simp [World.cfgOf, h.cfg2]
theorem cfgOf_eq (h : WAgree cf F C x1 x2) (a : Aid) : x1.cfgOf a = x2.cfgOf a :=
  (h.cfgOf1 a).trans (h.cfgOf2 a).symm
theorem encOf_eq (h : WAgree cf F C x1 x2) (a : Aid) : x1.encOf a = x2.encOf a := by
  simp [World.encOf, h.cfgOf_eq a]
theorem lenEq (h : WAgree cf F C x1 x2) : x1.st.length = x2.st.length := h.len1.trans h.len2.symm

/-- beyond the listing both worlds read the default state: there every flag may be claimed -/
theorem st_ge (h : WAgree cf F C x1 x2) {b : Aid} (hb : cf.length ≤ b) :
    StAgree (cf.getD b {}) F' b (x1.stOf b) (x2.stOf b) := by
  rw [stOf_ge (h.len1.trans_le hb), stOf_ge (h.len2.trans_le hb)]
  exact StAgree.rfl' _ _ _ _

/-- the flags need to be compared only at agents the worlds have -/
theorem mono (h : WAgree cf F C x1 x2) (hle : ∀ b, b < cf.length → Flags.LeAt F' F b) (hC : C' → C) :
    WAgree cf F' C' x1 x2 :=
  ⟨h.rows, h.cols, h.overlap, h.cfg1, h.cfg2, h.len1, h.len2, fun c => h.cells (hC c), fun b =>
    (Nat.lt_or_ge b cf.length).elim (fun hb => (h.st b).mono (hle b hb)) h.st_ge⟩

theorem setSt (h : WAgree cf F C x1 x2) (a : Aid) (s1 s2 : AgentSt)
    (hs : StAgree (cf.getD a {}) F' a s1 s2) (hle : ∀ b, b ≠ a → Flags.LeAt F' F b) :
    WAgree cf F' C (x1.setSt a s1) (x2.setSt a s2) := by
  refine ⟨h.rows, h.cols, h.overlap, h.cfg1, h.cfg2, ?_, ?_, h.cells, fun b => ?_⟩
  · simp only [World.setSt, List.length_set]; exact h.len1
  · simp only [World.setSt, List.length_set]; exact h.len2
  · rw [stOf_setSt, stOf_setSt, ← h.lenEq]
    by_cases hb : b = a
    · subst hb
      by_cases hl : b < x1.st.length
      · simp only [hl, and_self, if_true]; exact hs
      · simp only [hl, and_false, if_false]
        exact h.st_ge (h.len1 ▸ Nat.le_of_not_lt hl)
    · simp only [hb, false_and, if_false]
      exact (h.st b).mono (hle b hb)

theorem withCells (h : WAgree cf F C x1 x2) (c : List (List Aid)) :
    WAgree cf F True { x1 with cells := c } { x2 with cells := c } :=
  ⟨h.rows, h.cols, h.overlap, h.cfg1, h.cfg2, h.len1, h.len2, fun _ => rfl, h.st⟩

end WAgree

theorem agentSt_ext {s1 s2 : AgentSt} (h1 : s1.pos = s2.pos) (h2 : s1.health = s2.health)
    (h3 : s1.active = s2.active) (h4 : s1.ammo = s2.ammo) (h5 : s1.orient = s2.orient) : s1 = s2 := by
  cases s1; cases s2; simp_all

theorem WAgree.eq_of_all {cf : List AgentCfg} {x1 x2 : World} (h : WAgree cf Flags.all True x1 x2) : x1 = x2 := by
  have hst : x1.st = x2.st := by
    apply List.ext_getElem h.lenEq
    intro i h1 h2
    have hs := h.st i
    have e1 : x1.stOf i = x1.st[i] := by simp [World.stOf, List.getD_eq_getElem?_getD, h1]
    have e2 : x2.stOf i = x2.st[i] := by simp [World.stOf, List.getD_eq_getElem?_getD, h2]
    rw [e1, e2] at hs
    exact agentSt_ext (hs.pos trivial) (hs.health trivial) (hs.active trivial)
      (hs.ammo (Or.inl trivial)) (hs.orient (Or.inl trivial))
  obtain ⟨r1, c1, o1, ce1, cf1, st1⟩ := x1
  obtain ⟨r2, c2, o2, ce2, cf2, st2⟩ := x2
  have := h.rows; have := h.cols; have := h.overlap; have := h.cfg; have := h.cells trivial
  simp_all

/-- relation on outcomes: the same error, or related results -/
def ERel {β : Type} (R : β → β → Prop) : Except GErr β → Except GErr β → Prop
  | .ok a, .ok b => R a b
  | .error e1, .error e2 => e1 = e2
  | _, _ => False

theorem ERel.cases' {β : Type} {R : β → β → Prop} {r1 r2 : Except GErr β} (h : ERel R r1 r2) :
    (∃ e, r1 = .error e ∧ r2 = .error e) ∨ (∃ a b, r1 = .ok a ∧ r2 = .ok b ∧ R a b) := by
  cases r1 with
  | error e1 =>
    cases r2 with
    | error e2 => simp only [ERel] at h; exact Or.inl ⟨e1, rfl, by rw [h]⟩
    | ok b => exact False.elim h
  | ok a =>
    cases r2 with
    | error e2 => exact False.elim h
    | ok b => exact Or.inr ⟨a, b, rfl, rfl, h⟩

theorem ERel.eq_of {β : Type} {R : β → β → Prop} (hR : ∀ a b, R a b → a = b)
    {r1 r2 : Except GErr β} (h : ERel R r1 r2) : r1 = r2 := by
  rcases h.cases' with ⟨e, rfl, rfl⟩ | ⟨a, b, rfl, rfl, hab⟩
  · rfl
  · rw [hR a b hab]

theorem ERel.mono {β : Type} {R R' : β → β → Prop} (hR : ∀ a b, R a b → R' a b)
    {r1 r2 : Except GErr β} (h : ERel R r1 r2) : ERel R' r1 r2 := by
  rcases h.cases' with ⟨e, rfl, rfl⟩ | ⟨a, b, rfl, rfl, hab⟩
  · exact rfl
  · exact hR a b hab

/-- one pass over the listing on agreeing worlds.  `on S F` is `F` with one flag group switched on for
the agents in `S`; `h0`, `h1`, `h2` are the three ways such a disjunction is taken apart again
(`or_of_mem_nil`, `or_of_ne`, `or_mem_cons`).  `hstep`: the rewriting maps states of agent `a` that
agree to states that agree on that group as well, and leaves the same tape. -/
theorem passFrom_agree {cf : List AgentCfg} {C : Prop} (step : AgentCfg → AgentSt → Tape → AgentSt × Tape)
    (on : (Aid → Prop) → Flags → Flags)
    (h0 : ∀ F b, Flags.LeAt (on (· ∈ ([] : List Aid)) F) F b)
    (h1 : ∀ F a b, b ≠ a → Flags.LeAt (on (· = a) F) F b)
    (h2 : ∀ F a as b, Flags.LeAt (on (· ∈ a :: as) F) (on (· ∈ as) (on (· = a) F)) b)
    (hstep : ∀ (F : Flags) (a : Aid) (s1 s2 : AgentSt) (t : Tape), StAgree (cf.getD a {}) F a s1 s2 →
      StAgree (cf.getD a {}) (on (· = a) F) a (step (cf.getD a {}) s1 t).1 (step (cf.getD a {}) s2 t).1 ∧
      (step (cf.getD a {}) s1 t).2 = (step (cf.getD a {}) s2 t).2)
    (l : List Aid) :
    ∀ (F : Flags) (x1 x2 : World) (t : Tape), WAgree cf F C x1 x2 →
      WAgree cf (on (· ∈ l) F) C (passFrom step l x1 t).1 (passFrom step l x2 t).1 ∧
      (passFrom step l x1 t).2 = (passFrom step l x2 t).2 := by
  induction l with
  | nil =>
    intro F x1 x2 t h
    exact ⟨h.mono (fun b _ => h0 F b) id, rfl⟩
  | cons a as ih =>
    intro F x1 x2 t h
    obtain ⟨hs, ht⟩ := hstep F a (x1.stOf a) (x2.stOf a) t (h.st a)
    simp only [passFrom]
    rw [h.cfgOf1 a, h.cfgOf2 a, ← ht]
    obtain ⟨i1, i2⟩ := ih _ _ _ (step (cf.getD a {}) (x1.stOf a) t).2
      (h.setSt a _ _ hs (fun b hb => h1 F a b hb))
    exact ⟨i1.mono (fun b _ => h2 F a as b) id, i2⟩

theorem WAgree.setHealth {cf : List AgentCfg} {F : Flags} {C : Prop} {x1 x2 : World} (h : WAgree cf F C x1 x2) (a : Aid)
    (v : Rat) :
    WAgree cf { F with H := fun b => F.H b ∨ b = a } C (x1.setHealth a v) (x2.setHealth a v) := by
  simp only [World.setHealth]
  refine h.setSt a _ _ ⟨fun p => (h.st a).pos p, fun _ => rfl, fun _ => rfl,
    fun p => (h.st a).ammo p, fun p => (h.st a).orient p⟩ (fun b hb => ⟨id, or_of_ne hb, id, id⟩)

theorem healthReset_agree {cf : List AgentCfg} {F : Flags} {C : Prop} {x1 x2 : World} (t : Tape)
    (closed : Bool) (h : WAgree cf F C x1 x2) :
    WAgree cf { F with H := fun _ => True } C (x1.healthReset t closed).1 (x2.healthReset t closed).1 ∧
    (x1.healthReset t closed).2 = (x2.healthReset t closed).2 := by
  simp only [World.healthReset, h.n1, h.n2, healthResetFrom_eq]
  obtain ⟨i1, i2⟩ := passFrom_agree (healthStep closed) (fun S F => { F with H := fun b => F.H b ∨ S b })
    (fun _ _ => ⟨id, or_of_mem_nil, id, id⟩) (fun _ _ _ hb => ⟨id, or_of_ne hb, id, id⟩)
    (fun _ _ _ _ => ⟨id, or_mem_cons, id, id⟩)
    (fun F a s1 s2 t hs => by
      -- the value written is a function of the configuration and the tape
      unfold healthStep
      cases (cf.getD a {}).initHealth <;>
        exact ⟨⟨hs.pos, fun _ => rfl, fun _ => rfl, hs.ammo, hs.orient⟩, rfl⟩)
    (List.range cf.length) F x1 x2 t h
  exact ⟨i1.mono (fun b hb => ⟨id, fun _ => Or.inr (List.mem_range.mpr hb), id, id⟩) id, i2⟩

theorem ammoReset_agree {cf : List AgentCfg} {F : Flags} {C : Prop} {x1 x2 : World}
    (h : WAgree cf F C x1 x2) :
    WAgree cf { F with A := fun _ => True } C x1.ammoReset x2.ammoReset := by
  simp only [World.ammoReset, h.n1, h.n2, ammoResetFrom_eq _ _ ([] : Tape)]
  obtain ⟨i1, -⟩ := passFrom_agree ammoStep (fun S F => { F with A := fun b => F.A b ∨ S b })
    (fun _ _ => ⟨id, id, or_of_mem_nil, id⟩) (fun _ _ _ hb => ⟨id, id, or_of_ne hb, id⟩)
    (fun _ _ _ _ => ⟨id, id, or_mem_cons, id⟩)
    (fun F a s1 s2 t hs => by
      unfold ammoStep
      cases hA : (cf.getD a {}).hasAmmo
      · -- nothing is written: the ammunition of an agent without ammunition is a ghost field
        exact ⟨⟨hs.pos, hs.health, hs.active, fun _ => hs.ammo (Or.inr hA), hs.orient⟩, rfl⟩
      · exact ⟨⟨hs.pos, hs.health, hs.active, fun _ => rfl, hs.orient⟩, rfl⟩)
    (List.range cf.length) F x1 x2 [] h
  exact i1.mono (fun b hb => ⟨id, id, fun _ => Or.inr (List.mem_range.mpr hb), id⟩) id

theorem orientReset_agree {cf : List AgentCfg} {F : Flags} {C : Prop} {x1 x2 : World} (t : Tape)
    (h : WAgree cf F C x1 x2) :
    WAgree cf { F with O := fun _ => True } C (x1.orientReset t).1 (x2.orientReset t).1 ∧
    (x1.orientReset t).2 = (x2.orientReset t).2 := by
  simp only [World.orientReset, h.n1, h.n2, orientResetFrom_eq]
  obtain ⟨i1, i2⟩ := passFrom_agree orientStep (fun S F => { F with O := fun b => F.O b ∨ S b })
    (fun _ _ => ⟨id, id, id, or_of_mem_nil⟩) (fun _ _ _ hb => ⟨id, id, id, or_of_ne hb⟩)
    (fun _ _ _ _ => ⟨id, id, id, or_mem_cons⟩)
    (fun F a s1 s2 t hs => by
      unfold orientStep
      cases hO : (cf.getD a {}).hasOrient
      · exact ⟨⟨hs.pos, hs.health, hs.active, hs.ammo, fun _ => hs.orient (Or.inr hO)⟩, rfl⟩
      · simp only [if_true]
        split <;> exact ⟨⟨hs.pos, hs.health, hs.active, hs.ammo, fun _ => rfl⟩, rfl⟩)
    (List.range cf.length) F x1 x2 t h
  exact ⟨i1.mono (fun b hb => ⟨id, id, id, fun _ => Or.inr (List.mem_range.mpr hb)⟩) id, i2⟩

end Abmarl
