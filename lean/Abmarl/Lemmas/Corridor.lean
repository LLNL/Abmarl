import Abmarl.Spec.Corridor
import Abmarl.Lemmas.Oracle
import Abmarl.Lemmas.ManagersInv
/-!
# `MultiCorridor`: the invariant of every reachable state, `Lawful`, no-raise, reset

`Cor.Inv` is the Prop form of `Cor.invb` (Spec/Corridor.lean).  What one item of an action dict and the loop of
`step` do from a state of the invariant, and what `reset` does, is stated once each, with every outcome
(`step1_cases`, `stepLoop_shape`, `reset_cases`).  `reset` establishes the invariant (`reset_inv`), every item of
every action dict preserves it (`step1_inv`: also the items of agents that are already done — such an agent may
walk back into the corridor —, hence also the state a raising `step` leaves); that the getters keep it is
`Cor.runOp_good` (Props/Corridor.lean).
-/
namespace Abmarl
namespace Cor

structure Inv (cfg : Cfg) (d : Dyn) : Prop where
  lp  : d.pos.length = cfg.n
  lc  : d.cor.length = cfg.endp
  lr  : d.rew.length = cfg.n
  inb : ∀ a < cfg.n, d.pos.getD a 0 < cfg.endp
  cor : ∀ q < cfg.endp, ∀ a < cfg.n,
          d.cor.getD q none = some a ↔ (d.pos.getD a 0 = q ∧ q + 1 ≠ cfg.endp)
  own : ∀ q < cfg.endp, ∀ a, d.cor.getD q none = some a → a < cfg.n

theorem invb_iff (cfg : Cfg) (d : Dyn) : invb cfg d = true ↔ Inv cfg d := by
  have hown : ∀ o : Option Aid, (match o with
        | none => true
        | some a => decide (a < cfg.n)) = true ↔ ∀ a, o = some a → a < cfg.n := by
    intro o
    cases o <;> simp
  unfold invb
  simp only [Bool.and_eq_true, List.all_eq_true, List.mem_range, decide_eq_true_eq]
  constructor
  · rintro ⟨⟨⟨⟨⟨h1, h2⟩, h3⟩, h4⟩, h5⟩, h6⟩
    exact ⟨h1, h2, h3, h4, h5, fun q hq => (hown _).mp (h6 q hq)⟩
  · intro h
    exact ⟨⟨⟨⟨⟨h.lp, h.lc⟩, h.lr⟩, h.inb⟩, h.cor⟩, fun q hq => (hown _).mpr (h.own q hq)⟩

theorem Inv.withRew {cfg : Cfg} {d : Dyn} (h : Inv cfg d) {rew' : List Int} (hr : rew'.length = d.rew.length) :
    Inv cfg { d with rew := rew' } :=
  ⟨h.lp, h.lc, hr.trans h.lr, h.inb, h.cor, h.own⟩

theorem Inv.last_none {cfg : Cfg} {d : Dyn} (h : Inv cfg d) {q : Nat} (hq : q + 1 = cfg.endp) :
    d.cor.getD q none = none := by
  cases hc : d.cor.getD q none with
  | none => rfl
  | some b =>
    have hb := h.own q (by omega) b hc
    exact absurd hq ((h.cor q (by omega) b hb).mp hc).2

/-- the clauses `cor` and `own` as one: who is stored where -/
theorem Inv.cell {cfg : Cfg} {d : Dyn} (h : Inv cfg d) {q : Nat} (hq : q < cfg.endp) (a : Aid) :
    d.cor.getD q none = some a ↔ a < cfg.n ∧ d.pos.getD a 0 = q ∧ q + 1 ≠ cfg.endp :=
  ⟨fun hc => ⟨h.own q hq a hc, (h.cor q hq a (h.own q hq a hc)).mp hc⟩, fun hc => (h.cor q hq a hc.1).mpr hc.2⟩

/-- agent `a` leaves its cell for the free cell `p'`, where it is stored unless `p'` is the last cell: the
invariant is kept -/
theorem move_inv {cfg : Cfg} {d : Dyn} (hI : Inv cfg d) {a : Aid} (ha : a < cfg.n) {p' : Nat}
    (hp' : p' < cfg.endp) (hfree : d.cor.getD p' none = none)
    {cor' : List (Option Aid)}
    (hc : cor' = if p' + 1 = cfg.endp then d.cor.set (d.pos.getD a 0) none
                 else (d.cor.set (d.pos.getD a 0) none).set p' (some a))
    {rew' : List Int} (hr : rew'.length = cfg.n) :
    Inv cfg { pos := d.pos.set a p', cor := cor', rew := rew' } := by
  have hp := hI.inb a ha
  have hpos : ∀ b, (d.pos.set a p').getD b 0 = if b = a then p' else d.pos.getD b 0 :=
    fun b => getD_set_lt (by rw [hI.lp]; exact ha) ..
  have hcor : ∀ q, cor'.getD q none = if q = p' then (if p' + 1 = cfg.endp then none else some a)
      else if q = d.pos.getD a 0 then none else d.cor.getD q none := by
    intro q
    rw [hc]
    split
    · rw [getD_set_lt (by rw [hI.lc]; exact hp)]
      by_cases hq : q = p'
      · rw [if_pos hq, hq, hfree, ite_self]
      · rw [if_neg hq]
    · rw [getD_set_lt (by rw [List.length_set, hI.lc]; exact hp'), getD_set_lt (by rw [hI.lc]; exact hp)]
  -- nobody but `a` is stored on the cell `a` leaves
  have hold : ∀ b, b ≠ a → d.cor.getD (d.pos.getD a 0) none ≠ some b := by
    intro b hba hb
    rw [(hI.cell hp a).mpr ⟨ha, rfl, ((hI.cell hp b).mp hb).2.2⟩] at hb
    exact hba (Option.some.inj hb).symm
  have hcell : ∀ q < cfg.endp, ∀ b, cor'.getD q none = some b ↔
      b < cfg.n ∧ (d.pos.set a p').getD b 0 = q ∧ q + 1 ≠ cfg.endp := by
    intro q hq b
    rw [hcor, hpos]
    by_cases hba : b = a
    · -- `a` is stored on `p'` and nowhere else
      rw [hba, if_pos rfl]
      by_cases hqp : q = p'
      · by_cases he : p' + 1 = cfg.endp <;> simp [he, hqp, ha]
      · rw [if_neg hqp]
        refine iff_of_false (fun h => ?_) (fun h => hqp h.2.1.symm)
        split at h
        next => cases h
        next hqa => exact hqa ((hI.cell hq a).mp h).2.1.symm
    · -- the others are stored where they were: not on `p'`, which was free, nor on the cell `a` leaves
      rw [if_neg hba, ← hI.cell hq b]
      by_cases hqp : q = p'
      · rw [if_pos hqp, hqp, hfree]
        refine iff_of_false (fun h => ?_) (fun h => by cases h)
        split at h
        · cases h
        · exact hba (Option.some.inj h).symm
      · rw [if_neg hqp]
        split
        next hqa => exact iff_of_false (fun h => by cases h) (hqa ▸ hold b hba)
        next => rfl
  refine ⟨by simp [hI.lp], ?_, hr, fun b hb => ?_, fun q hq b hb => ?_, fun q hq b h => ((hcell q hq b).mp h).1⟩
  · rw [hc]
    split <;> simp [hI.lc]
  · rw [hpos]
    split
    · exact hp'
    · exact hI.inb b hb
  · rw [hcell q hq b]
    simp [hb]

theorem addAt_length (r : List Int) (a : Aid) (x : Int) : (addAt r a x).length = r.length := by
  simp [addAt]

theorem step1_cases {cfg : Cfg} {d : Dyn} (hI : Inv cfg d) (x : Aid × Int) :
    match step1 cfg d x with
    | .ok d' => Inv cfg d' ∧ ∀ b, b ≠ x.1 → d'.pos.getD b 0 = d.pos.getD b 0
    | .error _ => cfg.n ≤ x.1 ∨ doneOf cfg d x.1 = true := by
  unfold step1
  by_cases hn : cfg.n ≤ x.1
  · rw [if_pos hn]; exact .inl hn
  · rw [if_neg hn]
    have ha : x.1 < cfg.n := Nat.lt_of_not_le hn
    have hp := hI.inb x.1 ha
    have rewOnly : ∀ rew' : List Int, rew'.length = d.rew.length →
        Inv cfg { d with rew := rew' } ∧
          ∀ b, b ≠ x.1 → ({ d with rew := rew' } : Dyn).pos.getD b 0 = d.pos.getD b 0 :=
      fun rew' hr => ⟨hI.withRew hr, fun _ _ => rfl⟩
    -- the agent leaves its cell for the free cell `p'`
    have moved : ∀ {p' : Nat} {cor' : List (Option Aid)} (rew' : List Int), p' < cfg.endp →
        d.cor.getD p' none = none → rew'.length = d.rew.length →
        cor' = (if p' + 1 = cfg.endp then d.cor.set (d.pos.getD x.1 0) none
                else (d.cor.set (d.pos.getD x.1 0) none).set p' (some x.1)) →
        Inv cfg { pos := d.pos.set x.1 p', cor := cor', rew := rew' } ∧
          ∀ b, b ≠ x.1 → (d.pos.set x.1 p').getD b 0 = d.pos.getD b 0 :=
      fun rew' hp' hfree hr hcor => ⟨move_inv hI ha hp' hfree hcor (hr.trans hI.lr),
        fun b hb => getD_set_ne _ _ _ _ _ (Ne.symm hb)⟩
    by_cases h0 : x.2 = 0
    · rw [if_pos h0]
      by_cases hp0 : d.pos.getD x.1 0 = 0
      · rw [if_pos hp0]; exact rewOnly _ (addAt_length ..)
      · rw [if_neg hp0]
        cases hc : d.cor.getD (d.pos.getD x.1 0 - 1) none with
        | none => exact moved _ (by omega) hc (addAt_length ..) (by rw [if_neg (by omega)])
        | some b => exact rewOnly _ (by simp [addAt_length])
    · rw [if_neg h0]
      by_cases h2 : x.2 = 2
      · rw [if_pos h2]
        by_cases hl : d.cor.length ≤ d.pos.getD x.1 0 + 1
        · rw [if_pos hl]
          rw [hI.lc] at hl
          exact .inr (decide_eq_true (by omega))
        · rw [if_neg hl]
          rw [hI.lc] at hl
          cases hc : d.cor.getD (d.pos.getD x.1 0 + 1) none with
          | none =>
            by_cases hend : d.pos.getD x.1 0 + 1 = cfg.endp - 1
            · rw [if_pos hend]
              exact moved _ (by omega) hc (addAt_length ..) (by rw [if_pos (by omega)])
            · rw [if_neg hend]
              exact moved _ (by omega) hc (addAt_length ..) (by rw [if_neg (by omega)])
          | some b => exact rewOnly _ (by simp [addAt_length])
      · rw [if_neg h2]
        by_cases h1 : x.2 = 1
        · rw [if_pos h1]; exact rewOnly _ (addAt_length ..)
        · rw [if_neg h1]; exact rewOnly d.rew rfl

theorem step1_inv {cfg : Cfg} {d d' : Dyn} {x : Aid × Int} (hI : Inv cfg d)
    (h : step1 cfg d x = .ok d') : Inv cfg d' := by
  have := step1_cases hI x
  rw [h] at this
  exact this.1

theorem stepLoop_shape {cfg : Cfg} (acts : List (Aid × Int)) : ∀ {d : Dyn}, Inv cfg d →
    Inv cfg (stepLoop cfg d acts).1 ∧
    (∀ b, b ∉ acts.map (·.1) → (stepLoop cfg d acts).1.pos.getD b 0 = d.pos.getD b 0) ∧
    ((acts.map (·.1)).Nodup → (∀ x ∈ acts, x.1 < cfg.n ∧ doneOf cfg d x.1 = false) →
      (stepLoop cfg d acts).2 = none) := by
  induction acts with
  | nil => exact fun h => ⟨h, fun _ _ => rfl, fun _ _ => rfl⟩
  | cons x xs ih =>
    intro d h
    simp only [stepLoop, List.map_cons, List.mem_cons, not_or, List.nodup_cons]
    have h1 := step1_cases h x
    cases hs : step1 cfg d x with
    | error e =>
      -- an item that raises is for an unknown agent or for one that is done
      rw [hs] at h1
      refine ⟨h, fun _ _ => rfl, fun _ hall => ?_⟩
      obtain ⟨hx1, hx2⟩ := hall x (.inl rfl)
      rw [hx2] at h1
      exact h1.elim (fun h => absurd hx1 (Nat.not_lt.mpr h)) (fun h => by cases h)
    | ok d' =>
      rw [hs] at h1
      obtain ⟨hI', hfr⟩ := h1
      obtain ⟨i1, i2, i3⟩ := ih hI'
      refine ⟨i1, fun b hb => by rw [i2 b hb.2, hfr b hb.1], fun hnd hall => i3 hnd.2 fun y hy => ?_⟩
      -- the agents of the later items are not the agent of this one: they are still not done
      have hne : y.1 ≠ x.1 := fun he => hnd.1 (by rw [← he]; exact List.mem_map_of_mem hy)
      simp only [doneOf, hfr y.1 hne]
      exact hall y (.inr hy)

theorem stepLoop_ok {cfg : Cfg} (acts : List (Aid × Int)) : ∀ {d : Dyn}, Inv cfg d →
    (acts.map (·.1)).Nodup → (∀ x ∈ acts, x.1 < cfg.n ∧ doneOf cfg d x.1 = false) →
    (stepLoop cfg d acts).2 = none :=
  fun h => (stepLoop_shape acts h).2.2

theorem place_length (cor : List (Option Aid)) (ps : List Nat) (i : Aid) :
    (place cor ps i).length = cor.length := by
  induction ps generalizing cor i with
  | nil => rfl
  | cons p ps ih => simp [place, ih]

theorem place_getD (ps : List Nat) : ∀ (cor : List (Option Aid)) (i : Aid), ps.Nodup →
    (∀ p ∈ ps, p < cor.length) → ∀ q a,
    ((place cor ps i).getD q none = some a ↔
      (∃ k < ps.length, ps.getD k 0 = q ∧ a = i + k) ∨ (q ∉ ps ∧ cor.getD q none = some a)) := by
  induction ps with
  | nil => intro cor i _ _ q a; simp [place]
  | cons p ps ih =>
    intro cor i hnd hlt q a
    rw [List.nodup_cons] at hnd
    rw [place, ih _ (i + 1) hnd.2 (fun r hr => by rw [List.length_set]; exact hlt r (.tail _ hr)),
      getD_set_lt (hlt p (.head _))]
    constructor
    · rintro (⟨k, hk, hq, rfl⟩ | ⟨hq, h⟩)
      · exact .inl ⟨k + 1, Nat.succ_lt_succ hk, hq, Nat.add_right_comm i 1 k⟩
      · by_cases hqp : q = p
        · rw [if_pos hqp] at h
          exact .inl ⟨0, Nat.zero_lt_succ _, hqp.symm, (Option.some.inj h).symm⟩
        · rw [if_neg hqp] at h
          exact .inr ⟨by simp [hqp, hq], h⟩
    · rintro (⟨k, hk, hq, rfl⟩ | ⟨hq, h⟩)
      · cases k with
        | zero =>
          cases hq
          exact .inr ⟨hnd.1, if_pos rfl⟩
        | succ k => exact .inl ⟨k, Nat.lt_of_succ_lt_succ hk, hq, (Nat.add_right_comm i 1 k).symm⟩
      · rw [List.mem_cons, not_or] at hq
        exact .inr ⟨hq.2, by rw [if_neg hq.1]; exact h⟩

theorem placed_inv {cfg : Cfg} {locs : List Nat} (hlen : locs.length = cfg.n)
    (hsub : locs.Subperm (List.range (cfg.endp - 1))) {rew : List Int} (hr : rew.length = cfg.n) :
    Inv cfg { pos := locs, cor := place (List.replicate cfg.endp none) locs 0, rew := rew } ∧
      ∀ a < cfg.n, locs.getD a 0 + 1 ≠ cfg.endp := by
  have hnd : locs.Nodup := by
    obtain ⟨l, hp, hs⟩ := hsub
    exact hp.nodup_iff.mp (hs.nodup List.nodup_range)
  have hlt : ∀ p ∈ locs, p < cfg.endp - 1 := fun p hp => List.mem_range.mp (hsub.subset hp)
  have hin : ∀ a < cfg.n, locs.getD a 0 < cfg.endp - 1 := fun a ha => hlt _ (getD_mem _ _ _ (hlen ▸ ha))
  have hcell : ∀ q < cfg.endp, ∀ a, (place (List.replicate cfg.endp none) locs 0).getD q none = some a ↔
      a < cfg.n ∧ locs.getD a 0 = q := by
    intro q hq a
    rw [place_getD locs _ 0 hnd (fun p hp => by rw [List.length_replicate]; have := hlt p hp; omega),
      getD_replicate _ _ _ _ hq, hlen]
    simp
  refine ⟨⟨hlen, by rw [place_length, List.length_replicate], hr, fun a ha => Nat.lt_of_lt_pred (hin a ha),
    fun q hq a ha => ?_, fun q hq a h => ((hcell q hq a).mp h).1⟩, fun a ha => by have := hin a ha; omega⟩
  rw [hcell q hq]
  exact ⟨fun h => ⟨h.2, by have := hin a ha; omega⟩, fun h => ⟨ha, h.1⟩⟩

theorem reset_cases (cfg : Cfg) (s : St) :
    (cfgOKb cfg = false ∧ reset cfg s = .error .other) ∨
    (cfgOKb cfg = true ∧ ∃ d t', reset cfg s = .ok { dyn := some d, tape := t' } ∧ Inv cfg d ∧
      d.rew = List.replicate cfg.n 0 ∧ ∀ a < cfg.n, doneOf cfg d a = false) := by
  unfold reset cfgOKb
  by_cases h1 : cfg.endp ≤ 1
  · exact .inl ⟨by simp; omega, by rw [if_pos h1]⟩
  · by_cases h2 : cfg.endp - 1 < cfg.n
    · exact .inl ⟨by simp; omega, by rw [if_neg h1, if_pos h2]⟩
    · have hlen := Oracle.choiceNoRepl_length (List.range (cfg.endp - 1)) cfg.n s.tape
      rw [List.length_range, Nat.min_eq_left (Nat.le_of_not_lt h2)] at hlen
      obtain ⟨hI, hd⟩ := placed_inv hlen (Oracle.choiceNoRepl_subperm ..)
        (List.length_replicate (n := cfg.n) (a := (0 : Int)))
      exact .inr ⟨by simp; omega, _, _, by rw [if_neg h1, if_neg h2], hI, rfl,
        fun a ha => by simpa [doneOf] using hd a ha⟩

theorem reset_inv {cfg : Cfg} {s s' : St} (h : reset cfg s = .ok s') :
    ∃ d, s'.dyn = some d ∧ Inv cfg d ∧ d.rew = List.replicate cfg.n 0 ∧
      ∀ a < cfg.n, doneOf cfg d a = false := by
  rcases reset_cases cfg s with ⟨_, h'⟩ | ⟨_, d, t', h', hd⟩
  · rw [h] at h'; cases h'
  · rw [h] at h'; cases h'; exact ⟨d, rfl, hd⟩

/-- **`reset` forgets** (C08) -/
theorem reset_forgets (cfg : Cfg) (s1 s2 : St) (ht : s1.tape = s2.tape) : reset cfg s1 = reset cfg s2 := by
  unfold reset
  rw [ht]

theorem getReward_shape {cfg : Cfg} {s s' : St} {a : Aid} {x : Int} (h : getReward cfg s a = .ok (x, s')) :
    ∃ d, s.dyn = some d ∧ a < cfg.n ∧ x = d.rew.getD a 0 ∧
      s' = { s with dyn := some { d with rew := d.rew.set a 0 } } := by
  unfold getReward at h
  cases hd : s.dyn with
  | none => simp [hd] at h
  | some d =>
    simp only [hd] at h
    by_cases hn : cfg.n ≤ a
    · simp [hn] at h
    · simp only [hn, if_false, Except.ok.injEq, Prod.mk.injEq] at h
      exact ⟨d, rfl, Nat.lt_of_not_le hn, h.1.symm, h.2.symm⟩

theorem reward_cases (cfg : Cfg) (s : St) (a : Aid) :
    (pendingOf cfg s a = 0 ∧ (toSimIface cfg).reward s a = (0, s)) ∨
    ∃ d, s.dyn = some d ∧ a < cfg.n ∧
      (toSimIface cfg).reward s a = (d.rew.getD a 0, { s with dyn := some { d with rew := d.rew.set a 0 } }) := by
  simp only [toSimIface, getReward, pendingOf]
  cases s.dyn with
  | none => exact .inl ⟨rfl, rfl⟩
  | some d =>
    by_cases hn : cfg.n ≤ a
    · exact .inl (by simp only [hn, if_true, and_self])
    · exact .inr ⟨d, rfl, Nat.lt_of_not_le hn, by simp only [hn, if_false]⟩

theorem cor_lawful (cfg : Cfg) : Lawful (toSimIface cfg) where
  obs_done := by intros; rfl
  obs_allDone := by intros; rfl
  obs_next := by intros; rfl
  obs_pending := by intros; rfl
  rew_done := by
    intro s a b
    rcases reward_cases cfg s a with ⟨_, h⟩ | ⟨d, hd, _, h⟩
    · rw [h]
    · rw [h]; simp only [toSimIface, getDone, hd, doneOf]
  rew_allDone := by
    intro s a
    rcases reward_cases cfg s a with ⟨_, h⟩ | ⟨d, hd, _, h⟩
    · rw [h]
    · rw [h]; simp only [toSimIface, getAllDone, hd, allDoneOf]; rfl
  rew_next := by intros; rfl
  rew_val := by
    intro s a
    rcases reward_cases cfg s a with ⟨h0, h⟩ | ⟨d, hd, ha, h⟩
    · rw [h]; exact h0.symm
    · rw [h]; simp only [toSimIface, pendingOf, hd, Nat.not_le.mpr ha, if_false]
  rew_pending := by
    intro s a b
    rcases reward_cases cfg s a with ⟨h0, h⟩ | ⟨d, hd, ha, h⟩
    · rw [h]
      by_cases hb : b = a
      · rw [if_pos hb, hb]; exact h0
      · rw [if_neg hb]
    · rw [h]
      simp only [toSimIface, pendingOf, hd, getD_set]
      by_cases hb : b = a
      · subst hb
        by_cases hl : b < d.rew.length <;> simp [Nat.not_le.mpr ha, hl]
      · have : ¬ a = b := fun h => hb h.symm
        simp [hb, this]

/-- `WF` for the two managers that can drive `MultiCorridor` (it is not a `DynamicOrderSimulation`);
the turn-based manager needs an agent -/
theorem cor_WF (cfg : Cfg) (k : MKind) (hk : k ≠ .dynamic) (hl : k = .turnBased → 0 < cfg.n) :
    WF (toSimIface cfg) k :=
  WF_of_lawful (cor_lawful cfg) hk (fun h => ⟨0, hl h, rfl⟩)

end Cor
end Abmarl
