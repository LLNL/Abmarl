import Abmarl.Lemmas.Done
import Abmarl.Lemmas.Dict
/-!
# C17: the smart simulation

`anyLazy` (Python's lazy `any`, which both done getters are) characterised once and composed with the
components' judges (`specAny_anyLazy`); `lastVal`, the judge's reading of a dict comprehension, against
`dictOf` (lemmas in `Lemmas/Dict.lean`), hence the model's merge of observations against its judge; `Smart.Call`,
what one call of a history does, on which the proofs about single calls go by cases.
-/
namespace Abmarl

section anyLazy
variable {δ : Type} (f : δ → Except GErr Bool)

theorem anyLazy_cons_false {d : δ} {ds : List δ} (h : f d = .ok false) :
    anyLazy f (d :: ds) = anyLazy f ds := by
  rw [anyLazy, h]

theorem anyLazy_cons_stop {d : δ} {ds : List δ} (h : f d ≠ .ok false) :
    anyLazy f (d :: ds) = f d := by
  rw [anyLazy]
  cases hf : f d with
  | error e => rfl
  | ok b =>
    cases b with
    | true => rfl
    | false => exact absurd hf h

theorem anyLazy_ok_false : ∀ ds : List δ, anyLazy f ds = .ok false ↔ ∀ d ∈ ds, f d = .ok false
  | [] => by simp [anyLazy]
  | d :: ds => by
    by_cases h : f d = .ok false
    · rw [anyLazy_cons_false f h, anyLazy_ok_false ds]
      simp [h]
    · rw [anyLazy_cons_stop f h]
      constructor
      · intro h'; exact absurd h' h
      · intro h'; exact h' d (by simp)

theorem anyLazy_append_false {pre : List δ} (h : ∀ x ∈ pre, f x = .ok false) (rest : List δ) :
    anyLazy f (pre ++ rest) = anyLazy f rest := by
  induction pre with
  | nil => rfl
  | cons d pre ih =>
    rw [List.cons_append, anyLazy_cons_false f (h d (List.mem_cons_self ..)),
      ih (fun x hx => h x (List.mem_cons_of_mem _ hx))]

theorem anyLazy_stop (r : Except GErr Bool) (hr : r ≠ .ok false) (ds : List δ) :
    anyLazy f ds = r ↔
      ∃ pre d post, ds = pre ++ d :: post ∧ (∀ x ∈ pre, f x = .ok false) ∧ f d = r := by
  constructor
  · induction ds with
    | nil => intro h; exact absurd h.symm hr
    | cons d ds ih =>
      by_cases h : f d = .ok false
      · rw [anyLazy_cons_false f h]
        intro h'
        obtain ⟨pre, d', post, rfl, hpre, hd'⟩ := ih h'
        exact ⟨d :: pre, d', post, rfl, List.forall_mem_cons.mpr ⟨h, hpre⟩, hd'⟩
      · rw [anyLazy_cons_stop f h]
        intro hfd
        exact ⟨[], d, ds, rfl, by simp, hfd⟩
  · rintro ⟨pre, d, post, rfl, hpre, hd⟩
    rw [anyLazy_append_false f hpre, anyLazy_cons_stop f (by rw [hd]; exact hr), hd]

theorem anyLazy_total : ∀ ds : List δ, (∀ d ∈ ds, ∃ b, f d = .ok b) →
    anyLazy f ds = .ok (ds.any fun d => f d matches .ok true)
  | [], _ => rfl
  | d :: ds, hok => by
    obtain ⟨b, hb⟩ := hok d (List.mem_cons_self ..)
    rw [anyLazy, List.any_cons, hb]
    cases b with
    | true => rfl
    | false => exact anyLazy_total ds fun x hx => hok x (List.mem_cons_of_mem _ hx)

theorem anyLazy_total_iff (ds : List δ) (hok : ∀ d ∈ ds, ∃ b, f d = .ok b) :
    ∃ b, anyLazy f ds = .ok b ∧ (b = true ↔ ∃ d ∈ ds, f d = .ok true) := by
  refine ⟨_, anyLazy_total f ds hok, ?_⟩
  rw [List.any_eq_true]
  refine exists_congr fun d => and_congr_right fun _ => ?_
  split <;> simp_all

theorem answerOK_ok {doc : Option Bool} {b : Bool} (h : answerOK doc (.ok b) = true) :
    (doc == some true) = b := by
  cases doc <;> cases b <;> simp_all [answerOK]

theorem answerOK_error {doc : Option Bool} {e : GErr} (h : answerOK doc (.error e) = true) :
    doc = none := by
  cases doc <;> simp_all [answerOK]

/-- the composition rule.  `False` means every component said `False`, hence none is documented
`True`; anything else is the outcome of one component, whose documented answer it meets -/
theorem specAny_anyLazy (doc : δ → Option Bool) (ds : List δ)
    (h : ∀ d ∈ ds, answerOK (doc d) (f d) = true) : specAny (ds.map doc) (anyLazy f ds) = true := by
  by_cases hr : anyLazy f ds = .ok false
  · rw [hr, specAny, beq_iff_eq, eq_comm, List.any_map, List.any_eq_false]
    intro d hd
    exact Bool.eq_false_iff.mp (answerOK_ok ((anyLazy_ok_false f ds).mp hr d hd ▸ h d hd))
  · obtain ⟨pre, d, post, rfl, -, hd⟩ := (anyLazy_stop f _ hr _).mp rfl
    have hok := h d (by simp)
    rw [← hd] at hr ⊢
    cases hf : f d with
    | error e => simp [specAny, answerOK_error (hf ▸ hok)]
    | ok b =>
      cases b with
      | false => exact absurd hf hr
      | true => simp [specAny, answerOK_ok (hf ▸ hok)]

end anyLazy

theorem Smart.getDone_eq_anyLazy {σ κ υ : Type} (S : Smart σ κ υ) (s : SmartSt σ) (a : Aid)
    {ds : List (DoneIface σ)} (hds : S.dones = some ds) (ha : a < S.n) :
    S.getDone s a = anyLazy (fun d => d.getDone s.sim a) ds := by
  simp [Smart.getDone, hds, ha]

theorem Smart.getAllDone_eq_anyLazy {σ κ υ : Type} (S : Smart σ κ υ) (s : SmartSt σ)
    {ds : List (DoneIface σ)} (hds : S.dones = some ds) :
    S.getAllDone s = anyLazy (fun d => d.getAllDone s.sim) ds := by
  simp [Smart.getAllDone, hds]

section lastVal
variable {κ υ : Type} [DecidableEq κ]

theorem lastVal_eq (k : κ) : ∀ items : List (κ × υ), lastVal items k = items.reverse.lookup k
  | [] => rfl
  | (k0, v0) :: rest => by
    rw [lastVal, lastVal_eq k rest, List.reverse_cons, List.lookup_append, lookup_cons_ite]
    cases rest.reverse.lookup k with
    | some x => rfl
    | none => simp only [eq_comm (a := k)]; rfl

theorem lastVal_eq_some_iff (k : κ) (v : υ) (items : List (κ × υ)) :
    lastVal items k = some v ↔
      ∃ l1 l2, items = l1 ++ (k, v) :: l2 ∧ ∀ p ∈ l2, p.1 ≠ k := by
  rw [lastVal_eq, List.lookup_eq_some_iff]
  constructor
  · rintro ⟨l₁, l₂, h, hp⟩
    refine ⟨l₂.reverse, l₁.reverse, ?_, fun p hp' => ?_⟩
    · rw [← List.reverse_reverse items, h, List.reverse_append, List.reverse_cons, List.append_assoc]; rfl
    · exact fun e => bne_iff_ne.mp (hp p (List.mem_reverse.mp hp')) e.symm
  · rintro ⟨l1, l2, rfl, hp⟩
    refine ⟨l2.reverse, l1.reverse, ?_, fun p hp' => bne_iff_ne.mpr fun e => hp p (List.mem_reverse.mp hp') e.symm⟩
    rw [List.reverse_append, List.reverse_cons, List.append_assoc]; rfl

theorem lastVal_isSome_of_mem_keys (k : κ) :
    ∀ items : List (κ × υ), k ∈ items.map (·.1) → ∃ v, lastVal items k = some v := by
  intro items h
  rw [lastVal_eq]
  exact lookup_of_mem_keys _ k (by rwa [List.map_reverse, List.mem_reverse])

theorem lookup_dictOf (items : List (κ × υ)) (k : κ) : (dictOf items).lookup k = lastVal items k := by
  rw [dictOf, lookup_foldl_dictSet, lastVal_eq, List.lookup_nil, Option.or_none]

variable [DecidableEq υ]

theorem specMerge_mergeObs (outs : List (List (κ × υ))) : specMerge outs (mergeObs outs) = true := by
  unfold specMerge mergeObs
  simp only [Bool.and_eq_true, decide_eq_true_eq, List.all_eq_true, beq_iff_eq]
  refine ⟨⟨nodup_keys_dictOf _, ?_⟩, ?_⟩
  · intro p hp
    rw [← lookup_dictOf]
    exact lookup_of_mem_nodup _ (nodup_keys_dictOf _) p.1 p.2 hp
  · intro p hp
    exact (mem_keys_dictOf _ _).mpr (List.mem_map.mpr ⟨p, hp, rfl⟩)

end lastVal

theorem specResetAll_range (k : Nat) : specResetAll k (List.range k) = true := by
  simp only [specResetAll, List.length_range, beq_self_eq_true, Bool.true_and, List.all_eq_true,
    List.mem_range, beq_iff_eq]
  intro i hi
  rw [List.count_range, if_pos hi]

section call
variable {σ κ υ : Type} [DecidableEq κ]

/-- What one call of `SmartGridWorldSimulation` enters in the trace and leaves as the state, one
constructor for each way a call can go.  A call that raises, and every getter but `get_reward`, leaves
the state as it was.  By `Smart.runOp_call` every call of `Smart.runOp` is one of these.  Left open,
since no judge reads it: when a `step` raises (`stepErr` has no premise) and which exception a failed
`step` or `get_reward` raises. -/
inductive Smart.Call (S : Smart σ κ υ) (s : SmartSt σ) : SOp σ → SEntry σ κ υ → SmartSt σ → Prop
  | resetErr : S.states = none →
      Call S s .reset ⟨.reset, .err .assertion, s.rewards, s.sim, [], []⟩ s
  | reset {fs} : S.states = some fs →
      Call S s .reset
        ⟨.reset, .unit, some S.zeroRewards, fs.foldl (fun x f => f x) s.sim, List.range fs.length, []⟩
        { sim := fs.foldl (fun x f => f x) s.sim, rewards := some S.zeroRewards }
  | stepErr {f acc e} : Call S s (.step f acc) ⟨.step f acc, .err e, s.rewards, s.sim, [], []⟩ s
  | step {f acc r} : s.rewards = some r → acc.all (fun p => (r.lookup p.1).isSome) = true →
      Call S s (.step f acc) ⟨.step f acc, .unit, some (Smart.applyAcc r acc), f s.sim, [], []⟩
        { sim := f s.sim, rewards := some (Smart.applyAcc r acc) }
  | rewErr {a e} : (∀ r, s.rewards = some r → r.lookup a = none) →
      Call S s (.reward a) ⟨.reward a, .err e, s.rewards, s.sim, [], []⟩ s
  | rew {a r v} : s.rewards = some r → r.lookup a = some v →
      Call S s (.reward a) ⟨.reward a, .int v, some (dictSet r a 0), s.sim, [], []⟩
        { s with rewards := some (dictSet r a 0) }
  | obsNone {a} : S.observers = none →
      Call S s (.obs a) ⟨.obs a, .err .assertion, s.rewards, s.sim, [], []⟩ s
  | obsKey {a os} : S.observers = some os → ¬ a < S.n →
      Call S s (.obs a) ⟨.obs a, .err .keyError, s.rewards, s.sim, [], []⟩ s
  | obs {a os} : S.observers = some os → a < S.n →
      Call S s (.obs a) ⟨.obs a, .obs (mergeObs (os.map fun o => o s.sim a)), s.rewards, s.sim,
        List.range os.length, os.map fun o => o s.sim a⟩ s
  | done {a} : Call S s (.done a) ⟨.done a, resOfBool (S.getDone s a), s.rewards, s.sim, [], []⟩ s
  | allDone : Call S s .allDone ⟨.allDone, resOfBool (S.getAllDone s), s.rewards, s.sim, [], []⟩ s

theorem Smart.runOp_call (S : Smart σ κ υ) (s : SmartSt σ) (op : SOp σ) :
    S.Call s op (S.runOp s op).1 (S.runOp s op).2 := by
  obtain ⟨sim, rews⟩ := s
  cases op with
  | reset =>
    cases hS : S.states with
    | none =>
      simp only [Smart.runOp, Smart.reset, hS]
      exact .resetErr hS
    | some fs =>
      simp only [Smart.runOp, Smart.reset, hS]
      exact .reset hS
  | step f acc =>
    cases rews with
    | none => exact .stepErr
    | some r =>
      simp only [Smart.runOp, Smart.step]
      cases hall : acc.all (fun p => (r.lookup p.1).isSome) with
      | true => exact .step rfl hall
      | false => exact .stepErr
  | reward a =>
    cases rews with
    | none => exact .rewErr (fun _ h => nomatch h)
    | some r =>
      simp only [Smart.runOp, Smart.getReward]
      cases hl : r.lookup a with
      | none => exact .rewErr (fun _ h => Option.some.inj h ▸ hl)
      | some v => exact .rew rfl hl
  | obs a =>
    cases hO : S.observers with
    | none =>
      simp only [Smart.runOp, Smart.getObs, hO]
      exact .obsNone hO
    | some os =>
      by_cases ha : a < S.n
      · simp only [Smart.runOp, Smart.getObs, hO, if_pos ha]
        exact .obs hO ha
      · simp only [Smart.runOp, Smart.getObs, hO, if_neg ha]
        exact .obsKey hO ha
  | done a => exact .done
  | allDone => exact .allDone

end call

end Abmarl
