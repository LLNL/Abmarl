import Abmarl.Lemmas.Builders
/-!
# Lemmas for C18: the text file

`str.split(' ')` / `str.splitlines()` undo `' '.join` / `'\n'.join` for tokens without spaces
and non-empty lines without line boundaries, so the tokens of the lines of a rendered layout are its
characters, row by row (`tokens_render`; `CellOk` says which characters can be rendered).  The file
builder sees the text only through the tokens of its lines, `(splitLines (normCRLF text)).map splitSp`,
so a text with the layout's tokens visits the same entries at the same coordinates as the array loop
(`fromFile_of_tokens`).
-/
namespace Abmarl
namespace Builders

/-- a character that can stand in a file cell: not the separator, not a line boundary
(letters, digits and the empty markers `'0'`, `'.'`, `'_'` all are) -/
def CellOk (c : Nat) : Prop := c ≠ 32 ∧ isBreak c = false

instance : DecidablePred CellOk := fun c => inferInstanceAs (Decidable (c ≠ 32 ∧ isBreak c = false))

def rowText (row : List Nat) : List Nat := joinWith 32 (row.map (fun c => [c]))

theorem render_eq (rows cols : Nat) (cells : List Nat) :
    render rows cols cells = joinWith 10 ((rowsOf cols rows cells).map rowText) := rfl

theorem splitSp_tok : ∀ tok : List Nat, (∀ c ∈ tok, c ≠ 32) → splitSp tok = [tok] := by
  intro tok
  induction tok with
  | nil => intro _; rfl
  | cons c tok ih =>
    intro h
    have hc : c ≠ 32 := h c (by simp)
    rw [splitSp, if_neg hc, ih (fun x hx => h x (by simp [hx]))]

theorem splitSp_tok_sep (rest : List Nat) :
    ∀ tok : List Nat, (∀ c ∈ tok, c ≠ 32) → splitSp (tok ++ 32 :: rest) = tok :: splitSp rest := by
  intro tok
  induction tok with
  | nil => intro _; simp [splitSp]
  | cons c tok ih =>
    intro h
    have hc : c ≠ 32 := h c (by simp)
    rw [List.cons_append, splitSp, if_neg hc, ih (fun x hx => h x (by simp [hx]))]

theorem splitSp_joinWith :
    ∀ toks : List (List Nat), toks ≠ [] → (∀ t ∈ toks, ∀ c ∈ t, c ≠ 32) →
      splitSp (joinWith 32 toks) = toks := by
  intro toks
  induction toks with
  | nil => intro h; exact absurd rfl h
  | cons t ts ih =>
    intro _ h
    cases ts with
    | nil => rw [joinWith]; exact splitSp_tok t (h t (by simp))
    | cons t' ts' =>
      rw [joinWith, splitSp_tok_sep _ t (h t (by simp)),
        ih (by simp) (fun x hx => h x (by simp [hx]))]

/-- a non-empty stretch without line boundary, up to the end of the text or a boundary, is a line -/
theorem splitLines_line (tail : List Nat) (ht : tail = [] ∨ ∃ b rest, tail = b :: rest ∧ isBreak b = true) :
    ∀ line : List Nat, line ≠ [] → (∀ c ∈ line, isBreak c = false) →
      splitLines (line ++ tail) = line :: splitLines tail.tail := by
  intro line
  induction line with
  | nil => intro h; exact absurd rfl h
  | cons c line ih =>
    intro _ h
    have hc : isBreak c = false := h c (by simp)
    rw [List.cons_append, splitLines]
    cases line with
    | nil =>
      rcases ht with rfl | ⟨b, rest, rfl, hb⟩
      · simp [hc, splitLines]
      · simp [hc, splitLines, hb]
    | cons d line' =>
      rw [ih (by simp) (fun x hx => h x (by simp [hx]))]
      simp [hc]

/-- `tail`: a final newline does not add a line -/
theorem splitLines_joinWith (tail : List Nat) (ht : tail = [] ∨ tail = [10]) :
    ∀ lines : List (List Nat), lines ≠ [] → (∀ l ∈ lines, l ≠ [] ∧ ∀ c ∈ l, isBreak c = false) →
      splitLines (joinWith 10 lines ++ tail) = lines := by
  intro lines
  induction lines with
  | nil => intro h; exact absurd rfl h
  | cons l ls ih =>
    intro _ h
    obtain ⟨h1, h2⟩ := h l (by simp)
    cases ls with
    | nil =>
      rw [joinWith, splitLines_line tail (ht.imp id fun e => ⟨10, [], e, rfl⟩) l h1 h2]
      rcases ht with rfl | rfl
      · rfl
      · rfl
    | cons l' ls' =>
      rw [joinWith, List.append_assoc, List.cons_append, splitLines_line _ (.inr ⟨10, _, rfl, rfl⟩) l h1 h2,
        List.tail_cons, ih (by simp) (fun x hx => h x (by simp [hx]))]

theorem normCRLF_id : ∀ t : List Nat, (∀ c ∈ t, c ≠ 13) → normCRLF t = t := by
  intro t
  induction t with
  | nil => intro _; rfl
  | cons c t ih =>
    intro h
    have hc : c ≠ 13 := h c (by simp)
    rw [normCRLF, if_neg (fun hh => hc hh.1), ih (fun x hx => h x (by simp [hx]))]

theorem forall_mem_joinWith {P : Nat → Prop} {sep : Nat} (hs : P sep) :
    ∀ ls : List (List Nat), (∀ l ∈ ls, ∀ c ∈ l, P c) → ∀ c ∈ joinWith sep ls, P c := by
  intro ls
  induction ls with
  | nil => intro _ c h; simp [joinWith] at h
  | cons l ls ih =>
    intro h c hc
    cases ls with
    | nil => exact h l (by simp) c hc
    | cons l' ls' =>
      rw [joinWith, List.mem_append, List.mem_cons] at hc
      rcases hc with hc | rfl | hc
      · exact h l (by simp) c hc
      · exact hs
      · exact ih (fun x hx => h x (List.mem_cons_of_mem _ hx)) c hc

theorem joinWith_ne_nil (sep : Nat) (l : List Nat) (ls : List (List Nat)) (hl : l ≠ []) :
    joinWith sep (l :: ls) ≠ [] := by
  cases ls with
  | nil => rw [joinWith]; exact hl
  | cons l' ls' => rw [joinWith]; simp [hl]

theorem length_rowsOf (cols : Nat) : ∀ (k : Nat) (cells : List Nat), (rowsOf cols k cells).length = k := by
  intro k
  induction k with
  | zero => intro _; rfl
  | succ k ih => intro cells; simp [rowsOf, ih]

theorem mem_rowsOf (cols : Nat) :
    ∀ (k : Nat) (cells row : List Nat), k * cols ≤ cells.length → row ∈ rowsOf cols k cells →
      row.length = cols ∧ ∀ c ∈ row, c ∈ cells := by
  intro k
  induction k with
  | zero => intro cells row _ h; simp [rowsOf] at h
  | succ k ih =>
    intro cells row hlen h
    rw [Nat.succ_mul] at hlen
    rw [rowsOf, List.mem_cons] at h
    rcases h with h | h
    · subst h
      exact ⟨by rw [List.length_take]; omega, fun c hc => List.mem_of_mem_take hc⟩
    · obtain ⟨h1, h2⟩ := ih (cells.drop cols) row (by rw [List.length_drop]; omega) h
      exact ⟨h1, fun c hc => List.mem_of_mem_drop (h2 c hc)⟩

theorem rowText_line {row : List Nat} (hne : row ≠ []) (hok : ∀ c ∈ row, CellOk c) :
    rowText row ≠ [] ∧ ∀ c ∈ rowText row, isBreak c = false := by
  refine ⟨?_, forall_mem_joinWith (by decide) _ ?_⟩
  · cases row with
    | nil => exact absurd rfl hne
    | cons c row' => exact joinWith_ne_nil 32 [c] _ (by simp)
  · simp only [List.mem_map, forall_exists_index, and_imp, forall_apply_eq_imp_iff₂, List.mem_singleton,
      forall_eq]
    exact fun c hc => (hok c hc).2

theorem splitSp_rowText {row : List Nat} (hne : row ≠ []) (hok : ∀ c ∈ row, CellOk c) :
    splitSp (rowText row) = row.map (fun c => [c]) := by
  apply splitSp_joinWith _ (by simpa using hne)
  simp only [List.mem_map, forall_exists_index, and_imp, forall_apply_eq_imp_iff₂, List.mem_singleton,
    forall_eq]
  exact fun c hc => (hok c hc).1

theorem tokens_render {rows cols : Nat} {cells : List Nat} (hr : 0 < rows) (hc : 0 < cols)
    (hlen : rows * cols ≤ cells.length) (hok : ∀ c ∈ cells, CellOk c)
    (tail : List Nat) (ht : tail = [] ∨ tail = [10]) :
    (splitLines (normCRLF (render rows cols cells ++ tail))).map splitSp =
      (rowsOf cols rows cells).map (fun row => row.map (fun c => [c])) := by
  have hrow : ∀ row ∈ rowsOf cols rows cells, row ≠ [] ∧ ∀ c ∈ row, CellOk c := by
    intro row hrow
    obtain ⟨h1, h2⟩ := mem_rowsOf cols rows cells row hlen hrow
    exact ⟨List.ne_nil_of_length_pos (by omega), fun c hc' => hok c (h2 c hc')⟩
  have hline : ∀ l ∈ (rowsOf cols rows cells).map rowText, l ≠ [] ∧ ∀ c ∈ l, isBreak c = false := by
    intro l hl
    obtain ⟨row, hrow', rfl⟩ := List.mem_map.mp hl
    exact rowText_line (hrow row hrow').1 (hrow row hrow').2
  -- a carriage return is a line boundary: there is none inside a line, and the separator is `'\n'`
  have hno13 : ∀ c ∈ render rows cols cells ++ tail, c ≠ 13 := by
    intro c hc'
    rcases List.mem_append.mp hc' with hc' | hc'
    · exact forall_mem_joinWith (P := (· ≠ 13)) (by decide) _
        (fun l hl c hc e => absurd ((hline l hl).2 c hc) (by rw [e]; decide)) c hc'
    · rcases ht with rfl | rfl
      · cases hc'
      · rw [List.mem_singleton] at hc'
        omega
  rw [normCRLF_id _ hno13, render_eq, splitLines_joinWith tail ht _ ?_ hline, List.map_map]
  · exact List.map_congr_left fun row hrow' => splitSp_rowText (hrow row hrow').1 (hrow row hrow').2
  · intro e
    have := length_rowsOf cols rows cells
    rw [List.map_eq_nil_iff.mp e] at this
    simp at this
    omega

theorem fileCols_single (reg : Registry) (cols r : Nat) :
    ∀ (row : List Nat) (c0 : Nat) (st : St), c0 + row.length ≤ cols →
      fileCols reg r (row.map (fun c => [c])) c0 st = scan reg cols row (r * cols + c0) st := by
  intro row
  induction row with
  | nil => intro c0 st _; simp [fileCols, scan]
  | cons ch row ih =>
    intro c0 st h
    simp only [List.length_cons] at h
    obtain ⟨hd, hm⟩ := mul_add_div_mod (a := r) (b := c0) (c := cols) (by omega)
    rw [List.map_cons, fileCols, scan, hd, hm, ih (c0 + 1) _ (by omega)]
    rfl

/-- on lines whose tokens are the rows' characters the file loop never finds a ragged line and visits
the first `k * cols` cells as `scan` does -/
theorem fileRows_tokens (reg : Registry) (cols : Nat) :
    ∀ (k : Nat) (cells : List Nat) (lines : List (List Nat)) (r : Nat) (st : St), k * cols ≤ cells.length →
      lines.map splitSp = (rowsOf cols k cells).map (fun row => row.map (fun c => [c])) →
      fileRows reg cols lines r st = .ok (scan reg cols (cells.take (k * cols)) (r * cols) st) := by
  intro k
  induction k with
  | zero =>
    intro cells lines r st _ h
    rw [rowsOf, List.map_nil, List.map_eq_nil_iff] at h
    simp [h, fileRows, scan]
  | succ k ih =>
    intro cells lines r st hlen h
    rw [Nat.succ_mul] at hlen
    have hlt : (cells.take cols).length = cols := by rw [List.length_take]; omega
    obtain ⟨line, rest, rfl⟩ : ∃ line rest, lines = line :: rest := by
      cases lines with
      | nil => simp [rowsOf] at h
      | cons line rest => exact ⟨line, rest, rfl⟩
    rw [rowsOf, List.map_cons, List.map_cons, List.cons.injEq] at h
    rw [fileRows]
    simp only [h.1, List.length_map, hlt, ne_eq, not_true_eq_false, if_false]
    rw [fileCols_single reg cols r _ 0 st (by omega),
      ih (cells.drop cols) rest (r + 1) _ (by rw [List.length_drop]; omega) h.2,
      Nat.succ_mul k, Nat.add_comm (k * cols), List.take_add, scan_append, hlt, Nat.succ_mul]
    rfl

theorem fromFile_of_tokens (rows cols : Nat) (cells : List Nat) (reg : Registry)
    (extras : List Agent) (text : List Nat)
    (hr : 0 < rows) (hlen : cells.length = rows * cols)
    (ht : (splitLines (normCRLF text)).map splitSp =
      (rowsOf cols rows cells).map (fun row => row.map (fun c => [c]))) :
    fromFile text reg extras = fromArray rows cols cells reg extras := by
  unfold fromFile fromArray
  cases hres : reservedInRegistry reg with
  | true => rfl
  | false =>
    have hrows := fileRows_tokens reg cols rows cells _ 0 (St.init extras) (by omega) ht
    have hn := congrArg List.length ht
    rw [List.length_map, List.length_map, length_rowsOf] at hn
    obtain ⟨k, rfl⟩ : ∃ k, rows = k + 1 := ⟨rows - 1, by omega⟩
    cases hl : splitLines (normCRLF text) with
    | nil =>
      rw [hl] at hn
      cases hn
    | cons l0 tl =>
      rw [hl] at ht hrows hn
      rw [rowsOf, List.map_cons, List.map_cons, List.cons.injEq] at ht
      have hcols : (splitSp l0).length = cols := by
        rw [ht.1, List.length_map, List.length_take, hlen, Nat.succ_mul]
        omega
      -- the file has `cols` columns (`hcols`) and `k + 1` lines (`hn`), and its loop over the lines is the
      -- scan of all cells (`hrows`), as the array loop is
      simp only [Bool.false_eq_true, if_false, hcols, hrows, hn, arrayLoop_eq_scan reg (k + 1) cols cells _ hlen,
        ← hlen, List.take_length, Nat.zero_mul]

end Builders
end Abmarl
