import Abmarl.Lemmas.Movers
import Abmarl.Spec.GridSim
/-!
# The world invariant (C03) with the vitals clause left open, and what keeps it

`WInv` and `WInvWeak` differ only in the vitals of an agent, and no proof that an operation keeps the invariant opens that
clause.  `InvV V w` is the invariant with any `V` in its place: `CInv`, every agent `Sound`, and `V` (`WInv_iff_InvV`,
`WInvWeak_iff`).  A change that concerns one agent keeps it when the table is sound afterwards and that agent is in order
(`InvV.only`): a write of vitals, an agent that leaves the grid, a relocation, hence every call of a move actor
(`InvV.setSt`, `.takeOut`, `.reloc`, `MoverStep.inv`).

Last, the move actors called for an agent that is not active (C12).  Under `WInv` it is stored in no cell, so `Grid.remove`
of it raises `KeyError`; the actors do not look at `active` and call `remove` only after `Grid.query` has accepted the
destination.  Hence `moveBy_inactive`, the instance of `moveBy_cases` in which the `remove` raises: the call raises
exactly when the move would have been carried out (`wouldMove`), and otherwise returns the world it was given.
-/
namespace Abmarl
namespace World

/-- the vitals of an agent; `act` is the clause that ties `active` to `health`: the built-in components keep
`active = decide (0 < health)` (`WInv`), a simulation that deactivates agents by hand only `active → 0 < health`
(`WInvWeak`); `pos` is what is known of the stored position whether the agent is on the grid or not: nothing for the two
invariants, "a cell of the grid" where a simulation observes inactive agents (`RT.VWeakG`) -/
structure Vitals (act : Bool → Rat → Prop) (pos : Pos → Prop) (c : AgentCfg) (x : AgentSt) : Prop where
  h0     : 0 ≤ x.health
  h1     : x.health ≤ 1
  act    : act x.active x.health
  ammo0  : 0 ≤ x.ammo
  ammo1  : c.hasAmmo = true → x.ammo ≤ max 0 c.initAmmo
  orient : c.hasOrient = true → 1 ≤ x.orient ∧ x.orient ≤ 4
  inP    : pos x.pos

theorem vitals_iff (act : Bool → Rat → Prop) (pos : Pos → Prop) (c : AgentCfg) (x : AgentSt) :
    Vitals act pos c x ↔ (0 ≤ x.health ∧ x.health ≤ 1 ∧ act x.active x.health ∧ 0 ≤ x.ammo ∧
      (c.hasAmmo = true → x.ammo ≤ max 0 c.initAmmo) ∧ (c.hasOrient = true → 1 ≤ x.orient ∧ x.orient ≤ 4) ∧ pos x.pos) :=
  ⟨fun h => ⟨h.h0, h.h1, h.act, h.ammo0, h.ammo1, h.orient, h.inP⟩, fun ⟨h0, h1, ha, a0, a1, ho, hp⟩ => ⟨h0, h1, ha, a0, a1, ho, hp⟩⟩

theorem Vitals.withPos {act : Bool → Rat → Prop} {pos : Pos → Prop} {c : AgentCfg} {s : AgentSt} (h : Vitals act pos c s)
    {p : Pos} (hp : pos p) : Vitals act pos c { s with pos := p } :=
  ⟨h.h0, h.h1, h.act, h.ammo0, h.ammo1, h.orient, hp⟩

theorem Vitals.withOrient {act : Bool → Rat → Prop} {pos : Pos → Prop} {c : AgentCfg} {s : AgentSt}
    (h : Vitals act pos c s) {o : Nat} (ho : 1 ≤ o ∧ o ≤ 4) : Vitals act pos c { s with orient := o } :=
  ⟨h.h0, h.h1, h.act, h.ammo0, h.ammo1, fun _ => ho, h.inP⟩

theorem Vitals.imp {act act' : Bool → Rat → Prop} {pos pos' : Pos → Prop} {c : AgentCfg} {x : AgentSt}
    (h : Vitals act pos c x) (ha : act x.active x.health → act' x.active x.health) (hp : pos' x.pos) :
    Vitals act' pos' c x :=
  ⟨h.h0, h.h1, ha h.act, h.ammo0, h.ammo1, h.orient, hp⟩

open PM

/-- the world invariant with `V` as its vitals clause: the sound cell table, every agent stored exactly when it is active,
and `V` -/
structure InvV (V : AgentCfg → AgentSt → Prop) (w : World) : Prop where
  cinv  : CInv w
  sound : ∀ a < w.n, Sound w a
  vit   : ∀ a < w.n, V (w.cfgOf a) (w.stOf a)

section
variable {V : AgentCfg → AgentSt → Prop} {w : World}

theorem InvV.of_agents (hC : CInv w) (h : ∀ a < w.n, Sound w a ∧ V (w.cfgOf a) (w.stOf a)) : InvV V w :=
  ⟨hC, fun a ha => (h a ha).1, fun a ha => (h a ha).2⟩

theorem InvV.lt_st (hI : InvV V w) {a : Aid} (ha : a < w.n) : a < w.st.length := by
  rw [hI.cinv.lenS]; exact ha

theorem InvV.active_of_mem (hI : InvV V w) {i : Nat} {a : Aid} (h : a ∈ w.cells.getD i []) : (w.stOf a).active = true :=
  (hI.sound a (hI.cinv.occ i a h).1).2 i h

theorem InvV.placed (hI : InvV V w) (a : Aid) (ha : a < w.n) (hact : (w.stOf a).active = true) :
    w.inGrid (w.stOf a).pos = true ∧ a ∈ w.cell (w.stOf a).pos :=
  ⟨(hI.cinv.occ _ a ((hI.sound a ha).1 hact)).2.1, (hI.sound a ha).1 hact⟩

theorem InvV.placedAt (hI : InvV V w) {a : Aid} (ha : a < w.n) (hact : (w.stOf a).active = true) : Placed w a :=
  ⟨hI.cinv.lenC, hI.cinv.lenS ▸ ha, (hI.placed a ha hact).1, (hI.placed a ha hact).2, fun i hi => (hI.cinv.occ i a hi).2.2.symm⟩

end

/-- a Boolean invariant of the shape of `WInv` is `InvV V`, when its agent clause `f` reads "an active agent is
stored in the cell of its position, and `V`": the cell clause of the judge is that of `CInv` with "whoever is stored
is active" -/
theorem inv_iff_InvV {V : AgentCfg → AgentSt → Prop} (w : World) (f : Aid → Bool)
    (hf : ∀ a, f a = true ↔
      (((w.stOf a).active = true → w.inGrid (w.stOf a).pos = true ∧ a ∈ w.cell (w.stOf a).pos) ∧
        V (w.cfgOf a) (w.stOf a))) :
    (w.wShape && w.allCells.all w.wCell && w.allAgents.all f && w.wOverlapSym) = true ↔ InvV V w := by
  simp only [Bool.and_eq_true, List.all_eq_true, allCells, allAgents, List.mem_range, hf, wCell_reading]
  constructor
  · rintro ⟨⟨⟨hs, hc⟩, ha⟩, hsym⟩
    have hC : CInv w := cinv_of_cells hs hsym fun i hi =>
      ⟨(hc i hi).1, fun a h => ⟨((hc i hi).2.1 a h).1, ((hc i hi).2.1 a h).2.2⟩, (hc i hi).2.2⟩
    exact ⟨hC, fun a han => ⟨fun hact => ((ha a han).1 hact).2,
      fun i hi => ((hc i (hC.lenC ▸ mem_getD_lt hi)).2.1 a hi).2.1⟩, fun a han => (ha a han).2⟩
  · intro h
    refine ⟨⟨⟨by simp [wShape, h.cinv.lenC, h.cinv.lenS], fun i _ => ⟨h.cinv.nodup i, fun a ha => ?_,
      fun a ha b hb => h.cinv.pair i a b ha hb⟩⟩, fun a ha => ⟨h.placed a ha, h.vit a ha⟩⟩, h.cinv.sym⟩
    obtain ⟨h1, h2, h3⟩ := h.cinv.occ i a ha
    exact ⟨h1, h.active_of_mem ha, h2, h3⟩

/-- the vitals clause of `WInv`: an agent is active exactly when its health is positive -/
abbrev VStrong : AgentCfg → AgentSt → Prop := Vitals (fun a h => a = decide (0 < h)) fun _ => True

theorem WInv_iff_InvV (w : World) : w.WInv = true ↔ InvV VStrong w :=
  inv_iff_InvV w w.wAgent fun a => by rw [wAgent_reading, VStrong, vitals_iff]; simp only [and_true]

/-- the vitals clause of `WInvWeak`: an active agent has positive health (not conversely) -/
abbrev VWeak : AgentCfg → AgentSt → Prop := Vitals (fun a h => a = true → 0 < h) fun _ => True

theorem WInvWeak_iff (w : World) : w.WInvWeak = true ↔ InvV VWeak w :=
  inv_iff_InvV w w.wAgentWeak fun a => by
    simp only [wAgentWeak, Bool.and_eq_true, decide_eq_true_eq, Bool.or_eq_true, Bool.not_eq_true', eq_false_or_iff,
      and_assoc, VWeak, vitals_iff, and_true]

theorem InvV.imp {V V' : AgentCfg → AgentSt → Prop} {w : World} (h : InvV V w)
    (hV : ∀ a < w.n, V (w.cfgOf a) (w.stOf a) → V' (w.cfgOf a) (w.stOf a)) : InvV V' w :=
  ⟨h.cinv, h.sound, fun a ha => hV a ha (h.vit a ha)⟩

theorem InvV.weaken {w : World} (h : InvV VStrong w) : InvV VWeak w :=
  h.imp fun _ _ hv => hv.imp (fun e hact => of_decide_eq_true (e.symm.trans hact)) trivial

theorem InvV.only {V : AgentCfg → AgentSt → Prop} {w w' : World} {b : Aid} (hI : InvV V w) (hO : Only b w w') (hC : CInv w')
    (hb : Sound w' b ∧ V (w.cfgOf b) (w'.stOf b)) : InvV V w' := by
  refine .of_agents hC fun c hc => ?_
  rw [hO.frame.sameG.n] at hc
  rw [hO.frame.sameG.cfgOf]
  by_cases hcb : c = b
  · rw [hcb]; exact hb
  · rw [hO.st c hcb]; exact ⟨hO.sound hcb (hI.sound c hc), hI.vit c hc⟩

theorem InvV.of_vframe {V V' : AgentCfg → AgentSt → Prop} {w w' : World} (hI : InvV V w) (hF : VFrame w w')
    (hact : ∀ b, (w'.stOf b).active = (w.stOf b).active)
    (hvit : ∀ b, b < w.n → V' (w.cfgOf b) (w'.stOf b)) : InvV V' w' := by
  refine .of_agents (hI.cinv.vframe hF) fun b hb => ?_
  rw [n_of_frame hF] at hb
  rw [(SFrame.of_vframe hF).sameG.cfgOf]
  exact ⟨sound_congr hF.cols (hF.pos b) (hact b) (fun i => by rw [hF.cells]) (hI.sound b hb), hvit b hb⟩

theorem InvV.setSt {V : AgentCfg → AgentSt → Prop} {w : World} (hI : InvV V w) {a : Aid} (ha : a < w.n)
    {s' : AgentSt} (hpos : s'.pos = (w.stOf a).pos) (hact : s'.active = (w.stOf a).active)
    (hV : V (w.cfgOf a) s') : InvV V (w.setSt a s') := by
  have hst : (w.setSt a s').stOf a = s' := stOf_setSt_same _ _ _ (hI.lt_st ha)
  refine hI.only (only_setSt w a s') (cinv_setSt hI.cinv hpos) ⟨?_, by rw [hst]; exact hV⟩
  exact sound_congr (w := w) rfl (by rw [hst, hpos]) (by rw [hst, hact]) (fun _ => Iff.rfl) (hI.sound a ha)

/-- `CInv.cells_erase` with any `p` that singles `a` out among the stored agents (`HitsRel` filters by activity) -/
theorem InvV.erase_cells {V : AgentCfg → AgentSt → Prop} {w : World} (hI : InvV V w) (a : Aid) (p : Aid → Bool)
    (hp : ∀ i, ∀ b ∈ w.cells.getD i [], b ≠ a → p b = true) (hpa : p a = false) (i : Nat) :
    (w.cells.set (w.idx (w.stOf a).pos) ((w.cell (w.stOf a).pos).erase a)).getD i [] =
      (w.cells.getD i []).filter p := by
  rw [World.cell, hI.cinv.cells_erase (fun j hj => (hI.cinv.occ j a hj).2.2.symm) i]
  refine List.filter_congr fun b hb => ?_
  by_cases hba : b = a
  · rw [hba, hpa]; simp
  · rw [hp i b hb hba]; simpa using hba

/-- an agent leaves the grid: it died, or the simulation deactivated it by hand -/
theorem InvV.takeOut {V : AgentCfg → AgentSt → Prop} {w w1 : World} (hI : InvV V w) {a : Aid}
    (hr : w.remove a (w.stOf a).pos = .ok w1) {s' : AgentSt} (hpos : s'.pos = (w.stOf a).pos) (hact : s'.active = false)
    (hV : V (w.cfgOf a) s') : InvV V (w1.setSt a s') := by
  have hC := hI.cinv
  have hst : (w1.setSt a s').stOf a = s' :=
    stOf_setSt_same _ _ _ (by rw [(sframe_remove hr).len]; exact hI.lt_st (lt_of_remove hC hr))
  exact hI.only ((only_remove hC hr).trans (only_setSt w1 a s'))
    (cinv_setSt (cinv_remove hC hr) (by rw [remove_stOf hr, hpos]))
    ⟨⟨fun h => (by rw [hst, hact] at h; cases h), fun i hi => absurd hi (nowhere_remove hC hr i)⟩, by rw [hst]; exact hV⟩

section
variable {act : Bool → Rat → Prop} {pos : Pos → Prop}

/-- The mover is stored (the `remove` returned), hence active and an agent of the simulation: no such hypothesis is needed. -/
theorem InvV.reloc {w w1 : World} {a : Aid} {dst : Pos} (hI : InvV (Vitals act pos) w)
    (hr : w.remove a (w.stOf a).pos = .ok w1) (hin : w.inGrid dst = true) (hq : w.query a dst = true) (hp : pos dst) :
    InvV (Vitals act pos) (w1.place a dst).2 := by
  have hC := hI.cinv
  have ha := lt_of_remove hC hr
  obtain ⟨hO, hst, hmem⟩ := reloc_only hC hr hin (query_of_remove hC hr hq)
  refine hI.only hO (cinv_reloc hC hr (by rw [(sframe_remove hr).sameG.inGrid]; exact hin)) ⟨⟨fun _ => ?_, fun _ _ => ?_⟩, ?_⟩
  · rw [hst]; exact hmem
  · rw [hst]; exact (hI.sound a ha).2 _ (remove_shape hr).1
  · rw [hst]; exact (hI.vit a ha).withPos hp

/-- any agent (active or not, of the simulation or not) and any action (of the action space or not): see `InvV.reloc` -/
theorem MoverStep.inv {w w' : World} {a : Aid} (hpos : ∀ p, w.inGrid p = true → pos p) (h : MoverStep w a w')
    (hI : InvV (Vitals act pos) w) : InvV (Vitals act pos) w' := by
  cases h with
  | same => exact hI
  | moved hr hin _ hq => exact hI.reloc hr hin hq (hpos _ hin)
  | @turned w1 dst _ hr hin _ hq ho =>
    have h2 := hI.reloc hr hin hq (hpos _ hin)
    have ha : a < (w1.place a dst).2.n := by
      rw [((sframe_remove hr).trans (sframe_place _ _ _)).sameG.n]; exact lt_of_remove hI.cinv hr
    exact h2.setSt ha rfl rfl ((h2.vit _ ha).withOrient ho)

theorem moveAct_invV {w : World} {a : Aid} (hpos : ∀ p, w.inGrid p = true → pos p) (d : Pos)
    (hI : InvV (Vitals act pos) w) (ha : a < w.n) (hact : (w.stOf a).active = true) :
    ∃ res w', w.moveAct a d = .ok (res, w') ∧ InvV (Vitals act pos) w' ∧ SFrame w w' := by
  unfold moveAct
  split
  · obtain ⟨b, w', hm, _⟩ := moveBy_returns (hI.placed a ha hact).2 d
    rw [hm]
    exact ⟨some b, w', rfl, (moveBy_step hm).inv hpos hI, (moveBy_step hm).sframe⟩
  · exact ⟨none, w, rfl, hI, SFrame.refl w⟩

end

theorem MoverStep.winv {w w' : World} {a : Aid} (h : MoverStep w a w') (hI : w.WInv = true) : w'.WInv = true :=
  (WInv_iff_InvV _).mpr (h.inv (fun _ _ => trivial) ((WInv_iff_InvV w).mp hI))

/-- C03 for the move actors: no bound on the agent, no hypothesis on its activity, any action value -/
theorem runMoveCall_WInv {w : World} {c : MoveCall} {o : MoveOut} (hI : w.WInv = true)
    (h : runMoveCall w c = .ok o) : o.post.WInv = true :=
  (runMoveCall_step h).winv hI

/-- the C03 step for the move actors, stated on the judge of a move -/
theorem move_preserves_WInv {w w' : World} {a : Aid} {d : Pos} {ok : Bool}
    (hI : w.WInv = true) (ha : a < w.n) (hact : (w.stOf a).active = true)
    (hs : specMoveBy w a d ok w' = true) : w'.WInv = true := by
  have hP := (WInv_iff_InvV w).mp hI
  exact (moveBy_step ((specMoveBy_iff_moveBy hP.cinv (hP.placed a ha hact).2).mp hs)).winv hI

/-! ## The move actors called for an agent that is not active (C12) -/

theorem not_mem_cell_of_inactive {w : World} {a : Aid} (hI : w.WInv = true)
    (hin : (w.stOf a).active = false) (p : Pos) : a ∉ w.cell p := by
  intro hm
  have h := ((WInv_iff_InvV w).mp hI).active_of_mem hm
  rw [hin] at h; cases h

theorem remove_inactive {w : World} {a : Aid} (hI : w.WInv = true)
    (hin : (w.stOf a).active = false) (p : Pos) : w.remove a p = .error .keyError := by
  rw [remove, if_neg (not_mem_cell_of_inactive hI hin p)]

theorem moveBy_inactive {w : World} {a : Aid} (hI : w.WInv = true)
    (hin : (w.stOf a).active = false) (d : Pos) :
    w.moveBy a d =
      if w.wouldMove a d then .error .keyError else .ok (w.staysPut a d, w) := by
  rw [moveBy_cases, remove_inactive hI hin]
  rfl

theorem moveAct_inactive {w : World} {a : Aid} (hI : w.WInv = true)
    (hin : (w.stOf a).active = false) (hmv : (w.cfgOf a).moving = true) (d : Pos) :
    w.moveAct a d = if w.wouldMove a d then .error .keyError else .ok (some (w.staysPut a d), w) := by
  rw [moveAct, if_pos hmv, moveBy_inactive hI hin]
  cases w.wouldMove a d <;> rfl

theorem crossAct_inactive {w : World} {a : Aid} (hI : w.WInv = true)
    (hin : (w.stOf a).active = false) (hmv : (w.cfgOf a).moving = true) (x : Int) :
    w.crossAct a x =
      match crossTable x with
      | none => .error .assertion
      | some d => if w.wouldMove a d then .error .keyError else .ok (some (w.staysPut a d), w) := by
  cases hd : crossTable x with
  | none => simp only [crossAct, hmv, if_true, hd]
  | some d => rw [crossAct_eq_moveAct hd, moveAct_inactive hI hin hmv]

end World
end Abmarl
