import Abmarl.Spec.Broadcast
import Abmarl.Lemmas.AttacksSel
import Abmarl.Lemmas.Hist
/-!
# `determine_broadcast`: the scan, and who is reached

Under the hypothesis that the sender's encoding is a key of the mapping, the double loop of `determine_broadcast`
appends, cell by cell in row-major order, the occupants of the visible in-grid cells other than the sender whose encoding
the row allows: it returns the list `scan` (`determine_eq`).  That list is the attack actors' `World.windowCands` for
the broadcast range, filtered (`scan_eq`); so its members are exactly the agents the broadcast reaches in the sense of
the specification (`mem_scan_iff`), once each (`determine_nodup`).
-/
namespace Abmarl
namespace BC
open World Ex

/-- what the scan takes from one cell -/
def sel (cfg : Cfg) (w : World) (a : Aid) (l : List Int) (i j : Nat) : List Aid :=
  if Observers.at2 (Observers.maskFor w a (cfg.rangeOf a)) i j false then
    ((Observers.at2 (Observers.localGrid w a (cfg.rangeOf a)) i j none).getD []).filter
      fun o => decide (o ≠ a) && decide (w.encOf o ∈ l)
  else []

/-- the scan of `determine_broadcast`, as a list -/
def scan (cfg : Cfg) (w : World) (a : Aid) (l : List Int) : List Aid :=
  (List.range (2 * cfg.rangeOf a + 1)).flatMap fun i =>
    (List.range (2 * cfg.rangeOf a + 1)).flatMap fun j => sel cfg w a l i j

theorem scanOther_eq {cfg : Cfg} {w : World} {a : Aid} {l : List Int} (hl : cfg.mapping.lookup (w.encOf a) = some l)
    (acc : List Aid) (o : Aid) :
    scanOther cfg w a acc o = .ok (acc ++ [o].filter fun o => decide (o ≠ a) && decide (w.encOf o ∈ l)) := by
  unfold scanOther
  by_cases hoa : o = a
  · simp [hoa]
  · simp only [hoa, if_false, hl]
    by_cases hm : w.encOf o ∈ l
    · simp [hm, hoa]
    · simp [hm]

theorem scanCell_eq {cfg : Cfg} {w : World} {a : Aid} {l : List Int} (hl : cfg.mapping.lookup (w.encOf a) = some l)
    (i j : Nat) (acc : List Aid) :
    scanCell cfg w a (Observers.at2 (Observers.maskFor w a (cfg.rangeOf a)) i j false)
      (Observers.at2 (Observers.localGrid w a (cfg.rangeOf a)) i j none) acc = .ok (acc ++ sel cfg w a l i j) := by
  unfold scanCell sel
  split
  · cases hc : Observers.at2 (Observers.localGrid w a (cfg.rangeOf a)) i j none with
    | none => simp
    | some occ =>
      simp only [Option.getD_some]
      rw [foldE_append (scanOther cfg w a) (fun o => [o].filter fun o => decide (o ≠ a) && decide (w.encOf o ∈ l))
        (scanOther_eq hl) occ acc, ← List.filter_flatMap, List.flatMap_singleton']
  · simp

theorem determine_eq {cfg : Cfg} {w : World} {a : Aid} {l : List Int} (hl : cfg.mapping.lookup (w.encOf a) = some l)
    (hp : w.inGrid (w.stOf a).pos = true) : determine cfg w a = .ok (scan cfg w a l) := by
  unfold determine scan
  simp only [hp, Bool.not_true, Bool.false_eq_true, if_false]
  rw [foldE_append _ (fun i => (List.range (2 * cfg.rangeOf a + 1)).flatMap fun j => sel cfg w a l i j)]
  · simp
  · intro acc i
    exact foldE_append _ (fun j => sel cfg w a l i j) (fun acc j => scanCell_eq hl i j acc) _ acc

/-- the observers' window and mask are the attack actors' -/
theorem sel_eq {cfg : Cfg} {w : World} {a : Aid} {l : List Int} (hp : w.inGrid (w.stOf a).pos = true) {i j : Nat}
    (hi : i < 2 * cfg.rangeOf a + 1) (hj : j < 2 * cfg.rangeOf a + 1) :
    sel cfg w a l i j =
      (w.cellCands a (cfg.rangeOf a) (Mask.maskOf (cfg.rangeOf a) (w.attackBlockers a)) i j).filter
        fun o => decide (o ≠ a) && decide (w.encOf o ∈ l) := by
  unfold sel World.cellCands
  rw [Observers.at2_maskFor w a _ i j hi hj, Observers.at2_localGrid w a _ i j hp hi hj,
    maskAt_maskOf _ _ i j hi hj, World.localCell_eq, World.winPos_eq, ← Observers.hiddenBySpec_blockersOf,
    attackBlockers_eq_blockersOf]
  cases Mask.hiddenBySpec (cfg.rangeOf a) (Observers.blockersOf w a) ((i : Int) - (cfg.rangeOf a : Int))
      ((j : Int) - (cfg.rangeOf a : Int)) <;>
    cases w.inGrid (Observers.winPos (w.stOf a).pos (cfg.rangeOf a) i j) <;> rfl

theorem scan_eq {cfg : Cfg} {w : World} {a : Aid} {l : List Int} (hp : w.inGrid (w.stOf a).pos = true) :
    scan cfg w a l =
      (w.windowCands a (cfg.rangeOf a) (Mask.maskOf (cfg.rangeOf a) (w.attackBlockers a))).filter
        fun o => decide (o ≠ a) && decide (w.encOf o ∈ l) := by
  unfold scan World.windowCands World.windowCells
  rw [List.flatMap_assoc, List.filter_flatMap]
  refine List.flatMap_congr fun i hi => ?_
  rw [List.flatMap_map, List.filter_flatMap]
  exact List.flatMap_congr fun j hj => sel_eq hp (List.mem_range.mp hi) (List.mem_range.mp hj)

theorem reaches_iff {cfg : Cfg} {w : World} {s b : Aid} {l : List Int}
    (hl : cfg.mapping.lookup (w.encOf s) = some l) :
    reaches cfg w s b = true ↔
      b ≠ s ∧ b < w.n ∧ (w.stOf b).active = true ∧
      -(cfg.rangeOf s : Int) ≤ (Observers.offsetOf w s b).1 ∧ (Observers.offsetOf w s b).1 ≤ (cfg.rangeOf s : Int) ∧
      -(cfg.rangeOf s : Int) ≤ (Observers.offsetOf w s b).2 ∧ (Observers.offsetOf w s b).2 ≤ (cfg.rangeOf s : Int) ∧
      w.encOf b ∈ l ∧
      Observers.hiddenFrom w s (cfg.rangeOf s) (Observers.offsetOf w s b).1 (Observers.offsetOf w s b).2 = false := by
  simp only [reaches, hl, Bool.and_eq_true, bne_iff_ne, ne_eq, decide_eq_true_eq, Mask.inWin, Bool.not_eq_true',
    and_assoc]

theorem mem_scan_iff {cfg : Cfg} {w : World} {a : Aid} {l : List Int} (hI : w.WInv = true)
    (hl : cfg.mapping.lookup (w.encOf a) = some l) (hp : w.inGrid (w.stOf a).pos = true) (b : Aid) :
    b ∈ scan cfg w a l ↔ reaches cfg w a b = true := by
  rw [scan_eq hp, List.mem_filter, mem_windowCands hI, reaches_iff hl, ← Observers.hiddenBySpec_blockersOf]
  simp only [Bool.and_eq_true, decide_eq_true_eq]
  exact ⟨fun ⟨⟨h1, h2, h3, h4, h5⟩, h6, h7⟩ => ⟨h6, h1, h2, h3.1, h3.2, h4.1, h4.2, h7, h5⟩,
    fun ⟨h6, h1, h2, h3, h3', h4, h4', h7, h5⟩ => ⟨⟨h1, h2, ⟨h3, h3'⟩, ⟨h4, h4'⟩, h5⟩, h6, h7⟩⟩

/-- an agent is returned once: it stands in one cell, and a cell lists an agent once -/
theorem determine_nodup {cfg : Cfg} {w : World} {a : Aid} {l : List Int} (hI : w.WInv = true)
    (hp : w.inGrid (w.stOf a).pos = true) : (scan cfg w a l).Nodup := by
  rw [scan_eq hp]
  exact (nodup_windowCands hI a _).filter _

end BC
end Abmarl
