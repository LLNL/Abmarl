import Abmarl.Spec.Grid
import Abmarl.Spec.Placement
import Abmarl.Lemmas.ListAux
/-!
# The cell table, read

Row-major indexing, `query` and the overlap table; the frames between two worlds (`SameG`, `SFrame`, `VFrame`) and what
carries over along them; the Boolean invariants read as propositions, and `WInv` as one scan of the cell table, the form
in which concrete worlds are evaluated (`WInv_scan`). The only write here is `setSt`, of the state table; the cell table is
written in Lemmas/GridWrites.lean.
-/
namespace Abmarl
namespace World

theorem inGrid_iff (w : World) (p : Pos) :
    w.inGrid p = true ↔ 0 ≤ p.1 ∧ p.1 < w.rows ∧ 0 ≤ p.2 ∧ p.2 < w.cols := by
  simp only [inGrid, Bool.and_eq_true, decide_eq_true_eq, and_assoc]

/-- with a position of the grid in this form, `idx` and `unravel` are row-major arithmetic on `Nat` (Lemmas/ListAux.lean) -/
theorem inGrid_iff_nat {w : World} {p : Pos} :
    w.inGrid p = true ↔ ∃ i j : Nat, i < w.rows ∧ j < w.cols ∧ p = ((i : Int), (j : Int)) := by
  rw [inGrid_iff]
  constructor
  · rintro ⟨h1, h2, h3, h4⟩
    obtain ⟨i, hi⟩ := Int.eq_ofNat_of_zero_le h1
    obtain ⟨j, hj⟩ := Int.eq_ofNat_of_zero_le h3
    exact ⟨i, j, Int.ofNat_lt.mp (hi ▸ h2), Int.ofNat_lt.mp (hj ▸ h4), Prod.ext hi hj⟩
  · rintro ⟨i, j, hi, hj, rfl⟩
    exact ⟨Int.natCast_nonneg i, Int.ofNat_lt.mpr hi, Int.natCast_nonneg j, Int.ofNat_lt.mpr hj⟩

theorem idx_lt {w : World} {p : Pos} (h : w.inGrid p = true) : w.idx p < w.rows * w.cols := by
  obtain ⟨i, j, hi, hj, rfl⟩ := inGrid_iff_nat.mp h
  exact flat_lt hi hj

theorem unravel_idx {w : World} {p : Pos} (h : w.inGrid p = true) : w.unravel (w.idx p) = p := by
  obtain ⟨i, j, _, hj, rfl⟩ := inGrid_iff_nat.mp h
  show ((((i * w.cols + j) / w.cols : Nat) : Int), (((i * w.cols + j) % w.cols : Nat) : Int)) = _
  rw [(mul_add_div_mod hj).1, (mul_add_div_mod hj).2]

theorem idx_inj {w : World} {p q : Pos} (hp : w.inGrid p = true) (hq : w.inGrid q = true)
    (h : w.idx p = w.idx q) : p = q := by
  rw [← unravel_idx hp, ← unravel_idx hq, h]

theorem unravel_inGrid {w : World} {k : Nat} (hk : k < w.rows * w.cols) : w.inGrid (w.unravel k) = true :=
  inGrid_iff_nat.mpr ⟨_, _, (div_mod_lt hk).1, (div_mod_lt hk).2, rfl⟩

theorem idx_unravel (w : World) (k : Nat) : w.idx (w.unravel k) = k :=
  Nat.div_add_mod' k w.cols

theorem query_eq (w : World) (a : Aid) (p : Pos) :
    w.query a p = (w.cell p).all (fun o => w.pairOK (w.encOf a) (w.encOf o)) := by
  unfold query mayJoin pairOK
  cases hc : w.cell p with
  | nil => simp
  | cons x xs =>
    simp only [List.isEmpty_cons, Bool.false_eq_true, if_false]
    cases hl : w.overlap.lookup (w.encOf a) with
    | none => simp
    | some s => rfl

theorem pairOK_symm_of_table {w : World} (h : w.wOverlapSym = true) {e1 e2 : Int}
    (hp : w.pairOK e1 e2 = true) : w.pairOK e2 e1 = true := by
  unfold pairOK at hp
  cases hl : w.overlap.lookup e1 with
  | none => rw [hl] at hp; cases hp
  | some s =>
    rw [hl] at hp
    simp only [decide_eq_true_eq] at hp
    simp only [wOverlapSym, List.all_eq_true] at h
    obtain ⟨l1, l2, hl', _⟩ := List.lookup_eq_some_iff.mp hl
    exact h (e1, s) (by rw [hl']; simp) e2 hp

theorem pairOK_symm {w : World} (hs : w.wOverlapSym = true) (a b : Int) :
    w.pairOK a b = w.pairOK b a :=
  Bool.eq_iff_iff.mpr ⟨pairOK_symm_of_table hs, pairOK_symm_of_table hs⟩

theorem ovHas_eq (w : World) (a b : Int) : w.ovHas a b = w.pairOK a b := rfl

end World

/-- `w'` has the grid size, overlap table and configuration of `w` (in all three frames `w'.x = w.x`); `SFrame` adds the
length of the state table, `World.VFrame` the cell table and every position as well -/
structure SameG (w w' : World) : Prop where
  rows : w'.rows = w.rows
  cols : w'.cols = w.cols
  ov   : w'.overlap = w.overlap
  cfg  : w'.cfg = w.cfg

namespace SameG
variable {w w' : World} (h : SameG w w')
include h
theorem cfgOf (a : Aid) : w'.cfgOf a = w.cfgOf a := by simp only [World.cfgOf, h.cfg]
theorem encOf (a : Aid) : w'.encOf a = w.encOf a := by simp only [World.encOf, h.cfgOf]
theorem pairOK (x y : Int) : w'.pairOK x y = w.pairOK x y := by simp only [World.pairOK, h.ov]
theorem inGrid (p : Pos) : w'.inGrid p = w.inGrid p := by simp only [World.inGrid, h.rows, h.cols]
theorem idx (p : Pos) : w'.idx p = w.idx p := by simp only [World.idx, h.cols]
theorem unravel (k : Nat) : w'.unravel k = w.unravel k := by simp only [World.unravel, h.cols]
theorem n : w'.n = w.n := by simp only [World.n, h.cfg]
theorem wOverlapSym : w'.wOverlapSym = w.wOverlapSym := by
  simp only [World.wOverlapSym, World.pairOK, h.ov]
theorem isFixed (a : Aid) : isFixed w' a = Abmarl.isFixed w a := by simp only [Abmarl.isFixed, h.cfgOf]
theorem joinOK (cells : List (List Aid)) (e : Int) (c : Nat) :
    Abmarl.joinOK w' cells e c = Abmarl.joinOK w cells e c := by
  simp only [Abmarl.joinOK, h.pairOK, h.encOf]
theorem availRule (no : Bool) (cells : List (List Aid)) (e : Int) (c : Nat) :
    Abmarl.availRule w' no cells e c = Abmarl.availRule w no cells e c := by
  simp only [Abmarl.availRule, h.joinOK]
theorem symm : SameG w' w := ⟨h.rows.symm, h.cols.symm, h.ov.symm, h.cfg.symm⟩
theorem trans {w'' : World} (h2 : SameG w' w'') : SameG w w'' :=
  ⟨h2.rows.trans h.rows, h2.cols.trans h.cols, h2.ov.trans h.ov, h2.cfg.trans h.cfg⟩
end SameG

/-- what no component changes -/
structure SFrame (w w' : World) : Prop where
  rows : w'.rows = w.rows
  cols : w'.cols = w.cols
  overlap : w'.overlap = w.overlap
  cfg : w'.cfg = w.cfg
  len : w'.st.length = w.st.length

theorem SFrame.refl (w : World) : SFrame w w := ⟨rfl, rfl, rfl, rfl, rfl⟩
theorem SFrame.trans {w w' w'' : World} (h : SFrame w w') (h' : SFrame w' w'') : SFrame w w'' :=
  ⟨h'.rows.trans h.rows, h'.cols.trans h.cols, h'.overlap.trans h.overlap, h'.cfg.trans h.cfg,
   h'.len.trans h.len⟩
theorem SFrame.sameG {w w' : World} (h : SFrame w w') : SameG w w' := ⟨h.rows, h.cols, h.overlap, h.cfg⟩

theorem clause_frame {w w' : World} (hs : SFrame w w') :
    w'.n = w.n ∧ (∀ b, w'.cfgOf b = w.cfgOf b) :=
  ⟨hs.sameG.n, hs.sameG.cfgOf⟩

namespace World

/-- agent `a` is stored consistently: exactly in the cell of its in-grid position -/
structure Placed (w : World) (a : Aid) : Prop where
  lenC : w.cells.length = w.rows * w.cols
  aSt  : a < w.st.length
  inG  : w.inGrid (w.stOf a).pos = true
  mem  : a ∈ w.cell (w.stOf a).pos
  only : ∀ i, a ∈ w.cells.getD i [] → i = w.idx (w.stOf a).pos

theorem stOf_setSt (w : World) (a b : Aid) (s : AgentSt) :
    (w.setSt a s).stOf b = if b = a ∧ a < w.st.length then s else w.stOf b := by
  simp only [setSt, stOf, getD_set, eq_comm (a := a)]

theorem stOf_setSt_same (w : World) (a : Aid) (s : AgentSt) (h : a < w.st.length) :
    (w.setSt a s).stOf a = s := by
  rw [stOf_setSt, if_pos ⟨rfl, h⟩]

theorem stOf_setSt_ne (w : World) {a b : Aid} (s : AgentSt) (h : b ≠ a) :
    (w.setSt a s).stOf b = w.stOf b := by
  rw [stOf_setSt, if_neg fun e => h e.1]

theorem setSt_of_length_le {w : World} {a : Aid} (s : AgentSt) (h : w.st.length ≤ a) : w.setSt a s = w := by
  rw [setSt, List.set_eq_of_length_le h]

theorem sframe_setSt (w : World) (a : Aid) (s : AgentSt) : SFrame w (w.setSt a s) :=
  ⟨rfl, rfl, rfl, rfl, List.length_set⟩

/-- nothing but per-agent vitals changed: grid, table, configuration and every position are the same -/
structure VFrame (w w' : World) : Prop where
  rows : w'.rows = w.rows
  cols : w'.cols = w.cols
  overlap : w'.overlap = w.overlap
  cells : w'.cells = w.cells
  cfg : w'.cfg = w.cfg
  len : w'.st.length = w.st.length
  pos : ∀ b, (w'.stOf b).pos = (w.stOf b).pos

theorem VFrame.refl (w : World) : VFrame w w := ⟨rfl, rfl, rfl, rfl, rfl, rfl, fun _ => rfl⟩

theorem VFrame.trans {w w' w'' : World} (h : VFrame w w') (h' : VFrame w' w'') : VFrame w w'' :=
  ⟨h'.rows.trans h.rows, h'.cols.trans h.cols, h'.overlap.trans h.overlap, h'.cells.trans h.cells,
   h'.cfg.trans h.cfg, h'.len.trans h.len, fun b => (h'.pos b).trans (h.pos b)⟩

theorem VFrame.of_setSt (w : World) (a : Aid) (s : AgentSt) (hp : s.pos = (w.stOf a).pos) :
    VFrame w (w.setSt a s) := by
  refine ⟨rfl, rfl, rfl, rfl, rfl, List.length_set, fun b => ?_⟩
  rw [stOf_setSt]
  split
  · rename_i h; rw [h.1, hp]
  · rfl

theorem _root_.Abmarl.SFrame.of_vframe {w w' : World} (h : VFrame w w') : SFrame w w' :=
  ⟨h.rows, h.cols, h.overlap, h.cfg, h.len⟩

theorem n_of_frame {w w' : World} (h : VFrame w w') : w'.n = w.n := (SFrame.of_vframe h).sameG.n

theorem setSt_self (w : World) (a : Aid) : w.setSt a (w.stOf a) = w := by
  simp only [setSt, stOf]
  by_cases h : a < w.st.length
  · simp [List.getD_eq_getElem?_getD, List.getElem?_eq_getElem h]
  · simp [List.set_eq_of_length_le (Nat.le_of_not_lt h)]

theorem stOf_ge {w : World} {a : Aid} (h : w.st.length ≤ a) : w.stOf a = {} := by
  rw [stOf, List.getD_eq_getElem?_getD, List.getElem?_eq_none h]; rfl

theorem cfgOf_ge {w : World} {a : Aid} (h : w.n ≤ a) : w.cfgOf a = {} := by
  rw [cfgOf, List.getD_eq_getElem?_getD, List.getElem?_eq_none h]; rfl

/-- `hd`: `cfgOf` answers the default configuration outside the list -/
theorem all_cfg_iff (w : World) {p : AgentCfg → Bool} (hd : p {} = true) :
    w.cfg.all p = true ↔ ∀ a, p (w.cfgOf a) = true := by
  rw [List.all_eq_true]
  constructor
  · intro h a
    by_cases ha : a < w.n
    · exact h _ (getD_mem w.cfg a {} ha)
    · rw [cfgOf_ge (Nat.le_of_not_lt ha)]; exact hd
  · intro h c hc
    obtain ⟨i, hi, rfl⟩ := List.getElem_of_mem hc
    have := h i
    rwa [cfgOf, List.getD_eq_getElem?_getD, List.getElem?_eq_getElem hi] at this

theorem sameStatic_refl (w : World) : sameStatic w w = true := by simp [sameStatic]

/-- `wCell w i` with the content `c` of cell `i` handed in -/
def wCellOf (w : World) (i : Nat) (c : List Aid) : Bool :=
  decide c.Nodup &&
  c.all (fun a => decide (a < w.n) && (w.stOf a).active && w.inGrid (w.stOf a).pos &&
                  (w.idx (w.stOf a).pos == i)) &&
  c.all (fun a => c.all (fun b => a == b || w.pairOK (w.encOf a) (w.encOf b)))

theorem allCells_scan {w : World} (hs : w.wShape = true) (f : Nat → List Aid → Bool) :
    (w.allCells.all fun i => f i (w.cells.getD i [])) = w.cells.zipIdx.all fun x => f x.2 x.1 := by
  have hl : w.rows * w.cols = w.cells.length := by
    simp only [wShape, Bool.and_eq_true, beq_iff_eq] at hs
    exact hs.1.symm
  rw [allCells, hl, ← all_range_getD w.cells [] f]

/-- `WInv` in the form in which concrete worlds are evaluated: the kernel pays for every step of an indexed
access `cells.getD i`, so the loop over `allCells` is quadratic in the size of the grid and the scan is not. -/
theorem WInv_scan (w : World) :
    w.WInv = (w.wShape && (w.cells.zipIdx.all fun x => w.wCellOf x.2 x.1) && w.allAgents.all w.wAgent &&
      w.wOverlapSym) := by
  unfold WInv
  by_cases hs : w.wShape = true
  · rw [← allCells_scan hs w.wCellOf]; rfl
  · simp [hs]

theorem posInv_iff (w : World) : w.posInv = true ↔
    (w.cells.length = w.rows * w.cols ∧ w.st.length = w.cfg.length ∧
    (∀ i, i < w.rows * w.cols →
      (w.cells.getD i []).Nodup ∧
      (∀ a ∈ w.cells.getD i [], a < w.n ∧ w.inGrid (w.stOf a).pos = true ∧ w.idx (w.stOf a).pos = i) ∧
      (∀ a ∈ w.cells.getD i [], ∀ b ∈ w.cells.getD i [], a ≠ b →
        w.pairOK (w.encOf a) (w.encOf b) = true)) ∧
    (∀ a, a < w.n → w.inGrid (w.stOf a).pos = true ∧ a ∈ w.cell (w.stOf a).pos)) := by
  simp only [posInv, wShape, posCell, posAgent, allCells, allAgents, Bool.and_eq_true, beq_iff_eq,
    List.all_eq_true, List.mem_range, decide_eq_true_eq, Bool.or_eq_true, and_assoc, Decidable.or_iff_not_imp_left,
    ne_eq]

theorem wCell_reading (w : World) (i : Nat) :
    w.wCell i = true ↔
      ((w.cells.getD i []).Nodup ∧
       (∀ a ∈ w.cells.getD i [], a < w.n ∧ (w.stOf a).active = true ∧ w.inGrid (w.stOf a).pos = true ∧
          w.idx (w.stOf a).pos = i) ∧
       (∀ a ∈ w.cells.getD i [], ∀ b ∈ w.cells.getD i [], a = b ∨ w.pairOK (w.encOf a) (w.encOf b) = true)) := by
  simp only [wCell, Bool.and_eq_true, decide_eq_true_eq, List.all_eq_true, beq_iff_eq, Bool.or_eq_true,
    and_assoc]

theorem wAgent_reading (w : World) (a : Aid) :
    w.wAgent a = true ↔
      (((w.stOf a).active = true → w.inGrid (w.stOf a).pos = true ∧ a ∈ w.cell (w.stOf a).pos) ∧
       0 ≤ (w.stOf a).health ∧ (w.stOf a).health ≤ 1 ∧
       ((w.stOf a).active = decide (0 < (w.stOf a).health)) ∧ 0 ≤ (w.stOf a).ammo ∧
       ((w.cfgOf a).hasAmmo = true → (w.stOf a).ammo ≤ max 0 (w.cfgOf a).initAmmo) ∧
       ((w.cfgOf a).hasOrient = true → 1 ≤ (w.stOf a).orient ∧ (w.stOf a).orient ≤ 4)) := by
  simp only [wAgent, Bool.and_eq_true, decide_eq_true_eq, beq_iff_eq, Bool.or_eq_true, Bool.not_eq_true',
    and_assoc, eq_false_or_iff]

theorem WInv_parts_iff (w : World) :
    w.WInv = true ↔
      (w.wShape = true ∧ (∀ i < w.rows * w.cols, w.wCell i = true) ∧ (∀ a < w.n, w.wAgent a = true) ∧
        w.wOverlapSym = true) := by
  simp only [WInv, Bool.and_eq_true, List.all_eq_true, allCells, allAgents, List.mem_range, and_assoc]

theorem sameStatic_iff (w w' : World) :
    sameStatic w w' = true ↔
      (w.rows = w'.rows ∧ w.cols = w'.cols ∧ w.overlap = w'.overlap ∧ w.cfg = w'.cfg ∧
        w.cells.length = w'.cells.length ∧ w.st.length = w'.st.length) := by
  simp only [sameStatic, Bool.and_eq_true, beq_iff_eq, and_assoc]

theorem sameStatic_of_sframe {w w' : World} (h : SFrame w w') (hc : w.cells.length = w'.cells.length) :
    sameStatic w w' = true :=
  (sameStatic_iff w w').mpr ⟨h.rows.symm, h.cols.symm, h.overlap.symm, h.cfg.symm, hc, h.len.symm⟩

end World

end Abmarl
