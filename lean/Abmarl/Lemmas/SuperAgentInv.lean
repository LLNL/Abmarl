import Abmarl.Lemmas.SuperAgent
/-!
# The invariant behind C14 and the per-call soundness lemmas

`SInv` links the wrapper model's state (inner state + the two "last reported" lists) to the ghost
state `SG` that `specC14` folds from the trace alone.  `supCall_sound`: every call made after the
first `reset` satisfies its clause `c14Entry` and re-establishes the invariant.
-/
namespace Abmarl
variable {σ α ω ι : Type}

structure SInv (S : SimIface σ α ω ι) (cs : SCSt σ) (g : SG) : Prop where
  started : cs.started = true
  gstarted : g.started = true
  done : g.done = S.agents.map (S.done cs.st.sim)
  pend : g.pend = S.agents.map (S.pending cs.st.sim)
  obsRep : ∀ c, c ∈ cs.st.lastObs ↔ c ∈ g.obsRep
  rewRep : ∀ c, c ∈ cs.st.lastRew ↔ c ∈ g.rewRep

theorem SInv.isDone {S : SimIface σ α ω ι} {cs : SCSt σ} {g : SG} (h : SInv S cs g) {c : Aid}
    (hc : c < S.n) : g.isDone c = S.done cs.st.sim c := by
  unfold SG.isDone
  rw [h.done]
  exact getD_map_range _ _ _ _ hc

theorem SInv.pendOf {S : SimIface σ α ω ι} {cs : SCSt σ} {g : SG} (h : SInv S cs g) {c : Aid}
    (hc : c < S.n) : g.pendOf c = S.pending cs.st.sim c := by
  unfold SG.pendOf
  rw [h.pend]
  exact getD_map_range _ _ _ _ hc

theorem SInv.done_frame {S : SimIface σ α ω ι} {cs : SCSt σ} {g : SG} (h : SInv S cs g) {s' : σ}
    (hd : ∀ b, S.done s' b = S.done cs.st.sim b) : S.agents.map (S.done s') = g.done := by
  rw [h.done]
  exact List.map_congr_left fun b _ => hd b

theorem SInv.pend_frame {S : SimIface σ α ω ι} {cs : SCSt σ} {g : SG} (h : SInv S cs g) {s' : σ}
    (hp : ∀ b, S.pending s' b = S.pending cs.st.sim b) : S.agents.map (S.pending s') = g.pend := by
  rw [h.pend]
  exact List.map_congr_left fun b _ => hp b

/-- marking the done agents of `cov` in the wrapper is appending `cov.filter g.isDone` in the ghost -/
theorem SInv.rep_step {S : SimIface σ α ω ι} {cs : SCSt σ} {g : SG} (h : SInv S cs g) {cov : List Aid}
    (hlt : ∀ c ∈ cov, c < S.n) {L L' R : List Aid} (hLR : ∀ c, c ∈ L ↔ c ∈ R)
    (hL' : ∀ x, x ∈ L' ↔ x ∈ L ∨ (x ∈ cov ∧ S.done cs.st.sim x = true)) (c : Aid) :
    c ∈ L' ↔ c ∈ R ++ cov.filter g.isDone := by
  rw [hL' c, hLR c, List.mem_append, List.mem_filter]
  refine or_congr Iff.rfl (and_congr_right fun hm => ?_)
  rw [h.isDone (hlt c hm)]

def SupCallSound [DecidableEq α] [DecidableEq ω] [DecidableEq ι] (S : SimIface σ α ω ι) (cfg : SuperCfg ω)
    (cs : SCSt σ) (g : SG) (call : SCall α) : Prop :=
  c14Entry S.n cfg g (supCall S cfg cs call).1 = true ∧
  SInv S (supCall S cfg cs call).2 (sgNext cfg g (supCall S cfg cs call).1)

theorem resolve_cases {n : Nat} {learning : Aid → Bool} {cfg : SuperCfg ω}
    (hc : ctorOK n learning cfg = true) (r : Ref) :
    (∃ e, resolve n cfg r = .error e) ∨
    (∃ i cov, r = .sup i ∧ resolve n cfg r = .ok (.sup cov) ∧ cfg.groups[i]? = some cov ∧ cov.Nodup ∧
      ∀ c ∈ cov, c < n) ∨
    (∃ a, r = .inner a ∧ resolve n cfg r = .ok (.unc a) ∧ a ∉ cfg.covered ∧ a < n) := by
  have hcov := ctorOK_iff.mp hc
  cases r with
  | sup i =>
    cases hg : cfg.groups[i]? with
    | none => exact Or.inl ⟨.crash, by simp only [resolve, hg]⟩
    | some cov =>
      exact Or.inr (Or.inl ⟨i, cov, rfl, by simp only [resolve, hg], hg, nodup_group hcov.2 hg,
        fun c hcm => (hcov.1 c (mem_covered_of_group hg hcm)).1⟩)
  | inner a =>
    by_cases h1 : a ∈ cfg.covered
    · exact Or.inl ⟨.rejected, by simp only [resolve, h1, if_true]⟩
    · by_cases h2 : a < n
      · exact Or.inr (Or.inr ⟨a, rfl, by simp only [resolve, h1, h2, if_true, if_false], h1, h2⟩)
      · exact Or.inl ⟨.crash, by simp only [resolve, h1, h2, if_false]⟩

theorem supCall_call (S : SimIface σ α ω ι) (cfg : SuperCfg ω) (cs : SCSt σ) (c : SCall α) :
    (supCall S cfg cs c).1.call = c := by
  cases c with
  | reset | getAllDone => rfl
  | step _ | getDone _ | getInfo _ =>
    simp only [supCall]
    split <;> rfl
  | getObs _ | getReward _ =>
    simp only [supCall]
    repeat' split
    all_goals rfl

theorem untouched_same {S : SimIface σ α ω ι} {cs : SCSt σ} {g : SG} (hI : SInv S cs g)
    (call : SCall α) (res : SupRes ω ι) :
    untouched g (sup_mkEntry S call res none cs.st.sim [] cs.st.sim) = true := by
  simp [untouched, frameOK, sup_mkEntry, hI.done, hI.pend]

/-- the ghost fold of an entry that reports the inner state as it is and leaves the hand-over sets alone -/
theorem SInv.same {S : SimIface σ α ω ι} {cs : SCSt σ} {g : SG} (hI : SInv S cs g) :
    SInv S cs { g with done := S.agents.map (S.done cs.st.sim), pend := S.agents.map (S.pending cs.st.sim) } :=
  ⟨hI.started, hI.gstarted, rfl, rfl, hI.obsRep, hI.rewRep⟩

/-- the invariant after a call that reports the inner state it leaves: only the hand-over sets are left to compare -/
theorem SInv.next {S : SimIface σ α ω ι} {cs : SCSt σ} {g : SG} (hI : SInv S cs g) (st' : SupSt σ)
    {O R : List Aid} (ho : ∀ c, c ∈ st'.lastObs ↔ c ∈ O) (hr : ∀ c, c ∈ st'.lastRew ↔ c ∈ R) :
    SInv S { st := st', started := true }
      { g with done := S.agents.map (S.done st'.sim), pend := S.agents.map (S.pending st'.sim),
               obsRep := O, rewRep := R } :=
  ⟨rfl, hI.gstarted, rfl, rfl, ho, hr⟩

section proj
variable (S : SimIface σ α ω ι) (call : SCall α) (res : SupRes ω ι) (args : Option (List (Aid × α)))
  (sA : σ) (reads : List (Aid × ω)) (s' : σ)
@[simp] theorem mkEntry_call : (sup_mkEntry S call res args sA reads s').call = call := rfl
@[simp] theorem mkEntry_res : (sup_mkEntry S call res args sA reads s').res = res := rfl
@[simp] theorem mkEntry_simArgs : (sup_mkEntry S call res args sA reads s').simArgs = args := rfl
@[simp] theorem mkEntry_accrued :
    (sup_mkEntry S call res args sA reads s').accrued = S.agents.map (S.pending sA) := rfl
@[simp] theorem mkEntry_obsReads : (sup_mkEntry S call res args sA reads s').obsReads = reads := rfl
@[simp] theorem mkEntry_simDone :
    (sup_mkEntry S call res args sA reads s').simDone = S.agents.map (S.done s') := rfl
@[simp] theorem mkEntry_pending :
    (sup_mkEntry S call res args sA reads s').pending = S.agents.map (S.pending s') := rfl
@[simp] theorem mkEntry_simAllDone :
    (sup_mkEntry S call res args sA reads s').simAllDone = S.allDone s' := rfl
@[simp] theorem mkEntry_simInfos :
    (sup_mkEntry S call res args sA reads s').simInfos = S.agents.map (S.info s') := rfl
end proj

/-- an accepted joint action names agents of the simulation only (`badItem`), and of those ghost and
simulation agree on who is done -/
theorem unravel_eq_expect {S : SimIface σ α ω ι} {cfg : SuperCfg ω} {cs : SCSt σ} {g : SG}
    (hI : SInv S cs g) :
    ∀ (acts : List (Ref × SAct α)) (oacts : List (Outer × SAct α)), checkActs S.n cfg acts = .ok oacts →
      oacts.flatMap (unravel1 S cs.st.sim) = oacts.flatMap (expect1 g)
  | [], _, h => by cases h; rfl
  | (r, a) :: rest, oacts, h => by
    unfold checkActs at h
    split at h
    · cases h
    · rename_i o _
      split at h
      · cases h
      · rename_i hbad
        split at h
        · cases h
        · rename_i l hrest
          cases h
          rw [List.flatMap_cons, List.flatMap_cons, unravel_eq_expect hI rest l hrest]
          congr 1
          cases o <;> cases a <;> try rfl
          rename_i cov js
          refine List.filter_congr fun q hq => ?_
          rw [hI.isDone]
          simp only [badItem, List.any_eq_true, decide_eq_true_eq, not_exists, not_and, Nat.not_le] at hbad
          exact hbad q hq

section calls
variable [DecidableEq α] [DecidableEq ω] [DecidableEq ι]

theorem sup_reset_sound (S : SimIface σ α ω ι) (cfg : SuperCfg ω) (cs : SCSt σ) (g : SG) :
    SupCallSound S cfg cs g (.reset : SCall α) := by
  simp only [SupCallSound, supCall]
  refine ⟨by simp [c14Entry], ?_⟩
  simp only [sgNext, mkEntry_call, mkEntry_simDone, mkEntry_pending]
  exact { started := rfl, gstarted := rfl, done := rfl, pend := rfl,
          obsRep := by simp [supReset], rewRep := by simp [supReset] }

theorem sup_getAllDone_sound {S : SimIface σ α ω ι} {cfg : SuperCfg ω} {cs : SCSt σ} {g : SG}
    (hI : SInv S cs g) : SupCallSound S cfg cs g (.getAllDone : SCall α) := by
  simp only [SupCallSound, supCall]
  refine ⟨?_, hI.same⟩
  simp only [c14Entry, mkEntry_call, mkEntry_res, mkEntry_simAllDone, untouched_same hI, Bool.and_true]
  simp

theorem sup_getDone_sound {S : SimIface σ α ω ι} {cfg : SuperCfg ω} {cs : SCSt σ} {g : SG}
    (hc : ctorOK S.n S.learning cfg = true) (hI : SInv S cs g) (r : Ref) :
    SupCallSound S cfg cs g (.getDone r : SCall α) := by
  rcases resolve_cases hc r with ⟨e, hres⟩ | ⟨i, cov, rfl, hres, _, _, hlt⟩ | ⟨a, rfl, hres, _, hlt⟩
  all_goals
    unfold SupCallSound
    simp only [supCall, hres]
    refine ⟨?_, hI.same⟩
    simp only [c14Entry, mkEntry_call, mkEntry_res, hres, supDone, untouched_same hI, Bool.and_true,
      beq_iff_eq, SupRes.done.injEq]
  · exact all_congr_mem fun c hcm => (hI.isDone (hlt c hcm)).symm
  · exact (hI.isDone hlt).symm

theorem sup_getInfo_sound {S : SimIface σ α ω ι} {cfg : SuperCfg ω} {cs : SCSt σ} {g : SG}
    (hc : ctorOK S.n S.learning cfg = true) (hI : SInv S cs g) (r : Ref) :
    SupCallSound S cfg cs g (.getInfo r : SCall α) := by
  rcases resolve_cases hc r with ⟨e, hres⟩ | ⟨i, cov, rfl, hres, _, _, hlt⟩ | ⟨a, rfl, hres, _, hlt⟩
  all_goals
    unfold SupCallSound
    simp only [supCall, hres]
    refine ⟨?_, hI.same⟩
    simp only [c14Entry, mkEntry_call, mkEntry_res, mkEntry_simInfos, hres, supInfo,
      untouched_same hI, Bool.and_true, beq_self_eq_true]
  · simp only [Bool.and_eq_true, beq_iff_eq, List.all_eq_true, List.map_map]
    refine ⟨by simp [Function.comp_def], ?_⟩
    intro p hp
    obtain ⟨c, hcm, rfl⟩ := List.mem_map.mp hp
    simp [SimIface.agents, hlt c hcm]
  · simp [SimIface.agents, hlt]

omit [DecidableEq α] [DecidableEq ω] [DecidableEq ι] in
theorem groups_getD {cfg : SuperCfg ω} {i : Nat} {cov : List Aid} (hg : cfg.groups[i]? = some cov) :
    cfg.groups.getD i [] = cov := by
  rw [List.getD_eq_getElem?_getD, hg]; rfl

theorem sup_getObs_sound {S : SimIface σ α ω ι} {cfg : SuperCfg ω} {cs : SCSt σ} {g : SG}
    (hS : Lawful S) (hc : ctorOK S.n S.learning cfg = true) (hn : NullTruthy cfg) (hI : SInv S cs g)
    (r : Ref) : SupCallSound S cfg cs g (.getObs r : SCall α) := by
  unfold SupCallSound
  rcases resolve_cases hc r with ⟨e, hres⟩ | ⟨i, cov, rfl, hres, hg, hnd, hlt⟩ | ⟨a, rfl, hres, _, hlt⟩
  · simp only [supCall, hres]
    refine ⟨by simp [c14Entry, hres, untouched_same hI], ?_⟩
    cases r <;> exact hI.same
  · have h1 : expectObs (g.obsDue cfg) _ _ _ = _ := supObsLoop_spec hS cfg g.isDone g.obsRep cov cs.st hnd
      (fun c hcm => ⟨hI.isDone (hlt c hcm), (hI.obsRep c).symm⟩)
      fun c hcm => usableNull_eq_declared hn (mem_covered_of_group hg hcm)
    obtain ⟨h2, h3, h4, h5, h6⟩ := supObsLoop_frame hS cfg cov cs.st
    simp only [supCall, hres, hI.started, supObs]
    generalize supObsLoop S cfg cov cs.st = l at h1 h2 h3 h4 h5 h6 ⊢
    have hd := hI.done_frame h3.1
    have hp := hI.pend_frame h4
    have hmask : (cov.map fun c => (c, !g.isDone c)) = l.1.map fun i => (i.agent, i.mask) := by
      rw [h2]; apply List.map_congr_left; intro c hcm; rw [hI.isDone (hlt c hcm)]
    constructor
    · simp only [c14Entry, mkEntry_call, mkEntry_res, hres, mkEntry_obsReads, h1, frameOK,
        mkEntry_simArgs, mkEntry_simDone, mkEntry_accrued, mkEntry_pending, hd, hp, hI.pend, hmask,
        packObs]
      simp
    · simp only [sgNext, mkEntry_call, mkEntry_res, groups_getD hg]
      exact hI.next _ (hI.rep_step hlt hI.obsRep h6) (h5 ▸ hI.rewRep)
  · simp only [supCall, hres, hI.started, supObs]
    have hd := hI.done_frame (hS.obs_done cs.st.sim a)
    have hp := hI.pend_frame (hS.obs_pending cs.st.sim a)
    constructor
    · simp only [c14Entry, mkEntry_call, mkEntry_res, hres, mkEntry_obsReads, frameOK,
        mkEntry_simArgs, mkEntry_simDone, mkEntry_accrued, mkEntry_pending, hd, hp, hI.pend]
      simp
    · exact hI.next _ hI.obsRep hI.rewRep

omit [DecidableEq α] [DecidableEq ω] [DecidableEq ι] in
theorem pendingAfter_of {S : SimIface σ α ω ι} {cs : SCSt σ} {g : SG} (hI : SInv S cs g)
    (read : List Aid) (s' : σ) (call : SCall α) (res : SupRes ω ι) (args : Option (List (Aid × α)))
    (sA : σ) (reads : List (Aid × ω))
    (h : ∀ b, S.pending s' b = if b ∈ read then 0 else S.pending cs.st.sim b) :
    pendingAfter S.n g read (sup_mkEntry S call res args sA reads s') = true := by
  unfold pendingAfter
  simp only [mkEntry_pending, Bool.and_eq_true, beq_iff_eq, List.all_eq_true, List.mem_range]
  refine ⟨by simp [SimIface.agents], ?_⟩
  intro a ha
  rw [SimIface.agents, getD_map_range _ _ _ _ ha, h a]
  by_cases hm : a ∈ read <;> simp [hm, hI.pendOf ha]

theorem sup_getReward_sound {S : SimIface σ α ω ι} {cfg : SuperCfg ω} {cs : SCSt σ} {g : SG}
    (hS : Lawful S) (hc : ctorOK S.n S.learning cfg = true) (hI : SInv S cs g)
    (r : Ref) : SupCallSound S cfg cs g (.getReward r : SCall α) := by
  unfold SupCallSound
  rcases resolve_cases hc r with ⟨e, hres⟩ | ⟨i, cov, rfl, hres, hg, hnd, hlt⟩ | ⟨a, rfl, hres, _, hlt⟩
  · simp only [supCall, hres]
    refine ⟨by simp [c14Entry, hres, untouched_same hI], ?_⟩
    cases r <;> exact hI.same
  · obtain ⟨h1, h2, h3, h4, h5⟩ := supRewLoop_spec hS (fun c => !(g.isDone c && decide (c ∈ g.rewRep)))
      g.pendOf cov cs.st 0 hnd fun c hcm => by
        rw [hI.isDone (hlt c hcm), hI.pendOf (hlt c hcm)]
        simp only [hI.rewRep c, and_self]
    rw [Int.zero_add, ← SG.counted] at h1
    simp only [supCall, hres, hI.started, supReward]
    generalize supRewLoop S cov cs.st 0 = l at h1 h2 h3 h4 h5 ⊢
    have hd := hI.done_frame h2.1
    have hpa := fun res => pendingAfter_of hI (g.counted cov) l.2.sim (.getReward (.sup i) : SCall α)
      res none cs.st.sim [] h3
    constructor
    · simp only [c14Entry, mkEntry_call, mkEntry_res, hres, mkEntry_obsReads, frameOK,
        mkEntry_simArgs, mkEntry_simDone, mkEntry_accrued, hd, hI.pend, hpa, h1]
      simp
    · simp only [sgNext, mkEntry_call, mkEntry_res, groups_getD hg]
      exact hI.next _ (h4 ▸ hI.obsRep) (hI.rep_step hlt hI.rewRep h5)
  · simp only [supCall, hres, hI.started, supReward]
    have hd := hI.done_frame (hS.rew_done cs.st.sim a)
    have hpa := fun res => pendingAfter_of hI [a] (S.reward cs.st.sim a).2
      (.getReward (.inner a) : SCall α) res none cs.st.sim []
      (by intro b; rw [hS.rew_pending]; simp)
    constructor
    · simp only [c14Entry, mkEntry_call, mkEntry_res, hres, mkEntry_obsReads, frameOK,
        mkEntry_simArgs, mkEntry_simDone, mkEntry_accrued, hd, hI.pend, hpa, hS.rew_val,
        hI.pendOf hlt]
      simp
    · exact hI.next _ hI.obsRep hI.rewRep

theorem sup_step_sound {S : SimIface σ α ω ι} {cfg : SuperCfg ω} {cs : SCSt σ} {g : SG}
    (hI : SInv S cs g) (acts : List (Ref × SAct α)) : SupCallSound S cfg cs g (.step acts) := by
  unfold SupCallSound
  cases hchk : checkActs S.n cfg acts with
  | error e =>
    simp only [supCall, hchk]
    exact ⟨by simp [c14Entry, hchk, untouched_same hI], hI.same⟩
  | ok oacts =>
    simp only [supCall, hchk, hI.started]
    refine ⟨?_, hI.next _ hI.obsRep hI.rewRep⟩
    simp only [c14Entry, mkEntry_call, mkEntry_res, hchk, mkEntry_simArgs, mkEntry_obsReads,
      mkEntry_pending, mkEntry_accrued, supStepArgs, unravel_eq_expect hI acts oacts hchk]
    simp

theorem supCall_sound {S : SimIface σ α ω ι} {cfg : SuperCfg ω} (hS : Lawful S)
    (hc : ctorOK S.n S.learning cfg = true) (hn : NullTruthy cfg) (cs : SCSt σ) (g : SG)
    (call : SCall α) (hI : sup_isReset call = false → SInv S cs g) : SupCallSound S cfg cs g call := by
  cases call with
  | reset => exact sup_reset_sound S cfg cs g
  | step acts => exact sup_step_sound (hI rfl) acts
  | getObs r => exact sup_getObs_sound hS hc hn (hI rfl) r
  | getReward r => exact sup_getReward_sound hS hc (hI rfl) r
  | getDone r => exact sup_getDone_sound hc (hI rfl) r
  | getAllDone => exact sup_getAllDone_sound (hI rfl)
  | getInfo r => exact sup_getInfo_sound hc (hI rfl) r

theorem supRun_sound {S : SimIface σ α ω ι} {cfg : SuperCfg ω} (hS : Lawful S)
    (hc : ctorOK S.n S.learning cfg = true) (hn : NullTruthy cfg) :
    ∀ (calls : List (SCall α)) (cs : SCSt σ) (g : SG), (g.started = true → SInv S cs g) →
      c14Loop S.n cfg g (supRun S cfg cs calls) = true := by
  -- the judge reads the call off the entry (`supCall_call`) and ignores the list of calls; the four `rfl`s
  -- are the unfolding equations of `supRun` and `c14Loop`, in the order of `judged_run`'s binders
  refine judged_run (loop := fun g _ es => c14Loop S.n cfg g es)
    (fun _ => rfl) (fun _ _ _ => rfl) (fun _ => rfl) (fun _ _ _ _ _ => rfl) ?_
  intro cs g c hI hskip
  rw [supCall_call] at hskip
  obtain ⟨h1, h2⟩ := supCall_sound hS hc hn cs g c fun hr => hI (by simpa [hr] using hskip)
  exact ⟨h1, fun _ => h2⟩

end calls

end Abmarl
