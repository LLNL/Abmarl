import Abmarl.Spec.Builders
import Abmarl.Lemmas.Dict
/-!
# Lemmas for C18: loops, dictionaries, the array builder

A double `for r in range(rows): for c in range(cols)` loop is one loop over the flat index `i`
with `(r, c) = (i / cols, i % cols)` (`forRangeE_row`: one row of it), and over a list indexed by
`getD` that loop is a structural scan of the list (`scan`).  The item list of an agents dictionary
(`items`) is a dict `id ↦ agent` in the sense of `Lemmas/Dict.lean`, and what `dictSet` does is
read off there.  `layoutFrom` is `layoutAgents` by recursion on the cells; two entries of one
character are numbered differently (`numbering_monotone`), so the layout's agents have distinct
ids.  The scan assigns its agents one after the other into the dictionary, so the array builder
returns `extras` updated with `layoutAgents` in order (`fromArray_eq`).  Last, what the Boolean
judges of `Spec/Builders.lean` say, each as an iff.
-/
namespace Abmarl
namespace Builders

theorem pos_inj {cols i j : Nat} (h : (i / cols, i % cols) = (j / cols, j % cols)) : i = j :=
  Nat.ext_div_mod (congrArg Prod.fst h) (congrArg Prod.snd h)

section loops
variable {σ : Type}

/-- the flat loop does `k` steps of row `r` from column `c0` and goes on -/
theorem forRangeE_row (f : σ → Nat → Nat → Except Err σ) (cols r m : Nat) :
    ∀ k c0 st, c0 + k ≤ cols →
      forRangeE (fun st i => f st (i / cols) (i % cols)) (k + m) (r * cols + c0) st =
        match forRangeE (fun st c => f st r c) k c0 st with
        | .error e => .error e
        | .ok st' => forRangeE (fun st i => f st (i / cols) (i % cols)) m (r * cols + c0 + k) st' := by
  intro k
  induction k with
  | zero => intro c0 st _; simp [forRangeE]
  | succ k ih =>
    intro c0 st h
    obtain ⟨hd, hm⟩ := mul_add_div_mod (a := r) (b := c0) (c := cols) (by omega)
    rw [Nat.add_right_comm, forRangeE, forRangeE, hd, hm]
    cases f st r c0 with
    | error e => rfl
    | ok st' =>
      have e : r * cols + c0 + (k + 1) = r * cols + (c0 + 1) + k := by omega
      rw [e]
      exact ih (c0 + 1) st' (by omega)

theorem forRangeE_nested_flat (f : σ → Nat → Nat → Except Err σ) (cols : Nat) :
    ∀ k r0 st,
      forRangeE (fun st r => forRangeE (fun st c => f st r c) cols 0 st) k r0 st =
        forRangeE (fun st i => f st (i / cols) (i % cols)) (k * cols) (r0 * cols) st := by
  intro k
  induction k with
  | zero => intro r0 st; simp [forRangeE]
  | succ k ih =>
    intro r0 st
    have := forRangeE_row f cols r0 (k * cols) cols 0 st (by omega)
    rw [Nat.add_zero] at this
    rw [forRangeE, Nat.succ_mul, Nat.add_comm (k * cols), this]
    cases forRangeE (fun st c => f st r0 c) cols 0 st with
    | error e => rfl
    | ok st' => simp only [ih, Nat.succ_mul]

theorem forRangeE_ok (f : σ → Nat → σ) :
    ∀ k i st, forRangeE (fun st i => .ok (f st i)) k i st = .ok (forRange f k i st) := by
  intro k
  induction k with
  | zero => intro i st; rfl
  | succ k ih => intro i st; exact ih (i + 1) (f st i)

theorem forRange_nested_flat (f : σ → Nat → Nat → σ) (cols k r0 : Nat) (st : σ) :
    forRange (fun st r => forRange (fun st c => f st r c) cols 0 st) k r0 st =
      forRange (fun st i => f st (i / cols) (i % cols)) (k * cols) (r0 * cols) st := by
  have h := forRangeE_nested_flat (fun st r c => Except.ok (ε := Err) (f st r c)) cols k r0 st
  simp only [forRangeE_ok] at h
  exact Except.ok.inj h

end loops

/-- process the entries of `l`, the first of which has flat index `i` -/
def scan (reg : Registry) (cols : Nat) : List Nat → Nat → St → St
  | [], _, st => st
  | ch :: rest, i, st => scan reg cols rest (i + 1) (cellStep reg st ch (i / cols) (i % cols))

theorem scan_append (reg : Registry) (cols : Nat) (l1 l2 : List Nat) :
    ∀ i st, scan reg cols (l1 ++ l2) i st = scan reg cols l2 (i + l1.length) (scan reg cols l1 i st) := by
  induction l1 with
  | nil => intro i st; simp [scan]
  | cons ch l1 ih =>
    intro i st
    simp only [List.cons_append, scan, ih, List.length_cons]
    have e : i + 1 + l1.length = i + (l1.length + 1) := by omega
    rw [e]

theorem flat_eq_scan (reg : Registry) (cols : Nat) (cells : List Nat) :
    ∀ k i0 st, i0 + k ≤ cells.length →
      forRange (fun st i => cellStep reg st (cells.getD i 0) (i / cols) (i % cols)) k i0 st =
        scan reg cols ((cells.drop i0).take k) i0 st := by
  intro k
  induction k with
  | zero => intro i0 st _; simp [forRange, scan]
  | succ k ih =>
    intro i0 st h
    have hi : i0 < cells.length := by omega
    rw [forRange, List.drop_eq_getElem_cons hi, List.take_succ_cons, scan, ih (i0 + 1) _ (by omega)]
    have : cells.getD i0 0 = cells[i0] := by
      simp [List.getD_eq_getElem?_getD, List.getElem?_eq_getElem hi]
    rw [this]

theorem arrayLoop_eq_scan (reg : Registry) (rows cols : Nat) (cells : List Nat) (st : St)
    (hlen : cells.length = rows * cols) :
    arrayLoop reg rows cols cells st = scan reg cols cells 0 st := by
  unfold arrayLoop
  rw [forRange_nested_flat (fun st r c => cellStep reg st (cells.getD (r * cols + c) 0) r c) cols rows 0 st]
  simp only [Nat.div_add_mod', Nat.zero_mul]
  rw [flat_eq_scan reg cols cells (rows * cols) 0 st (by omega)]
  simp [← hlen]

/-- an agents dictionary as the item list of the dict `id ↦ agent` -/
def items (d : List Agent) : List (AId × Agent) := d.map fun a => (a.id, a)

theorem keys_items (d : List Agent) : (items d).map (·.1) = d.map (·.id) := by
  simp [items, List.map_map, Function.comp_def]

theorem mem_items {d : List Agent} {x : Agent} : (x.id, x) ∈ items d ↔ x ∈ d := by
  simp only [items, List.mem_map, Prod.mk.injEq]
  exact ⟨fun ⟨a, ha, _, e⟩ => e ▸ ha, fun h => ⟨x, h, rfl, rfl⟩⟩

/-- `agents[a.id] = a` is the generic dict assignment -/
theorem items_dictSet :
    ∀ (d : List Agent) (a : Agent), items (dictSet d a) = Abmarl.dictSet (items d) a.id a
  | [], _ => rfl
  | b :: bs, a => by
    unfold dictSet
    by_cases hb : b.id = a.id
    · simp [items, Abmarl.dictSet, hb]
    · have := items_dictSet bs a
      simp only [items] at this
      simp [items, Abmarl.dictSet, hb, this]

theorem mem_iff_lookup {d : List Agent} (hd : (d.map (·.id)).Nodup) {x : Agent} :
    x ∈ d ↔ (items d).lookup x.id = some x :=
  mem_items.symm.trans
    ⟨lookup_of_mem_nodup _ (by rwa [keys_items]) _ _, mem_of_lookup _ _ _⟩

theorem eq_of_id_eq {L : List Agent} (hnd : (L.map (·.id)).Nodup) {a b : Agent} (ha : a ∈ L) (hb : b ∈ L)
    (h : a.id = b.id) : a = b := by
  have hl := (mem_iff_lookup hnd).mp ha
  rw [h, (mem_iff_lookup hnd).mp hb] at hl
  exact (Option.some.inj hl).symm

theorem nodup_dictSet {d : List Agent} (a : Agent) (hd : (d.map (·.id)).Nodup) :
    ((dictSet d a).map (·.id)).Nodup := by
  rw [← keys_items, items_dictSet]
  exact nodup_keys_dictSet _ _ _ (by rwa [keys_items])

/-- `Nodup` is needed: `dictSet` replaces the first entry with the id only, so a second entry with
the same id would survive the assignment. -/
theorem mem_dictSet {d : List Agent} {a x : Agent} (hd : (d.map (·.id)).Nodup) :
    x ∈ dictSet d a ↔ x = a ∨ (x ∈ d ∧ x.id ≠ a.id) := by
  rw [mem_iff_lookup (nodup_dictSet a hd), items_dictSet, lookup_dictSet, mem_iff_lookup hd]
  by_cases h : x.id = a.id
  · simp only [h, if_true, Option.some.injEq, ne_eq, not_true_eq_false, and_false, or_false]
    exact eq_comm
  · simp only [h, if_false, ne_eq, not_false_eq_true, and_true]
    exact ⟨Or.inr, fun h' => h'.resolve_left fun e => h (e ▸ rfl)⟩

theorem nodup_foldl_dictSet (L : List Agent) :
    ∀ d : List Agent, (d.map (·.id)).Nodup → ((L.foldl dictSet d).map (·.id)).Nodup := by
  induction L with
  | nil => intro d hd; exact hd
  | cons a L ih => intro d hd; exact ih _ (nodup_dictSet a hd)

theorem mem_foldl_dictSet (L : List Agent) :
    ∀ (d : List Agent) (x : Agent), (d.map (·.id)).Nodup → (L.map (·.id)).Nodup →
      (x ∈ L.foldl dictSet d ↔ x ∈ L ∨ (x ∈ d ∧ ∀ l ∈ L, l.id ≠ x.id)) := by
  induction L with
  | nil => intro d x _ _; simp
  | cons a L ih =>
    intro d x hd hL
    rw [List.map_cons, List.nodup_cons] at hL
    rw [List.foldl_cons, ih _ x (nodup_dictSet a hd) hL.2, mem_dictSet hd]
    simp only [List.mem_cons, forall_eq_or_imp]
    constructor
    · rintro (h | ⟨h | ⟨h, hne⟩, hn⟩)
      · exact Or.inl (Or.inr h)
      · exact Or.inl (Or.inl h)
      · exact Or.inr ⟨h, Ne.symm hne, hn⟩
    · rintro ((h | h) | ⟨h, hne, hn⟩)
      · exact Or.inr ⟨Or.inl h, fun l hl e => hL.1 (h ▸ e ▸ List.mem_map_of_mem hl)⟩
      · exact Or.inl h
      · exact Or.inr ⟨Or.inr ⟨h, Ne.symm hne⟩, hn⟩

/-- the agent (if any) for an entry `ch` that comes after the entries `pre` -/
def headAgent (reg : Registry) (cols : Nat) (pre : List Nat) (ch : Nat) : List Agent :=
  match reg.lookup ch with
  | none => []
  | some enc =>
    [{ id := .gen ch (pre.count ch), enc := enc, ipos := some (pre.length / cols, pre.length % cols) }]

/-- the agents for the entries `suf` that come after the entries `pre` -/
def layoutFrom (reg : Registry) (cols : Nat) : List Nat → List Nat → List Agent
  | _, [] => []
  | pre, ch :: rest => headAgent reg cols pre ch ++ layoutFrom reg cols (pre ++ [ch]) rest

theorem layoutAgents_aux (reg : Registry) (cols : Nat) :
    ∀ suf pre : List Nat,
      (suf.zipIdx pre.length).filterMap (fun p =>
        (reg.lookup p.1).map fun enc =>
          ({ id := .gen p.1 (((pre ++ suf).take p.2).count p.1), enc := enc,
             ipos := some (p.2 / cols, p.2 % cols) } : Agent)) = layoutFrom reg cols pre suf := by
  intro suf
  induction suf with
  | nil => intro pre; simp [layoutFrom]
  | cons ch rest ih =>
    intro pre
    have ih' := ih (pre ++ [ch])
    simp only [List.length_append, List.length_cons, List.length_nil, Nat.zero_add,
      List.append_assoc, List.singleton_append] at ih'
    rw [List.zipIdx_cons, List.filterMap_cons, layoutFrom, headAgent, ih']
    cases reg.lookup ch with
    | none => simp
    | some enc => simp

theorem layoutAgents_eq (reg : Registry) (cols : Nat) (cells : List Nat) :
    layoutAgents reg cols cells = layoutFrom reg cols [] cells := by
  have := layoutAgents_aux reg cols cells []
  simpa [layoutAgents] using this

theorem mem_layoutAgents {reg : Registry} {cols : Nat} {cells : List Nat} {a : Agent} :
    a ∈ layoutAgents reg cols cells ↔
      ∃ j ch enc, cells[j]? = some ch ∧ reg.lookup ch = some enc ∧
        a = { id := .gen ch ((cells.take j).count ch), enc := enc, ipos := some (j / cols, j % cols) } := by
  simp only [layoutAgents, List.mem_filterMap, List.mem_zipIdx_iff_getElem?, Option.map_eq_some_iff,
    Prod.exists]
  exact ⟨fun ⟨ch, j, hj, enc, hl, e⟩ => ⟨j, ch, enc, hj, hl, e.symm⟩,
    fun ⟨j, ch, enc, hj, hl, e⟩ => ⟨ch, j, hj, enc, hl, e.symm⟩⟩

section
variable {cells : List Nat}

/-- two entries holding the same character get different numbers, the earlier one the smaller -/
theorem numbering_monotone {j k ch : Nat} (hjk : j < k) (hj : cells[j]? = some ch) :
    (cells.take j).count ch < (cells.take k).count ch := by
  have h1 : cells.take (j + 1) = cells.take j ++ [ch] := by
    rw [List.take_add_one, hj]
    rfl
  have h2 := (List.take_sublist_take_left (l := cells) (show j + 1 ≤ k by omega)).count_le ch
  rw [h1, List.count_append, List.count_singleton_self] at h2
  omega

end

theorem zipIdx_pairwise (l : List Nat) :
    l.zipIdx.Pairwise fun p q => p.2 < q.2 ∧ l[p.2]? = some p.1 := by
  have h : (l.zipIdx.map (·.2)).Pairwise (· < ·) := by
    rw [List.zipIdx_map_snd]
    exact List.pairwise_lt_range'
  exact (List.pairwise_map.mp h).imp_of_mem fun ha _ hlt => ⟨hlt, List.mem_zipIdx_iff_getElem?.mp ha⟩

theorem layoutAgents_ids_nodup (reg : Registry) (cols : Nat) (cells : List Nat) :
    ((layoutAgents reg cols cells).map (·.id)).Nodup := by
  rw [List.nodup_iff_pairwise_ne, List.pairwise_map, layoutAgents, List.pairwise_filterMap]
  refine (zipIdx_pairwise cells).imp ?_
  rintro ⟨ch, j⟩ ⟨ch', k⟩ ⟨hjk, hj⟩ a ha b hb e
  simp only [Option.map_eq_some_iff] at ha hb
  obtain ⟨_, _, rfl⟩ := ha
  obtain ⟨_, _, rfl⟩ := hb
  injection e with e1 e2
  subst e1
  exact absurd e2 (Nat.ne_of_lt (numbering_monotone hjk hj))

/-- The counters `ndx` count the registered entries read so far: `cellStep` does not touch the counter of
an unregistered character (the Python code never creates that key). -/
theorem scan_agents (reg : Registry) (cols : Nat) :
    ∀ (suf pre : List Nat) (st : St),
      (∀ ch, st.ndx ch = (pre.filter fun x => (reg.lookup x).isSome).count ch) →
      (scan reg cols suf pre.length st).agents =
        (layoutFrom reg cols pre suf).foldl dictSet st.agents := by
  intro suf
  induction suf with
  | nil => intro pre st _; simp [scan, layoutFrom]
  | cons ch rest ih =>
    intro pre st hinv
    have ih' := ih (pre ++ [ch])
    simp only [List.length_append, List.length_cons, List.length_nil, Nat.zero_add] at ih'
    rw [scan, layoutFrom, List.foldl_append, ih']
    · -- the agent `cellStep` assigns is the head's agent: its number is `st.ndx ch`, by the invariant
      -- the number of earlier occurrences of the registered `ch`
      cases hl : reg.lookup ch with
      | none => simp [cellStep, headAgent, hl]
      | some enc => simp [cellStep, headAgent, hl, hinv ch, List.count_filter]
    · intro x
      cases hl : reg.lookup ch with
      | none => simp [cellStep, hl, hinv x, List.filter_append]
      | some enc =>
        simp only [cellStep, hl, hinv, List.filter_append, List.count_append]
        by_cases hxc : x = ch
        · simp [hxc, hl]
        · simp [hxc, hl, Ne.symm]

theorem fromArray_eq (rows cols : Nat) (cells : List Nat) (reg : Registry) (extras : List Agent)
    (hlen : cells.length = rows * cols) (hres : reservedInRegistry reg = false) :
    fromArray rows cols cells reg extras =
      buildSim rows cols ((layoutAgents reg cols cells).foldl dictSet extras) := by
  unfold fromArray
  rw [hres, arrayLoop_eq_scan reg rows cols cells _ hlen]
  have := scan_agents reg cols cells [] (St.init extras) (by intro ch; simp [St.init])
  simp only [List.length_nil] at this
  rw [this, layoutAgents_eq]
  simp [St.init]

theorem mem_keptExtras {lay extras : List Agent} {x : Agent} :
    x ∈ keptExtras lay extras ↔ x ∈ extras ∧ ∀ l ∈ lay, l.id ≠ x.id := by
  simp only [keptExtras, List.mem_filter, Bool.not_eq_true', List.any_eq_false, decide_eq_true_eq]

theorem mem_expectedAgents {reg : Registry} {cols : Nat} {cells : List Nat} {extras : List Agent} {x : Agent} :
    x ∈ expectedAgents reg cols cells extras ↔
      x ∈ layoutAgents reg cols cells ∨ (x ∈ extras ∧ ∀ l ∈ layoutAgents reg cols cells, l.id ≠ x.id) := by
  rw [expectedAgents, List.mem_append, mem_keptExtras]

theorem sameAgents_iff {a b : List Agent} : sameAgents a b = true ↔ ∀ x, x ∈ a ↔ x ∈ b := by
  simp only [sameAgents, Bool.and_eq_true, List.all_eq_true, decide_eq_true_eq]
  exact ⟨fun ⟨h1, h2⟩ x => ⟨h1 x, h2 x⟩, fun h => ⟨fun x => (h x).mp, fun x => (h x).mpr⟩⟩

theorem specBuild_iff {rows cols : Nat} {cells : List Nat} {reg : Registry} {extras : List Agent} {sim : Sim} :
    specBuild rows cols cells reg extras (.ok sim) = true ↔
      sim.rows = rows ∧ sim.cols = cols ∧ (sim.agents.map (·.id)).Nodup ∧
        ∀ x, x ∈ sim.agents ↔
          x ∈ layoutAgents reg cols cells ∨ (x ∈ extras ∧ ∀ l ∈ layoutAgents reg cols cells, l.id ≠ x.id) := by
  simp only [specBuild, idsNodup, Bool.and_eq_true, beq_iff_eq, decide_eq_true_eq, sameAgents_iff,
    mem_expectedAgents, and_assoc]
  exact and_congr_right fun _ => and_congr_right fun _ => and_congr_right fun _ =>
    forall_congr' fun _ => iff_comm

theorem specSame_iff {a b : Sim} : specSame (.ok a) (.ok b) = true ↔
    a.rows = b.rows ∧ a.cols = b.cols ∧ (a.agents.map (·.id)).Nodup ∧ (b.agents.map (·.id)).Nodup ∧
      ∀ x, x ∈ a.agents ↔ x ∈ b.agents := by
  simp only [specSame, idsNodup, Bool.and_eq_true, beq_iff_eq, decide_eq_true_eq, sameAgents_iff, and_assoc]

end Builders
end Abmarl
