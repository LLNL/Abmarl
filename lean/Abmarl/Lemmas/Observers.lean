import Abmarl.Spec.Observers
import Abmarl.Lemmas.Mask
import Abmarl.Lemmas.Grid
/-!
# C09 lemmas: arrays as lists of rows, the double loop, the window embedding, the mask, the agent test

The double loop threads the tape, so each entry of its array was produced by the cell function on *some* tape: a
per-cell fact that holds for all tapes holds for every entry (`convolve_ok`).  The slice arithmetic of
`create_grid_and_mask` is one fact per coordinate (`slice_iff`), from which `window_embedding`.  The mask is C10's
`maskOf`, so its entries follow the specification's rule (`at2_maskFor`).  The three grid observers and their judges
share the frame `judged_of_body`; the two that draw share `convolve_judged`.
-/
namespace Abmarl
namespace Observers
open World

/-- Prop reading of `specTab` -/
def TabP {β : Type} (n m : Nat) (P : Nat → Nat → β → Prop) (g : List (List β)) : Prop :=
  g.length = n ∧ ∀ i < n, ∃ row, g[i]? = some row ∧ row.length = m ∧
    ∀ j < m, ∃ v, row[j]? = some v ∧ P i j v

theorem layers_iff (n : Nat) (l : List Int) (p : Nat → Int → Bool) :
    ((l.length == n) && (List.range n).all fun e =>
      match l[e]? with
      | none => false
      | some v => p e v) = true ↔
    (l.length = n ∧ ∀ e < n, ∃ v, l[e]? = some v ∧ p e v = true) := by
  simp only [Bool.and_eq_true, beq_iff_eq, List.all_eq_true, List.mem_range]
  refine and_congr_right fun _ => forall₂_congr fun e _ => ?_
  cases l[e]? <;> simp

theorem specTab_iff {β : Type} (n m : Nat) (p : Nat → Nat → β → Bool) (g : List (List β)) :
    specTab n m p g = true ↔ TabP n m (fun i j v => p i j v = true) g := by
  unfold specTab TabP
  simp only [Bool.and_eq_true, beq_iff_eq, List.all_eq_true, List.mem_range]
  refine and_congr_right fun _ => forall₂_congr fun i _ => ?_
  cases g[i]? with
  | none => simp only [Bool.false_eq_true, reduceCtorEq, false_and, exists_false]
  | some row =>
    simp only [Bool.and_eq_true, beq_iff_eq, List.all_eq_true, List.mem_range, Option.some.injEq, exists_eq_left']
    refine and_congr_right fun _ => forall₂_congr fun j _ => ?_
    cases row[j]? with
    | none => simp only [Bool.false_eq_true, reduceCtorEq, false_and, exists_false]
    | some v => simp only [Option.some.injEq, exists_eq_left']

theorem TabP_mono {β : Type} {n m : Nat} {P Q : Nat → Nat → β → Prop} {g : List (List β)}
    (h : TabP n m P g) (hPQ : ∀ i < n, ∀ j < m, ∀ v, P i j v → Q i j v) : TabP n m Q g := by
  refine ⟨h.1, fun i hi => ?_⟩
  obtain ⟨row, hr, hm, hrow⟩ := h.2 i hi
  refine ⟨row, hr, hm, fun j hj => ?_⟩
  obtain ⟨v, hv, hp⟩ := hrow j hj
  exact ⟨v, hv, hPQ i hi j hj v hp⟩

theorem specTab_imp {β : Type} {n m : Nat} {p q : Nat → Nat → β → Bool} {g : List (List β)}
    (h : specTab n m p g = true) (hpq : ∀ i < n, ∀ j < m, ∀ v, p i j v = true → q i j v = true) :
    specTab n m q g = true :=
  (specTab_iff n m q g).mpr (TabP_mono ((specTab_iff n m p g).mp h) hpq)

theorem TabP_congr {β : Type} {n m : Nat} {P Q : Nat → Nat → β → Prop} {g : List (List β)}
    (h : ∀ i j v, P i j v ↔ Q i j v) : TabP n m P g ↔ TabP n m Q g :=
  ⟨fun hP => TabP_mono hP fun i _ j _ v => (h i j v).mp,
   fun hQ => TabP_mono hQ fun i _ j _ v => (h i j v).mpr⟩

theorem TabP_tab {β : Type} (n m : Nat) (f : Nat → Nat → β) (P : Nat → Nat → β → Prop)
    (h : ∀ i < n, ∀ j < m, P i j (f i j)) : TabP n m P (tab n m f) := by
  unfold tab
  refine ⟨by simp, fun i hi => ⟨(List.range m).map fun j => f i j, by simp [hi], by simp,
    fun j hj => ⟨f i j, by simp [hj], h i hi j hj⟩⟩⟩

theorem at2_tab {β : Type} (n m : Nat) (f : Nat → Nat → β) (i j : Nat) (d : β) (hi : i < n) (hj : j < m) :
    at2 (tab n m f) i j d = f i j := by
  unfold at2 tab
  simp [List.getD_eq_getElem?_getD, hi, hj]

theorem at2_of_TabP {β : Type} {n m : Nat} {P : Nat → Nat → β → Prop} {g : List (List β)}
    (h : TabP n m P g) (i j : Nat) (d : β) (hi : i < n) (hj : j < m) : P i j (at2 g i j d) := by
  obtain ⟨row, hr, _, hrow⟩ := h.2 i hi
  obtain ⟨v, hv, hp⟩ := hrow j hj
  unfold at2
  simp only [List.getD_eq_getElem?_getD, hr, Option.getD_some, hv]
  exact hp

theorem TabP.entry {β : Type} {n m : Nat} {P : Nat → Nat → β → Prop} {g : List (List β)} (h : TabP n m P g)
    {i j : Nat} (hi : i < n) (hj : j < m) {row : List β} {v : β} (hrow : g[i]? = some row)
    (hv : row[j]? = some v) : P i j v := by
  have h := at2_of_TabP h i j v hi hj
  simpa only [at2, List.getD_eq_getElem?_getD, hrow, hv, Option.getD_some] using h

theorem at2_eq_cellAt (g : List (List Bool)) (i j : Nat) (d : Bool) :
    at2 g i j d = (Mask.cellAt g i j).getD d := by
  unfold at2 Mask.cellAt
  simp only [List.getD_eq_getElem?_getD]
  cases g[i]? with
  | none => simp
  | some row => simp

theorem scanM_ok {α β : Type} (f : α → Tape → Except GErr (β × Tape)) (P : α → β → Prop) (l : List α)
    (h : ∀ x ∈ l, ∀ t, ∃ y t', f x t = .ok (y, t') ∧ P x y) :
    ∀ t, ∃ ys t', scanM f l t = .ok (ys, t') ∧ ys.length = l.length ∧
      ∀ (k : Nat) x, l[k]? = some x → ∃ y, ys[k]? = some y ∧ P x y := by
  induction l with
  | nil => exact fun t => ⟨[], t, rfl, rfl, fun k x hk => nomatch hk⟩
  | cons x xs ih =>
    intro t
    obtain ⟨y, t1, hy, hPy⟩ := h x (by simp) t
    obtain ⟨ys, t2, hys, hlen, hall⟩ := ih (fun z hz => h z (by simp [hz])) t1
    refine ⟨y :: ys, t2, by simp only [scanM, hy, hys], congrArg (· + 1) hlen, fun k x' hk => ?_⟩
    cases k with
    | zero =>
      cases hk
      exact ⟨y, rfl, hPy⟩
    | succ k => exact hall k x' hk

theorem scanM_range_ok {β : Type} (f : Nat → Tape → Except GErr (β × Tape)) (P : Nat → β → Prop) (n : Nat)
    (h : ∀ i < n, ∀ t, ∃ y t', f i t = .ok (y, t') ∧ P i y) (t : Tape) :
    ∃ ys t', scanM f (List.range n) t = .ok (ys, t') ∧ ys.length = n ∧
      ∀ k < n, ∃ y, ys[k]? = some y ∧ P k y := by
  obtain ⟨ys, t', hs, hlen, hall⟩ := scanM_ok f P (List.range n) (fun i hi => h i (List.mem_range.mp hi)) t
  exact ⟨ys, t', hs, hlen.trans List.length_range, fun k hk => hall k k (List.getElem?_range hk)⟩

theorem convolve_ok (R : Nat) (f : Nat → Nat → Tape → Except GErr (Int × Tape))
    (P : Nat → Nat → Int → Prop)
    (h : ∀ i < 2*R+1, ∀ j < 2*R+1, ∀ t, ∃ v t', f i j t = .ok (v, t') ∧ P i j v) :
    ∀ t, ∃ g t', convolve R f t = .ok (g, t') ∧ TabP (2*R+1) (2*R+1) P g := by
  -- a row is the loop over `j`, the array the loop over `i` of the rows
  exact scanM_range_ok _ _ _ fun i hi => scanM_range_ok _ (P i) _ (h i hi)

/-- the body of the two observers that draw: the double loop, then `k` (the paste, or nothing) -/
theorem convolve_judged {R : Nat} {f : Nat → Nat → Tape → Except GErr (Int × Tape)} {P : Nat → Nat → Int → Prop}
    {J : Obs → Bool} {k : List (List Int) → Obs}
    (hcell : ∀ i < 2*R+1, ∀ j < 2*R+1, ∀ t, ∃ v t', f i j t = .ok (v, t') ∧ P i j v)
    (hJ : ∀ g, TabP (2*R+1) (2*R+1) P g → J (k g) = true) (t : Tape) :
    ∃ o t', (match convolve R f t with
        | .error e => .error e
        | .ok (g, t') => .ok (k g, t') : Except GErr (Obs × Tape)) = .ok (o, t') ∧ J o = true := by
  obtain ⟨g, t', hg, hP⟩ := convolve_ok R f P hcell t
  exact ⟨k g, t', by rw [hg], hJ g hP⟩

theorem choice_mem {β : Type} (l : List β) (t : Tape) (hl : l ≠ []) :
    ∃ y, Oracle.choice l t = (some y, t.tail) ∧ y ∈ l := by
  cases l with
  | nil => exact absurd rfl hl
  | cons x xs =>
    refine ⟨(x :: xs).getD (t.headD 0 % (xs.length + 1)) x, rfl, ?_⟩
    have hlt : t.headD 0 % (xs.length + 1) < (x :: xs).length := by
      simpa using Nat.mod_lt _ (Nat.succ_pos _)
    rw [List.getD_eq_getElem?_getD, List.getElem?_eq_getElem hlt, Option.getD_some]
    exact List.getElem_mem hlt

theorem pick_ok (w : World) (occ : List Aid) (t : Tape) (h : occ ≠ []) :
    ∃ v t', pick w occ t = .ok (v, t') ∧ ∃ b ∈ occ, w.encOf b = v := by
  obtain ⟨y, hy, hmem⟩ := choice_mem (occ.map w.encOf) t (by simpa using h)
  refine ⟨y, t.tail, by simp only [pick, hy], ?_⟩
  simpa using hmem

/-- one coordinate of the slice arithmetic of `create_grid_and_mask`: window index `i` lies in the
destination slice exactly when the grid coordinate `p + (i − R)` lies in `0 .. n−1` -/
theorem slice_iff (n R i : Nat) (p : Int) (hi : i < 2*R+1) :
    (max 0 (p - (R : Int)) + (R : Int) - p ≤ (i : Int) ∧
      (i : Int) < min ((n : Int) - 1) (p + (R : Int)) + 1 + (R : Int) - p) ↔
      (0 ≤ p + ((i : Int) - (R : Int)) ∧ p + ((i : Int) - (R : Int)) < (n : Int)) := by
  omega

/-- element `i` of the destination slice receives the grid coordinate `p + (i − R)`, whatever the
lower slice bound `m` is -/
theorem slice_src (m R p i : Int) : m + (i - (m + R - p)) = p + (i - R) := by
  omega

/-- **window embedding**: what the eight slice bounds of `create_grid_and_mask` amount to, for a viewer in the grid -/
theorem window_embedding (w : World) (p : Pos) (R : Nat) (i j : Nat)
    (hp : w.inGrid p = true) (hi : i < 2*R+1) (hj : j < 2*R+1) :
    localCell w p R i j =
      if w.inGrid (winPos p R i j) = true then some (w.cell (winPos p R i j)) else none := by
  -- rows and columns separately: `slice_iff` for each
  have key := (inGrid_iff w (winPos p R i j)).trans
    ((and_assoc.symm.trans
      (and_congr (slice_iff w.rows R i p.1 hi).symm (slice_iff w.cols R j p.2 hj).symm)).trans and_assoc)
  unfold localCell clip
  simp only [slice_src]
  by_cases h : w.inGrid (winPos p R i j) = true
  · rw [if_pos h, if_pos (key.mp h)]; rfl
  · rw [if_neg h, if_neg (fun h' => h (key.mpr h'))]

theorem at2_localGrid (w : World) (a : Aid) (R : Nat) (i j : Nat)
    (hp : w.inGrid (w.stOf a).pos = true) (hi : i < 2*R+1) (hj : j < 2*R+1) :
    at2 (localGrid w a R) i j none =
      if w.inGrid (winPos (w.stOf a).pos R i j) = true then some (w.cell (winPos (w.stOf a).pos R i j))
      else none := by
  unfold localGrid
  rw [at2_tab _ _ _ _ _ _ hi hj, window_embedding w _ R i j hp hi hj]

theorem hiddenBySpec_blockersOf (w : World) (a : Aid) (R : Nat) (r c : Int) :
    Mask.hiddenBySpec R (blockersOf w a) r c = hiddenFrom w a R r c := by
  unfold Mask.hiddenBySpec blockersOf hiddenFrom allAgents offsetOf
  rw [List.any_map]
  rfl

theorem at2_maskFor (w : World) (a : Aid) (R : Nat) (i j : Nat) (hi : i < 2*R+1) (hj : j < 2*R+1) :
    at2 (maskFor w a R) i j false = !hiddenFrom w a R ((i : Int) - (R : Int)) ((j : Int) - (R : Int)) := by
  unfold maskFor
  rw [at2_eq_cellAt, Mask.cellAt_maskOf_spec R _ i j hi hj, hiddenBySpec_blockersOf]
  rfl

/-- `_supported_agent`: the agent observes and, for the ammunition observer, carries ammunition; `{}` if not -/
theorem getObs_unsupported (w : World) (a : Aid) (k : Kind) (t : Tape)
    (h : ((k != .ammo || (w.cfgOf a).hasAmmo) && (w.cfgOf a).observing) = false) :
    getObs w a k t = .ok (.unsupported, t) := by
  cases k <;> simp_all [getObs, getObsAbsolute, getObsCentered, getObsStacked, getObsPosition, getObsAmmo]

theorem getObs_unsupported_iff {w : World} {a : Aid} {k : Kind} {t t' : Tape} {o : Obs}
    (h : getObs w a k t = .ok (o, t')) :
    o = .unsupported ↔ ((k != .ammo || (w.cfgOf a).hasAmmo) && (w.cfgOf a).observing) = false := by
  cases hs : (k != .ammo || (w.cfgOf a).hasAmmo) && (w.cfgOf a).observing
  · rw [getObs_unsupported w a k t hs] at h
    cases h
    exact iff_of_true rfl rfl
  · refine iff_of_false ?_ Bool.noConfusion
    rintro rfl
    cases k with
    | absolute | centered os | stacked =>
      simp only [getObs, getObsAbsolute, getObsCentered, getObsStacked, (Bool.and_eq_true_iff.mp hs).2,
        Bool.not_true, Bool.false_eq_true, if_false] at h
      split at h
      · cases h
      · split at h <;> cases h
    | position | ammo => simp_all [getObs, getObsPosition, getObsAmmo]

/-- the frame the three grid observers and their judges share: the agent test, the test of the stored position,
and a body that is judged only for an agent that passed -/
theorem judged_of_body {obs inG : Bool} {body : Except GErr (Obs × Tape)} {J : Obs → Bool} (t : Tape)
    (hin : inG = true) (hbody : ∃ o t', body = .ok (o, t') ∧ J o = true) :
    ∃ o t', (if !obs then .ok (.unsupported, t) else if !inG then .error .badIndex else body) = .ok (o, t') ∧
      (if obs then J o else o == .unsupported) = true := by
  subst hin
  cases obs
  · exact ⟨.unsupported, t, rfl, rfl⟩
  · exact hbody

end Observers
end Abmarl
