import Abmarl.Spec.Config
import Abmarl.Lemmas.Dict
/-!
# Lemmas for C19: the symmetric closure of the overlap table

`avail (close t) a b ↔ avail t a b ∨ avail t b a` — everything else follows.  The closed table of
a dict is a dict again (`nodup_closeLoop`: the loop's `addTo` is an assignment `dictSet`), and on a dict
`avail` is the Python lookup (`avail_eq_lookup_aux`).

`keysOf`, defined here, occurs in the statements of `close_is_dict` and `avail_eq_lookup` in
`Props/C19.lean`: "the table is a dict" is `(keysOf t).Nodup`.
-/
namespace Abmarl
namespace Cfg

theorem avail_nil (a b : Int) : avail [] a b = false := rfl

theorem avail_cons_iff (k : Int) (s : List Int) (t : Table) (a b : Int) :
    avail ((k, s) :: t) a b = true ↔ ((a = k ∧ b ∈ s) ∨ avail t a b = true) := by
  unfold avail
  rw [List.any_cons]
  simp only [Bool.or_eq_true, Bool.and_eq_true, beq_iff_eq, List.contains_eq_mem, decide_eq_true_eq,
    eq_comm (a := k)]

theorem avail_iff (t : Table) (a b : Int) :
    avail t a b = true ↔ ∃ s, (a, s) ∈ t ∧ b ∈ s := by
  simp only [avail, List.any_eq_true, Bool.and_eq_true, beq_iff_eq, List.contains_eq_mem,
    decide_eq_true_eq, Prod.exists]
  exact ⟨fun ⟨_, s, h, hk, hb⟩ => ⟨s, hk ▸ h, hb⟩, fun ⟨s, h, hb⟩ => ⟨a, s, h, rfl, hb⟩⟩

theorem mem_add (s : List Int) (v b : Int) :
    b ∈ (if s.contains v then s else s ++ [v]) ↔ b ∈ s ∨ b = v := by
  by_cases hv : s.contains v = true
  · rw [if_pos hv]
    constructor
    · exact Or.inl
    · rintro (h | h)
      · exact h
      · subst h; simpa using hv
  · rw [if_neg hv]; simp

theorem avail_addTo (t : Table) (k v a b : Int) :
    avail (addTo t k v) a b = true ↔ (avail t a b = true ∨ (a = k ∧ b = v)) := by
  induction t with
  | nil => simp [addTo, avail_cons_iff, avail_nil]
  | cons e rest ih =>
    obtain ⟨k', s⟩ := e
    by_cases hk : k' = k
    · subst hk
      rw [addTo, if_pos rfl, avail_cons_iff, avail_cons_iff, mem_add, and_or_left, or_right_comm]
    · rw [addTo, if_neg hk, avail_cons_iff, avail_cons_iff, ih, or_assoc]

theorem avail_closeRow (s : List Int) (acc : Table) (ndx a b : Int) :
    avail (closeRow acc ndx s) a b = true ↔ (avail acc a b = true ∨ (b = ndx ∧ a ∈ s)) := by
  induction s generalizing acc with
  | nil => simp [closeRow]
  | cons o os ih =>
    rw [closeRow, ih, avail_addTo, List.mem_cons, or_assoc, and_comm (a := a = o), ← and_or_left]

theorem avail_closeLoop (t acc : Table) (a b : Int) :
    avail (closeLoop acc t) a b = true ↔ (avail acc a b = true ∨ avail t b a = true) := by
  induction t generalizing acc with
  | nil => simp [closeLoop, avail_nil]
  | cons e rest ih =>
    obtain ⟨ndx, s⟩ := e
    rw [closeLoop, ih, avail_closeRow, avail_cons_iff, or_assoc]

theorem avail_close (t : Table) (a b : Int) :
    avail (close t) a b = true ↔ (avail t a b = true ∨ avail t b a = true) := by
  rw [close, avail_closeLoop]

def keysOf (t : Table) : List Int := t.map (·.1)

theorem addTo_eq_dictSet (k v : Int) : ∀ t : Table, addTo t k v =
    dictSet t k (match t.lookup k with | none => [v] | some s => if s.contains v then s else s ++ [v])
  | [] => rfl
  | (k', s) :: rest => by
    rw [addTo, dictSet, lookup_cons_ite]
    split
    · next h => rw [if_pos h.symm]
    · next h => rw [addTo_eq_dictSet k v rest, if_neg fun e => h e.symm]

theorem nodup_addTo (t : Table) (k v : Int) (h : (keysOf t).Nodup) : (keysOf (addTo t k v)).Nodup := by
  rw [addTo_eq_dictSet]
  exact nodup_keys_dictSet _ _ _ h

theorem nodup_closeRow (s : List Int) (acc : Table) (ndx : Int) (h : (keysOf acc).Nodup) :
    (keysOf (closeRow acc ndx s)).Nodup := by
  induction s generalizing acc with
  | nil => exact h
  | cons o os ih => exact ih _ (nodup_addTo acc o ndx h)

theorem nodup_closeLoop (t acc : Table) (h : (keysOf acc).Nodup) : (keysOf (closeLoop acc t)).Nodup := by
  induction t generalizing acc with
  | nil => exact h
  | cons e rest ih =>
    obtain ⟨ndx, s⟩ := e
    exact ih _ (nodup_closeRow s acc ndx h)

theorem avail_eq_lookup_aux (t : Table) (a b : Int) (h : (keysOf t).Nodup) :
    avail t a b = (match t.lookup a with | some s => s.contains b | none => false) := by
  unfold avail
  rw [any_key_of_nodup h]
  cases t.lookup a <;> rfl

theorem query_single (t : Table) (a b : Int) : query t a [b] = avail t a b := by
  simp [query]

theorem mem_availMatrix (t : Table) (univ : List Int) (e : Int × Int × Bool)
    (h : e ∈ availMatrix t univ) : e.2.2 = avail t e.1 e.2.1 := by
  simp only [availMatrix, List.mem_flatMap, List.mem_map] at h
  obtain ⟨a, _, b, _, rfl⟩ := h
  exact query_single t a b

end Cfg
end Abmarl
