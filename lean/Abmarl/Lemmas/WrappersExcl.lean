import Abmarl.Spec.Wrappers
import Abmarl.Lemmas.Ravel
/-!
# The exclusive-channel arithmetic ("skip the duplicate zero vector")

Digit level: a Dict with channel sizes `ns` (all positive); a wrapped number `k < Σ nᵢ − m + 1`
selects a channel and a value for it.  `xDigits ns k` is the list of per-channel ravelled values
(`0` everywhere except possibly one place), `xCode ns vs` the inverse.  The loops of the model
(`exclFind` + `exclArgs`, `exclSum`) are shown to compute these, and the two to be inverse of each
other on `range dims` / on digit lists with at most one non-zero entry.
-/
namespace Abmarl

def zeros (n : Nat) : List Nat := List.replicate n 0

/-- spec-level decode: the per-channel values selected by `k` -/
def xDigits : List Nat → Nat → List Nat
  | [], _ => []
  | n :: ns, k => if k < n then k :: zeros ns.length else 0 :: xDigits ns (k - n + 1)

/-- spec-level encode of a digit list: the first non-zero value `v`, shifted by `n − 1` for every
channel of size `n` before it (its `n − 1` non-zero values come first; its zero is the shared `0`) -/
def xCode : List Nat → List Nat → Nat
  | n :: ns, v :: vs =>
    if v ≠ 0 then v
    else if xCode ns vs = 0 then 0 else xCode ns vs + (n - 1)
  | _, _ => 0

def allPosP (ns : List Nat) : Prop := ∀ n ∈ ns, 0 < n

theorem allPosP_cons {n : Nat} {ns : List Nat} (h : allPosP (n :: ns)) : 0 < n ∧ allPosP ns :=
  ⟨h n (by simp), fun x hx => h x (by simp [hx])⟩

theorem length_le_sum : ∀ (ns : List Nat), allPosP ns → ns.length ≤ sum ns
  | [], _ => by simp [sum]
  | n :: ns, h => by
    obtain ⟨h1, h2⟩ := allPosP_cons h
    have := length_le_sum ns h2
    simp only [List.length_cons, sum]
    omega

theorem exclDimsL_cons (n : Nat) (ns : List Nat) (h : allPosP (n :: ns)) :
    exclDimsL (n :: ns) = (n - 1) + exclDimsL ns := by
  obtain ⟨h1, h2⟩ := allPosP_cons h
  have := length_le_sum ns h2
  simp only [exclDimsL, sum, List.length_cons]
  omega

theorem exclDimsL_pos (ns : List Nat) : 0 < exclDimsL ns := by
  simp only [exclDimsL]; omega

theorem exclDimsL_nil : exclDimsL [] = 1 := rfl

/-- Every induction on `xDigits` below opens with this case split and then only rewrites
(`xDigits_here`/`_there`, `exclFind_here`/`_there`): counting down instead (`k - n + 1` under `¬ k < n`)
leaves truncated subtraction in every step, dear to check. -/
theorem lt_exclDimsL_cons {n k : Nat} {ns : List Nat} (hp : allPosP (n :: ns)) :
    k < exclDimsL (n :: ns) ↔ k < n ∨ ∃ k', k' ≠ 0 ∧ k' < exclDimsL ns ∧ k = k' + (n - 1) := by
  rw [exclDimsL_cons _ _ hp]
  have h1 := (allPosP_cons hp).1
  have hpos := exclDimsL_pos ns
  constructor
  · intro hk
    by_cases hlt : k < n
    · exact .inl hlt
    · exact .inr ⟨k - n + 1, by omega⟩
  · rintro (hlt | ⟨k', -, hk', rfl⟩) <;> omega

/-- the step of the two decode recursions undone -/
theorem xshift {n k : Nat} (hn : 0 < n) (hk : k ≠ 0) : ¬ k + (n - 1) < n ∧ k + (n - 1) - n + 1 = k := by
  omega

theorem xDigits_here {n k : Nat} (ns : List Nat) (h : k < n) :
    xDigits (n :: ns) k = k :: zeros ns.length := by
  rw [xDigits, if_pos h]

theorem xDigits_there {n k : Nat} (ns : List Nat) (hn : 0 < n) (hk : k ≠ 0) :
    xDigits (n :: ns) (k + (n - 1)) = 0 :: xDigits ns k := by
  rw [xDigits, if_neg (xshift hn hk).1, (xshift hn hk).2]

theorem zeros_succ (n : Nat) : zeros (n + 1) = 0 :: zeros n := rfl

theorem inRange_zeros : ∀ (ns : List Nat), allPosP ns → inRange ns (zeros ns.length)
  | [], _ => trivial
  | n :: ns, h => by
    obtain ⟨h1, h2⟩ := allPosP_cons h
    simp only [List.length_cons, zeros_succ, inRange]
    exact ⟨h1, inRange_zeros ns h2⟩

theorem ofNats_zeros_succ (n : Nat) : ofNats (zeros (n + 1)) = 0 :: ofNats (zeros n) := rfl

theorem nonZeros_zeros : ∀ (m : Nat), nonZeros (ofNats (zeros m)) = 0
  | 0 => rfl
  | m + 1 => by
    rw [ofNats_zeros_succ]
    simp only [nonZeros, List.filter_cons, bne_self_eq_false, Bool.false_eq_true, if_false]
    exact nonZeros_zeros m

theorem nonZeros_cons (v : Int) (vs : List Int) :
    nonZeros (v :: vs) = (if v ≠ 0 then 1 else 0) + nonZeros vs := by
  by_cases h : v = 0
  · simp [nonZeros, h]
  · simp [nonZeros, h]
    omega

theorem nonZeros_ofNats_cons (v : Nat) (vs : List Nat) :
    nonZeros (ofNats (v :: vs)) = (if v ≠ 0 then 1 else 0) + nonZeros (ofNats vs) := by
  rw [ofNats_cons, nonZeros_cons]
  simp only [ne_eq, Int.ofNat_eq_natCast, Int.natCast_eq_zero]

theorem exclSum_ofNats_cons (n : Nat) (ns : List Nat) (v : Nat) (vs : List Nat) (acc : Int) :
    exclSum (n :: ns) (ofNats (v :: vs)) acc =
      if v ≠ 0 then acc + (v : Int) else exclSum ns (ofNats vs) (acc + (n : Int) - 1) := by
  rw [ofNats_cons, exclSum]
  simp only [ne_eq, Int.ofNat_eq_natCast, Int.natCast_eq_zero]

theorem exclFind_here {n k : Nat} (ns : List Nat) (j : Nat) (h : k < n) :
    exclFind (n :: ns) j k = (j, k) := by
  cases ns <;> rw [exclFind, if_pos h]

theorem exclFind_there {n n' k : Nat} (ns : List Nat) (j : Nat) (hn : 0 < n) (hk : k ≠ 0) :
    exclFind (n :: n' :: ns) j (k + (n - 1)) = exclFind (n' :: ns) (j + 1) k := by
  rw [exclFind, if_neg (xshift hn hk).1, (xshift hn hk).2]

theorem exclArgs_zeros : ∀ (ss : List Space) (j act p : Nat), act < j →
    exclArgs ss j act p = zeros ss.length
  | [], _, _, _, _ => rfl
  | _ :: ss, j, act, p, h => by
    have hne : ¬ j = act := by omega
    simp only [exclArgs, hne, if_false, List.length_cons, zeros_succ]
    congr 1
    exact exclArgs_zeros ss (j + 1) act p (by omega)

theorem length_cardL : ∀ (ss : List Space), (cardL ss).length = ss.length
  | [] => rfl
  | _ :: ss => by simp [cardL, length_cardL ss]

theorem exclArgs_find : ∀ (ss : List Space) (j k : Nat), allPosP (cardL ss) →
    k < exclDimsL (cardL ss) →
    j ≤ (exclFind (cardL ss) j k).1 ∧
      exclArgs ss j (exclFind (cardL ss) j k).1 (exclFind (cardL ss) j k).2 = xDigits (cardL ss) k
  | [], j, _, _, _ => ⟨Nat.le_refl j, rfl⟩
  | s :: ss, j, k, hp, hk => by
    simp only [cardL] at hp hk ⊢
    obtain ⟨h1, hp'⟩ := allPosP_cons hp
    rcases (lt_exclDimsL_cons hp).mp hk with hlt | ⟨k', h0, hk', rfl⟩
    · rw [exclFind_here _ j hlt, xDigits_here _ hlt, exclArgs, if_pos rfl,
        exclArgs_zeros ss (j + 1) j k (Nat.lt_succ_self j), length_cardL]
      exact ⟨Nat.le_refl j, rfl⟩
    · match ss, hp', hk' with
      | [], _, hk' => exact absurd (Nat.lt_one_iff.mp hk') h0
      | s' :: ss, hp', hk' =>
        obtain ⟨hge, ih⟩ := exclArgs_find (s' :: ss) (j + 1) k' hp' hk'
        simp only [cardL] at hge ih ⊢
        rw [exclFind_there _ j h1 h0, xDigits_there _ h1 h0, exclArgs, if_neg (Nat.ne_of_lt hge), ih]
        exact ⟨Nat.le_of_succ_le hge, rfl⟩

theorem xDigits_mem : ∀ (ns : List Nat) (k : Nat), allPosP ns → k < exclDimsL ns →
    inRange ns (xDigits ns k) ∧ nonZeros (ofNats (xDigits ns k)) ≤ 1
  | [], _, _, _ => ⟨trivial, Nat.zero_le 1⟩
  | n :: ns, k, hp, hk => by
    obtain ⟨h1, hp'⟩ := allPosP_cons hp
    rcases (lt_exclDimsL_cons hp).mp hk with hlt | ⟨k', h0, hk', rfl⟩
    · rw [xDigits_here ns hlt, nonZeros_ofNats_cons, nonZeros_zeros]
      exact ⟨⟨hlt, inRange_zeros ns hp'⟩, by split <;> omega⟩
    · rw [xDigits_there ns h1 h0, nonZeros_ofNats_cons]
      exact ⟨⟨h1, (xDigits_mem ns k' hp' hk').1⟩, by simpa using (xDigits_mem ns k' hp' hk').2⟩

theorem xDigits_zero : ∀ (ns : List Nat), allPosP ns → xDigits ns 0 = zeros ns.length
  | [], _ => rfl
  | _ :: ns, h => xDigits_here ns (allPosP_cons h).1

/-- The number is `0` when no digit is non-zero: that makes the tail after a non-zero head digit the zero
vector. -/
theorem xDigits_surj : ∀ (ns vs : List Nat), allPosP ns → inRange ns vs → nonZeros (ofNats vs) ≤ 1 →
    ∃ k, k < exclDimsL ns ∧ xDigits ns k = vs ∧ (nonZeros (ofNats vs) = 0 → k = 0)
  | [], [], _, _, _ => ⟨0, by decide, rfl, fun _ => rfl⟩
  | [], _ :: _, _, h, _ => nomatch h
  | _ :: _, [], _, h, _ => nomatch h
  | n :: ns, v :: vs, hp, h, hz => by
    obtain ⟨h1, hp'⟩ := allPosP_cons hp
    rw [nonZeros_ofNats_cons] at hz ⊢
    obtain ⟨k, hk, rfl, hz0⟩ := xDigits_surj ns vs hp' h.2 (by omega)
    by_cases hv : v = 0
    · subst hv
      by_cases hk0 : k = 0
      · subst hk0
        exact ⟨0, (lt_exclDimsL_cons hp).mpr (.inl h1), by rw [xDigits_zero _ hp, xDigits_zero _ hp']; rfl,
          fun _ => rfl⟩
      · exact ⟨k + (n - 1), (lt_exclDimsL_cons hp).mpr (.inr ⟨k, hk0, hk, rfl⟩), xDigits_there ns h1 hk0,
          fun h0 => absurd (hz0 (by simpa using h0)) hk0⟩
    · simp only [ne_eq, hv, not_false_eq_true, if_true] at hz ⊢
      obtain rfl := hz0 (by omega)
      exact ⟨v, (lt_exclDimsL_cons hp).mpr (.inl h.1), by rw [xDigits_here ns h.1, xDigits_zero ns hp'],
        fun h0 => by omega⟩

theorem xCode_zeros : ∀ (ns : List Nat) (m : Nat), xCode ns (zeros m) = 0
  | [], _ => by simp [xCode]
  | _ :: _, 0 => by simp [xCode, zeros]
  | n :: ns, m + 1 => by
    rw [zeros_succ, xCode]
    simp [xCode_zeros ns m]

theorem exclSum_xCode : ∀ (ns vs : List Nat) (acc : Int), inRange ns vs →
    exclSum ns (ofNats vs) acc = if xCode ns vs = 0 then 0 else acc + (xCode ns vs : Int)
  | [], [], _, _ => by simp [exclSum, xCode]
  | [], _ :: _, _, h => nomatch h
  | _ :: _, [], _, h => nomatch h
  | n :: ns, v :: vs, acc, h => by
    simp only [inRange] at h
    rw [exclSum_ofNats_cons, xCode]
    by_cases hv : v = 0
    · subst hv
      simp only [ne_eq, not_true_eq_false, if_false]
      rw [exclSum_xCode ns vs _ h.2]
      by_cases hc : xCode ns vs = 0
      · simp [hc]
      · have h2 : ¬ (xCode ns vs + (n - 1) = 0) := by omega
        simp only [hc, if_false, h2]
        omega
    · simp only [ne_eq, hv, not_false_eq_true, if_true, if_false]

theorem xCode_xDigits (ns : List Nat) (k : Nat) (hp : allPosP ns) (hk : k < exclDimsL ns) :
    xCode ns (xDigits ns k) = k := by
  induction ns generalizing k with
  | nil => exact (Nat.lt_one_iff.mp hk).symm
  | cons n ns ih =>
    obtain ⟨h1, hp'⟩ := allPosP_cons hp
    rcases (lt_exclDimsL_cons hp).mp hk with hlt | ⟨k', h0, hk', rfl⟩
    · rw [xDigits_here ns hlt, xCode, xCode_zeros]
      by_cases hk0 : k = 0
      · subst hk0; rfl
      · exact if_pos hk0
    · rw [xDigits_there ns h1 h0, xCode, ih k' hp' hk']
      simp only [ne_eq, not_true_eq_false, if_false, h0]

theorem xDigits_xCode (ns vs : List Nat) (hp : allPosP ns) (h : inRange ns vs)
    (hz : nonZeros (ofNats vs) ≤ 1) : xDigits ns (xCode ns vs) = vs := by
  obtain ⟨k, hk, rfl, -⟩ := xDigits_surj ns vs hp h hz
  rw [xCode_xDigits ns k hp hk]

theorem exclSum_xDigits (ns : List Nat) (k : Nat) (hp : allPosP ns) (hk : k < exclDimsL ns) :
    exclSum ns (ofNats (xDigits ns k)) 0 = (k : Int) := by
  rw [exclSum_xCode ns _ 0 (xDigits_mem ns k hp hk).1, xCode_xDigits ns k hp hk]
  split
  · simp only [*, Int.natCast_zero]
  · exact Int.zero_add _

theorem exclChannels_wfL : ∀ (ss : List Space), wfL ss = true → exclChannels ss = some (cardL ss)
  | [], _ => rfl
  | s :: ss, h => by
    simp only [wfL, Bool.and_eq_true] at h
    simp only [exclChannels, ravelSpace, (ravel_ok s h.1).pos, if_true, exclChannels_wfL ss h.2, cardL]

/-- all that the exclusive-channel proofs use of `wfExcl` (the key list is not looked at) -/
theorem wfExcl_dict {s : Space} (h : wfExcl s = true) :
    ∃ keys ss, s = .dict keys ss ∧ ss ≠ [] ∧ wfL ss = true := by
  cases s with
  | dict keys ss => exact ⟨keys, ss, rfl, wf_dict h⟩
  | _ => simp [wfExcl] at h

theorem exclDims_eq (keys : List Nat) (ss : List Space) (hwl : wfL ss = true) :
    exclDims (.dict keys ss) = exclDimsL (cardL ss) := by
  have hch := exclChannels_wfL ss hwl
  simp only [exclDims, exclWrapSpace, hch, exclDimsL_pos, if_true]

theorem exclDecode_dict (keys : List Nat) {ss : List Space} (hwl : wfL ss = true)
    {k : Nat} (hk : k < exclDimsL (cardL ss)) :
    exclDecode (.dict keys ss) k = (unravelL ss (xDigits (cardL ss) k)).map (.dict keys) := by
  simp only [exclDecode, exclChannels_wfL ss hwl, (exclArgs_find ss 0 k (ravelL_ok ss hwl).pos hk).2]

theorem exclEncode_dict (keys : List Nat) {ss : List Space} (hne : ss ≠ []) (hwl : wfL ss = true)
    {ps : List Pt} {ks : List Nat} (h1 : ravelL ss ps = some (ofNats ks, cardL ss))
    (h2 : inRange (cardL ss) ks) :
    exclEncode (.dict keys ss) (.dict keys ps) = some (exclSum (cardL ss) (ofNats ks) 0) := by
  have hlen : (ofNats ks).length = (cardL ss).length := by
    rw [ofNats, List.length_map, inRange_length _ _ h2]
  simp only [exclEncode, if_true, exclChannels_wfL ss hwl, h1, List.isEmpty_eq_false_iff.mpr hne, hlen,
    Bool.false_eq_true, if_false]

end Abmarl
