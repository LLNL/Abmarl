import Abmarl.Model.Mask
import Abmarl.Spec.Mask
import Abmarl.Lemmas.ListAux
/-!
# C10 lemmas: each of the eight direction cases is the orientation-free rule; the table built by the loop over
the agents; the eight symmetries of the square

`HiddenP` is the Prop reading of `hiddenSpec`; it is invariant under reflecting the rows, reflecting the columns and
transposing.  For every case `k` of `utils.py`, under the guard of that case,
`Casek N rd cd r c ↔ InWinP N r c ∧ HiddenP rd cd r c` (`case1_iff`, `case2_rule`, `case3_iff` … `case8_iff`).  Only case 1
(blocker on an axis) and case 2 (diagonal blocker) need arithmetic, the same for both (`case_iff_of`, `between_iff`): the
other six hand-written cases are their images under a column reflection or a transposition (`Case3_iff_transpose` …
`Case6_iff_flip`).  `hidden1I_iff` then walks the `if/elif` chain once.

Then the loop: entry `(i, j)` of `maskOf R bs` is `false` exactly when some entry of `bs` that is active and blocking sets
it to zero (`hiddenBy`, `cellAt_foldl`), which through `hidden1_eq` makes it `some (!hiddenBySpec …)` (`cellAt_maskOf_spec`).

Last `Sym`, the eight symmetries of the square as an optional transpose followed by optional reflections, acting on offsets
and on layouts: the three generators leave `HiddenP` invariant, hence so does every `Sym` (`HiddenP_act`), and
`hiddenBySpec_act` lifts the invariance to whole layouts.
-/
namespace Abmarl
namespace Mask

def Opp (x y : Int) : Prop := (x < 0 ∧ 0 < y) ∨ (0 < x ∧ y < 0)

theorem oppSigns_iff (x y : Int) : oppSigns x y = true ↔ Opp x y := by
  simp [oppSigns, Opp]

def InWinP (N x y : Int) : Prop := (-N ≤ x ∧ x ≤ N) ∧ (-N ≤ y ∧ y ≤ N)

/-- the Prop reading of `hiddenSpec` (`hiddenSpec_iff`) -/
def HiddenP (rd cd r c : Int) : Prop :=
  ¬(rd = 0 ∧ cd = 0) ∧ ¬(r = rd ∧ c = cd) ∧
  rd.sign * rd ≤ rd.sign * r ∧ cd.sign * cd ≤ cd.sign * c ∧
  Opp (cross (corners rd cd).1.1 (corners rd cd).1.2 r c)
      (cross (corners rd cd).2.1 (corners rd cd).2.2 r c)

theorem hiddenSpec_iff (rd cd r c : Int) : hiddenSpec rd cd r c = true ↔ HiddenP rd cd r c := by
  unfold hiddenSpec HiddenP
  simp only [Bool.and_eq_true, Bool.not_eq_true', decide_eq_true_eq, oppSigns_iff,
    Bool.and_eq_false_imp, decide_eq_false_iff_not, not_and, and_assoc]

theorem sign_mul_pos {x : Int} (h : x ≠ 0) : x.sign * 0 < x.sign * x := by
  rcases Int.lt_trichotomy x 0 with h' | h' | h'
  · rw [Int.sign_eq_neg_one_of_neg h']; omega
  · exact absurd h' h
  · rw [Int.sign_eq_one_of_pos h']; omega

theorem corners_diag {rd cd : Int} (hr : rd ≠ 0) (hc : cd ≠ 0) :
    corners rd cd = ((2*rd+rd.sign, 2*cd-cd.sign), (2*rd-rd.sign, 2*cd+cd.sign)) := by
  simp [corners, hr, hc]

theorem corners_row {cd : Int} :
    corners 0 cd = ((2*0+1, 2*cd-cd.sign), (2*0-1, 2*cd-cd.sign)) := by
  simp [corners]

theorem corners_col {rd : Int} (hr : rd ≠ 0) :
    corners rd 0 = ((2*rd-rd.sign, 2*0+1), (2*rd-rd.sign, 2*0-1)) := by
  simp [corners, hr]

theorem Opp_neg_neg {x y x' y' : Int} (hx : x' = -x) (hy : y' = -y) : Opp x' y' ↔ Opp x y := by
  subst hx hy; unfold Opp; omega

theorem Opp_neg_swap {x y x' y' : Int} (hx : x' = -y) (hy : y' = -x) : Opp x' y' ↔ Opp x y := by
  subst hx hy; unfold Opp; omega

/-- `cross` is the determinant of corner and cell: exchanging rows and columns of both, or reflecting
the columns of both, changes its sign -/
theorem cross_swap (a b r c : Int) : cross b a c r = -cross a b r c :=
  (Int.neg_sub _ _).symm

theorem cross_flip {a b b' : Int} (r c : Int) (h : b' = -b) : cross a b' r (-c) = -cross a b r c := by
  subst h; unfold cross; rw [Int.mul_neg, Int.neg_mul]; omega

/-- the last clause of `HiddenP` (which spells it out), named so that its symmetries can be stated
alone; `HiddenP_def` puts the name in -/
def Between (rd cd r c : Int) : Prop :=
  Opp (cross (corners rd cd).1.1 (corners rd cd).1.2 r c)
      (cross (corners rd cd).2.1 (corners rd cd).2.2 r c)

theorem HiddenP_def (rd cd r c : Int) : HiddenP rd cd r c ↔
    ¬(rd = 0 ∧ cd = 0) ∧ ¬(r = rd ∧ c = cd) ∧
    rd.sign * rd ≤ rd.sign * r ∧ cd.sign * cd ≤ cd.sign * c ∧ Between rd cd r c := Iff.rfl

theorem Between_flip_cols (rd cd r c : Int) : Between rd (-cd) r (-c) ↔ Between rd cd r c := by
  unfold Between
  by_cases hr : rd = 0
  · subst hr
    simp only [corners_row, Int.sign_neg]
    exact Opp_neg_neg (cross_flip r c (by omega)) (cross_flip r c (by omega))
  · by_cases hc : cd = 0
    · subst hc
      simp only [Int.neg_zero, corners_col hr]
      exact Opp_neg_swap (cross_flip r c (by omega)) (cross_flip r c (by omega))
    · simp only [corners_diag hr hc, corners_diag hr (Int.neg_ne_zero.mpr hc), Int.sign_neg]
      exact Opp_neg_neg (cross_flip r c (by omega)) (cross_flip r c (by omega))

theorem Between_transpose (rd cd r c : Int) (h0 : ¬(rd = 0 ∧ cd = 0)) :
    Between cd rd c r ↔ Between rd cd r c := by
  unfold Between
  by_cases hr : rd = 0
  · have hc : cd ≠ 0 := fun h => h0 ⟨hr, h⟩
    subst hr
    rw [corners_row, corners_col hc]
    exact Opp_neg_neg (cross_swap ..) (cross_swap ..)
  · by_cases hc : cd = 0
    · subst hc
      rw [corners_row, corners_col hr]
      exact Opp_neg_neg (cross_swap ..) (cross_swap ..)
    · rw [corners_diag hr hc, corners_diag hc hr]
      exact Opp_neg_swap (cross_swap ..) (cross_swap ..)

theorem HiddenP_flip_cols (rd cd r c : Int) : HiddenP rd (-cd) r (-c) ↔ HiddenP rd cd r c := by
  rw [HiddenP_def, HiddenP_def, Between_flip_cols, Int.sign_neg, Int.neg_mul_neg, Int.neg_mul_neg,
    Int.neg_eq_zero, Int.neg_inj]

theorem HiddenP_transpose (rd cd r c : Int) : HiddenP cd rd c r ↔ HiddenP rd cd r c := by
  rw [HiddenP_def, HiddenP_def, and_comm (a := cd = 0), and_comm (a := c = cd),
    and_left_comm (a := cd.sign * cd ≤ cd.sign * c)]
  exact and_congr_right fun h0 => by rw [Between_transpose rd cd r c h0]

/-- reflecting the rows is transposing, reflecting the columns and transposing back -/
theorem HiddenP_flip_rows (rd cd r c : Int) : HiddenP (-rd) cd (-r) c ↔ HiddenP rd cd r c :=
  (HiddenP_transpose cd (-rd) c (-r)).trans
    ((HiddenP_flip_cols cd rd c r).trans (HiddenP_transpose rd cd r c))

variable (N rd cd r c : Int)

theorem InWinP_neg_right : InWinP N r (-c) ↔ InWinP N r c := by
  unfold InWinP; omega

/-- exchanging rows and columns exchanges the two loop ranges and the coordinates of the skipped cell -/
theorem transpose_case {Rc Rr T : Prop} {rd cd r c : Int} :
    Rc ∧ Rr ∧ ¬(c = cd ∧ r = rd) ∧ T ↔ Rr ∧ Rc ∧ ¬(r = rd ∧ c = cd) ∧ T := by
  rw [and_left_comm, and_comm (a := c = cd)]

theorem Case3_iff_transpose : Case3 N rd cd r c ↔ Case1 N cd rd c r :=
  transpose_case

theorem Case7_iff_transpose : Case7 N rd cd r c ↔ Case5 N cd rd c r :=
  transpose_case

theorem Case8_iff_transpose : Case8 N rd cd r c ↔ Case4 N cd rd c r := by
  unfold Case8 Case4
  simp only [Int.mul_comm c, Int.mul_comm r]
  exact transpose_case

/-- a case for a blocker on the left (columns counted downwards from `cd`, comparisons turned round
for the negative denominators `q₁ q₂`) is the case for its mirror image in the viewer's column, on
the right: both sides of every ray comparison change sign -/
theorem flip_case {N rd cd r c : Int} {Rr : Prop} {lo hi q₁ q₂ q₁' q₂' : Int}
    (e₁ : q₁' = -q₁) (e₂ : q₂' = -q₂) :
    (-N ≤ c ∧ c ≤ cd) ∧ Rr ∧ ¬(c = cd ∧ r = rd) ∧ r*q₁ < lo*c ∧ hi*c < r*q₂ ↔
    (-cd ≤ -c ∧ -c ≤ N) ∧ Rr ∧ ¬(-c = -cd ∧ r = rd) ∧ lo * -c < r*q₁' ∧ r*q₂' < hi * -c := by
  rw [e₁, e₂, Int.mul_neg, Int.mul_neg, Int.mul_neg, Int.mul_neg, Int.neg_lt_neg_iff, Int.neg_lt_neg_iff,
    Int.neg_le_neg_iff, Int.neg_inj, Int.neg_le_iff]
  constructor <;> rintro ⟨⟨a, b⟩, x⟩ <;> exact ⟨⟨b, a⟩, x⟩

theorem Case5_iff_flip : Case5 N rd cd r c ↔ Case1 N rd (-cd) r (-c) :=
  flip_case (by omega) (by omega)

theorem Case4_iff_flip : Case4 N rd cd r c ↔ Case2 N rd (-cd) r (-c) :=
  flip_case (by omega) (by omega)

theorem Case6_iff_flip : Case6 N rd cd r c ↔ Case8 N rd (-cd) r (-c) :=
  flip_case (by omega) (by omega)

/-- `range(x, N+1)` for an offset `x > 0` is the window cut down to the cells at least as far as
the blocker; that `x` itself lies in the window plays no part -/
theorem range_pos {N x y : Int} (hx : 0 < x) :
    x ≤ y ∧ y ≤ N ↔ (-N ≤ y ∧ y ≤ N) ∧ x.sign * x ≤ x.sign * y := by
  rw [Int.sign_eq_one_of_pos hx]; omega

/-- the shape every case has: column range ∧ row range ∧ not the blocker's cell ∧ ray tests `T`.
It is the rule inside the window once each range is the window cut down to the cells at least as
far as the blocker and, inside the ranges, `T` says "between the rays" -/
theorem case_iff_of {N rd cd r c : Int} {Rc Rr T : Prop} (h0 : ¬(rd = 0 ∧ cd = 0))
    (hc : Rc ↔ (-N ≤ c ∧ c ≤ N) ∧ cd.sign * cd ≤ cd.sign * c)
    (hr : Rr ↔ (-N ≤ r ∧ r ≤ N) ∧ rd.sign * rd ≤ rd.sign * r)
    (hT : Rc → Rr → (T ↔ Between rd cd r c)) :
    Rc ∧ Rr ∧ ¬(c = cd ∧ r = rd) ∧ T ↔ InWinP N r c ∧ HiddenP rd cd r c := by
  rw [HiddenP_def]
  constructor
  · rintro ⟨a, b, o, t⟩
    exact ⟨⟨(hr.mp b).1, (hc.mp a).1⟩, h0, fun h => o ⟨h.2, h.1⟩, (hr.mp b).2, (hc.mp a).2,
      (hT a b).mp t⟩
  · rintro ⟨⟨wr, wc⟩, -, o, s1, s2, t⟩
    have a := hc.mpr ⟨wc, s2⟩
    have b := hr.mpr ⟨wr, s1⟩
    exact ⟨a, b, fun h => o ⟨h.2, h.1⟩, (hT a b).mpr t⟩

theorem Opp_iff_of_le {x y : Int} (h : y ≤ x) : Opp x y ↔ 0 < x ∧ y < 0 := by
  unfold Opp; omega

/-- the arithmetic of a case: behind the blocker the cross product with the first corner is at least
the one with the second (`hk` is their difference, multiplied out), so they can have strictly opposite
signs in one way only, the first positive and the second negative, which is what the two ray
comparisons of the source say (cross-multiplied) -/
theorem between_iff {a₁ b₁ a₂ b₂ r c : Int} (hk : 0 ≤ (a₁ - a₂)*c + (b₂ - b₁)*r) :
    a₂*c < r*b₂ ∧ r*b₁ < a₁*c ↔ Opp (cross a₁ b₁ r c) (cross a₂ b₂ r c) := by
  rw [Int.sub_mul, Int.sub_mul] at hk
  rw [Opp_iff_of_le (by unfold cross; omega)]
  unfold cross
  rw [Int.mul_comm r, Int.mul_comm r]
  omega

/-- blocker in the viewer's row: the cross products differ by `2c`, and behind the blocker
`c ≥ cd > 0` -/
theorem case1_iff (hr : rd = 0) (hc : 0 < cd) :
    Case1 N rd cd r c ↔ InWinP N r c ∧ HiddenP rd cd r c := by
  subst hr
  refine case_iff_of (by omega) (range_pos hc) (by rw [Int.sign_zero]; omega) fun hcol _ => ?_
  rw [Between, corners_row, Int.sign_eq_one_of_pos hc]
  exact between_iff (by omega)

/-- diagonal blocker: the cross products differ by `2(c+r)`, and behind the blocker `c ≥ cd > 0`,
`r ≥ rd > 0` -/
theorem case2_rule (hr : 0 < rd) (hc : 0 < cd) :
    Case2 N rd cd r c ↔ InWinP N r c ∧ HiddenP rd cd r c := by
  refine case_iff_of (by omega) (range_pos hc) (range_pos hr) fun hcol hrow => ?_
  rw [Between, corners_diag (Int.ne_of_gt hr) (Int.ne_of_gt hc), Int.sign_eq_one_of_pos hr,
    Int.sign_eq_one_of_pos hc]
  exact between_iff (by omega)

/-- `case2_rule`; that the blocker's offset lies in the window is not needed -/
theorem case2_iff (hw : InWinP N rd cd) (hr : 0 < rd) (hc : 0 < cd) :
    Case2 N rd cd r c ↔ InWinP N r c ∧ HiddenP rd cd r c :=
  case2_rule N rd cd r c hr hc

theorem case3_iff (hr : 0 < rd) (hc : cd = 0) :
    Case3 N rd cd r c ↔ InWinP N r c ∧ HiddenP rd cd r c := by
  rw [Case3_iff_transpose, case1_iff N cd rd c r hc hr, HiddenP_transpose]
  exact and_congr_left' and_comm

theorem case4_iff (hr : 0 < rd) (hc : cd < 0) :
    Case4 N rd cd r c ↔ InWinP N r c ∧ HiddenP rd cd r c := by
  rw [Case4_iff_flip, case2_rule N rd (-cd) r (-c) hr (Int.neg_pos_of_neg hc),
    HiddenP_flip_cols, InWinP_neg_right]

theorem case5_iff (hr : rd = 0) (hc : cd < 0) :
    Case5 N rd cd r c ↔ InWinP N r c ∧ HiddenP rd cd r c := by
  rw [Case5_iff_flip, case1_iff N rd (-cd) r (-c) hr (Int.neg_pos_of_neg hc),
    HiddenP_flip_cols, InWinP_neg_right]

theorem case7_iff (hr : rd < 0) (hc : cd = 0) :
    Case7 N rd cd r c ↔ InWinP N r c ∧ HiddenP rd cd r c := by
  rw [Case7_iff_transpose, case5_iff N cd rd c r hc hr, HiddenP_transpose]
  exact and_congr_left' and_comm

theorem case8_iff (hr : rd < 0) (hc : 0 < cd) :
    Case8 N rd cd r c ↔ InWinP N r c ∧ HiddenP rd cd r c := by
  rw [Case8_iff_transpose, case4_iff N cd rd c r hc hr, HiddenP_transpose]
  exact and_congr_left' and_comm

theorem case6_iff (hr : rd < 0) (hc : cd < 0) :
    Case6 N rd cd r c ↔ InWinP N r c ∧ HiddenP rd cd r c := by
  rw [Case6_iff_flip, case8_iff N rd (-cd) r (-c) hr (Int.neg_pos_of_neg hc),
    HiddenP_flip_cols, InWinP_neg_right]

/-- one arm of an `if … then decide C else …` chain whose arms all mean `P` -/
theorem ite_decide_iff {g C P : Prop} [Decidable g] [Decidable C] {b : Bool}
    (h : g → (C ↔ P)) (hb : ¬g → (b = true ↔ P)) : (if g then decide C else b) = true ↔ P := by
  by_cases hg : g
  · rw [if_pos hg, decide_eq_true_eq]; exact h hg
  · rw [if_neg hg]; exact hb hg

theorem hidden1I_iff :
    hidden1I N rd cd r c = true ↔ InWinP N rd cd ∧ InWinP N r c ∧ HiddenP rd cd r c := by
  unfold hidden1I
  by_cases hw : InWinP N rd cd
  · rw [if_pos ⟨hw.1.1, hw.1.2, hw.2.1, hw.2.2⟩, and_iff_right hw]
    refine ite_decide_iff (fun h => case1_iff N rd cd r c h.2 h.1) fun h1 =>
      ite_decide_iff (fun h => case2_rule N rd cd r c h.2 h.1) fun h2 =>
      ite_decide_iff (fun h => case3_iff N rd cd r c h.2 h.1) fun h3 =>
      ite_decide_iff (fun h => case4_iff N rd cd r c h.2 h.1) fun h4 =>
      ite_decide_iff (fun h => case5_iff N rd cd r c h.2 h.1) fun h5 =>
      ite_decide_iff (fun h => case6_iff N rd cd r c h.2 h.1) fun h6 =>
      ite_decide_iff (fun h => case7_iff N rd cd r c h.2 h.1) fun h7 =>
      ite_decide_iff (fun h => case8_iff N rd cd r c h.2 h.1) fun h8 =>
      ⟨(nomatch ·), fun h => absurd ?_ h.2.1⟩
    -- no branch matches: the offset is (0, 0), which has no shadow by the rule either.  Every other pair of signs has
    -- its branch; by hand, because `omega` would try all 2⁸ ways the guards can fail
    rcases Int.lt_trichotomy cd 0 with hc | hc | hc
    · rcases Int.lt_trichotomy rd 0 with hr | hr | hr
      · exact absurd ⟨hc, hr⟩ h6
      · exact absurd ⟨hc, hr⟩ h5
      · exact absurd ⟨hc, hr⟩ h4
    · rcases Int.lt_trichotomy rd 0 with hr | hr | hr
      · exact absurd ⟨hc, hr⟩ h7
      · exact ⟨hr, hc⟩
      · exact absurd ⟨hc, hr⟩ h3
    · rcases Int.lt_trichotomy rd 0 with hr | hr | hr
      · exact absurd ⟨hc, hr⟩ h8
      · exact absurd ⟨hc, hr⟩ h1
      · exact absurd ⟨hc, hr⟩ h2
  · rw [if_neg fun h => hw ⟨⟨h.1, h.2.1⟩, h.2.2⟩]
    exact ⟨(nomatch ·), fun h => absurd h.1 hw⟩

theorem inWin_iff (R : Nat) (x : Int) : inWin R x = true ↔ (-(R : Int) ≤ x ∧ x ≤ (R : Int)) := by
  simp [inWin]

theorem hidden1_eq (R : Nat) :
    hidden1 R rd cd r c =
      (inWin R rd && inWin R cd && (inWin R r && inWin R c) && hiddenSpec rd cd r c) := by
  rw [Bool.eq_iff_iff, hidden1, hidden1I_iff]
  simp only [Bool.and_eq_true, inWin_iff, hiddenSpec_iff, InWinP, and_assoc]

end Mask
end Abmarl

namespace Abmarl
namespace Mask

/-- some active blocking entry of `bs` zeroes the cell (model side) -/
def hiddenBy (R : Nat) (bs : List Blocker) (r c : Int) : Bool :=
  bs.any fun b => b.2.2.2 && b.2.2.1 && hidden1 R b.1 b.2.1 r c

theorem cellAt_shade (R : Nat) (rd cd : Int) (m : List (List Bool)) (i j : Nat) :
    cellAt (shade R rd cd m) i j =
      (cellAt m i j).map fun v =>
        if hidden1 R rd cd ((i : Int) - (R : Int)) ((j : Int) - (R : Int)) then false else v := by
  unfold shade cellAt
  rw [List.getElem?_mapIdx]
  cases m[i]? with
  | none => rfl
  | some row => simp [List.getElem?_mapIdx]

theorem cellAt_maskStep (R : Nat) (b : Blocker) (m : List (List Bool)) (i j : Nat) :
    cellAt (maskStep R m b) i j =
      (cellAt m i j).map fun v =>
        v && !(b.2.2.2 && b.2.2.1 && hidden1 R b.1 b.2.1 ((i : Int) - (R : Int)) ((j : Int) - (R : Int))) := by
  unfold maskStep
  cases hb : (b.2.2.2 && b.2.2.1)
  · simp
  · rw [if_pos rfl, cellAt_shade]
    congr 1
    funext v
    cases hidden1 R b.1 b.2.1 ((i : Int) - (R : Int)) ((j : Int) - (R : Int)) <;> simp

theorem cellAt_foldl (R : Nat) (bs : List Blocker) (m : List (List Bool)) (i j : Nat) :
    cellAt (bs.foldl (maskStep R) m) i j =
      (cellAt m i j).map fun v => v && !hiddenBy R bs ((i : Int) - (R : Int)) ((j : Int) - (R : Int)) := by
  induction bs generalizing m with
  | nil => simp [hiddenBy]
  | cons b bs ih =>
    rw [List.foldl_cons, ih, cellAt_maskStep, Option.map_map]
    congr 1
    funext v
    simp only [Function.comp, hiddenBy, List.any_cons]
    cases v <;> simp

theorem cellAt_blank (R i j : Nat) (hi : i < 2*R+1) (hj : j < 2*R+1) :
    cellAt (blankMask R) i j = some true := by
  unfold cellAt blankMask
  rw [List.getElem?_replicate, if_pos hi]
  simp [hj]

theorem lengths_maskStep (R : Nat) (m : List (List Bool)) (b : Blocker) :
    (maskStep R m b).map List.length = m.map List.length := by
  unfold maskStep shade
  split
  · refine List.ext_getElem? fun i => ?_
    rw [List.getElem?_map, List.getElem?_mapIdx, List.getElem?_map]
    cases m[i]? <;> simp
  · rfl

theorem shape_maskOf (R : Nat) (bs : List Blocker) :
    (maskOf R bs).length = 2*R+1 ∧ ∀ row ∈ maskOf R bs, row.length = 2*R+1 := by
  have h : (maskOf R bs).map List.length = List.replicate (2*R+1) (2*R+1) :=
    List.foldlRecOn bs (maskStep R) (by simp [blankMask]) fun m hm b _ => (lengths_maskStep R m b).trans hm
  exact ⟨by simpa using congrArg List.length h,
    fun row hrow => List.eq_of_mem_replicate (h ▸ List.mem_map_of_mem hrow)⟩

theorem hiddenBy_eq_spec (R : Nat) (bs : List Blocker) (r c : Int)
    (hr : inWin R r = true) (hc : inWin R c = true) :
    hiddenBy R bs r c = hiddenBySpec R bs r c := by
  unfold hiddenBy hiddenBySpec
  congr 1
  funext b
  rw [hidden1_eq, hr, hc]
  cases b.2.2.1 <;> cases b.2.2.2 <;> simp

theorem inWin_idx (R i : Nat) (hi : i < 2*R+1) : inWin R ((i : Int) - (R : Int)) = true :=
  (inWin_iff R _).mpr ((win_iff hi).mpr rfl).1

theorem cellAt_maskOf_spec (R : Nat) (bs : List Blocker) (i j : Nat) (hi : i < 2*R+1) (hj : j < 2*R+1) :
    cellAt (maskOf R bs) i j =
      some (!hiddenBySpec R bs ((i : Int) - (R : Int)) ((j : Int) - (R : Int))) := by
  unfold maskOf
  rw [cellAt_foldl, cellAt_blank R i j hi hj,
    hiddenBy_eq_spec R bs _ _ (inWin_idx R i hi) (inWin_idx R j hj)]
  simp

theorem visibleAt_of_cells (R : Nat) (t : List (List Bool)) (f : Int → Int → Bool)
    (h : ∀ i < 2*R+1, ∀ j < 2*R+1, cellAt t i j = some (f ((i : Int) - (R : Int)) ((j : Int) - (R : Int))))
    (r c : Int) (hr : inWin R r = true) (hc : inWin R c = true) :
    visibleAt R t r c = some (f r c) := by
  obtain ⟨hi, ei⟩ := win_idx ((inWin_iff R r).mp hr)
  obtain ⟨hj, ej⟩ := win_idx ((inWin_iff R c).mp hc)
  rw [visibleAt, h _ hi _ hj, ei, ej]

theorem visibleAt_maskOf (R : Nat) (bs : List Blocker) (r c : Int)
    (hr : inWin R r = true) (hc : inWin R c = true) :
    visibleAt R (maskOf R bs) r c = some (!hiddenBySpec R bs r c) :=
  visibleAt_of_cells R _ (fun r c => !hiddenBySpec R bs r c) (fun i hi j hj => cellAt_maskOf_spec R bs i j hi hj) r c hr hc

/-- a symmetry of the square: transpose first (if `swap`), then negate rows / columns.
`⟨false,false,false⟩` identity, `⟨false,true,false⟩` / `⟨false,false,true⟩` the two reflections,
`⟨false,true,true⟩` the half turn, `⟨true,false,false⟩` / `⟨true,true,true⟩` the two diagonal
reflections, `⟨true,true,false⟩` / `⟨true,false,true⟩` the two quarter turns. -/
structure Sym where
  swap : Bool
  negR : Bool
  negC : Bool
deriving DecidableEq, Repr

/-- action on an offset `(rows, cols)` from the viewer -/
def Sym.act (s : Sym) (p : Int × Int) : Int × Int :=
  ((if s.negR then -(if s.swap then p.2 else p.1) else (if s.swap then p.2 else p.1)),
   (if s.negC then -(if s.swap then p.1 else p.2) else (if s.swap then p.1 else p.2)))

/-- action on an agent entry: the offset moves, the flags stay -/
def Sym.onBlocker (s : Sym) (b : Blocker) : Blocker :=
  ((s.act (b.1, b.2.1)).1, (s.act (b.1, b.2.1)).2, b.2.2.1, b.2.2.2)

theorem HiddenP_act (s : Sym) (rd cd r c : Int) :
    HiddenP (s.act (rd, cd)).1 (s.act (rd, cd)).2 (s.act (r, c)).1 (s.act (r, c)).2 ↔
      HiddenP rd cd r c := by
  obtain ⟨sw, nr, nc⟩ := s
  cases sw <;> cases nr <;> cases nc <;> simp only [Sym.act, if_true, if_false, Bool.false_eq_true]
  · exact HiddenP_flip_cols rd cd r c
  · exact HiddenP_flip_rows rd cd r c
  · exact (HiddenP_flip_rows rd (-cd) r (-c)).trans (HiddenP_flip_cols rd cd r c)
  · exact HiddenP_transpose rd cd r c
  · exact (HiddenP_flip_cols cd rd c r).trans (HiddenP_transpose rd cd r c)
  · exact (HiddenP_flip_rows cd rd c r).trans (HiddenP_transpose rd cd r c)
  · exact (HiddenP_flip_rows cd (-rd) c (-r)).trans
      ((HiddenP_flip_cols cd rd c r).trans (HiddenP_transpose rd cd r c))

theorem inWin_neg (R : Nat) (x : Int) : inWin R (-x) = inWin R x := by
  rw [Bool.eq_iff_iff, inWin_iff, inWin_iff]; omega

theorem inWin_act (R : Nat) (s : Sym) (x y : Int) :
    (inWin R (s.act (x, y)).1 && inWin R (s.act (x, y)).2) = (inWin R x && inWin R y) := by
  obtain ⟨sw, nr, nc⟩ := s
  cases sw <;> cases nr <;> cases nc <;>
    simp only [Sym.act, if_true, if_false, Bool.false_eq_true, inWin_neg, Bool.and_comm]

theorem hiddenSpec_act (s : Sym) (rd cd r c : Int) :
    hiddenSpec (s.act (rd, cd)).1 (s.act (rd, cd)).2 (s.act (r, c)).1 (s.act (r, c)).2 =
      hiddenSpec rd cd r c := by
  rw [Bool.eq_iff_iff, hiddenSpec_iff, hiddenSpec_iff]
  exact HiddenP_act s rd cd r c

theorem hiddenBySpec_act (R : Nat) (s : Sym) (bs : List Blocker) (r c : Int) :
    hiddenBySpec R (bs.map s.onBlocker) (s.act (r, c)).1 (s.act (r, c)).2 = hiddenBySpec R bs r c := by
  unfold hiddenBySpec
  rw [List.any_map]
  congr 1
  funext b
  simp only [Function.comp, Sym.onBlocker]
  rw [hiddenSpec_act, Bool.and_assoc (b.2.2.1 && b.2.2.2), inWin_act, ← Bool.and_assoc (b.2.2.1 && b.2.2.2)]

end Mask
end Abmarl
