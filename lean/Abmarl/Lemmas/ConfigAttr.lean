import Abmarl.Spec.Config
/-!
# Lemmas for C19: what each setter accepts

`acceptX v = true` ⇔ a first-order description of the admissible values, for **all** `PyVal`.
Most setters have one of four forms (`acceptInt`, `acceptNum`, `optB`, `acceptIntOrSet`); the two
readings of each form are proved once (the first-order one here, the documented one in
`ConfigAttrSpec.lean`), and a setter of that form is an instance by `rfl` (or by cases where the
model writes the `None` arm into the same `match`).

`EqualsInt`, `InSim`, `TargetsOk`, `Differs`, `EncTargetsOk`, defined here, are the terms in which
the right-hand sides of the `accepts_*_iff` theorems of `Props/C19.lean` are written: they are part
of what those theorems say.
-/
namespace Abmarl
namespace Cfg

/-- `assert type(value) is int and p(value)` -/
def acceptInt (p : Int → Bool) : PyVal → Bool
  | .int i => p i
  | _ => false

/-- `assert type(value) in [int, float] and ok(value)` -/
def acceptNum (ok : Flt → Bool) : PyVal → Bool
  | .int i => ok (.fin i)
  | .float f => ok f
  | _ => false

/-- `if value is not None: …` -/
def optB (f : PyVal → Bool) : PyVal → Bool
  | .none => true
  | v => f v

/-- `type(v) is int` → `a(v)`; `type(v) is set` → `b` of every element; anything else refused -/
def acceptIntOrSet (a : Int → Bool) (b : PyVal → Bool) : PyVal → Bool
  | .int i => a i
  | .set elems => elems.all b
  | _ => false

theorem acceptInt_iff (p : Int → Bool) (v : PyVal) : acceptInt p v = true ↔ ∃ i, v = .int i ∧ p i = true := by
  cases v <;> simp [acceptInt]

theorem acceptNum_iff (ok : Flt → Bool) (v : PyVal) :
    acceptNum ok v = true ↔
      ((∃ i : Int, v = .int i ∧ ok (.fin i) = true) ∨ ∃ f, v = .float f ∧ ok f = true) := by
  cases v <;> simp [acceptNum]

theorem optB_iff (f : PyVal → Bool) (v : PyVal) : optB f v = true ↔ (v = .none ∨ f v = true) := by
  cases v <;> simp [optB]

theorem acceptIntOrSet_iff (a : Int → Bool) (b : PyVal → Bool) (v : PyVal) :
    acceptIntOrSet a b v = true ↔
      ((∃ i, v = .int i ∧ a i = true) ∨ ∃ elems, v = .set elems ∧ ∀ e ∈ elems, b e = true) := by
  cases v <;> simp [acceptIntOrSet]

theorem isPyInt_iff (x : PyVal) : isPyInt x = true ↔ ∃ i, x = .int i :=
  (acceptInt_iff _ x).trans (by simp)

theorem acceptSeed_eq (v : PyVal) : acceptSeed v = optB (acceptInt fun _ => true) v := by
  cases v <;> rfl

theorem flag_accepts_iff (v : PyVal) : acceptFlag v = true ↔ ∃ b, v = .bool b := by
  cases v <;> simp [acceptFlag]

theorem acceptOptFlag_eq (v : PyVal) : acceptOptFlag v = optB acceptFlag v := by
  cases v <;> rfl

theorem initialPosition_accepts_iff (v : PyVal) :
    acceptInitialPosition v = true ↔
      (v = .none ∨ ∃ dt xs, v = .ndarray dt [2] xs ∧ (dt = .i64 ∨ dt = .f64)) := by
  unfold acceptInitialPosition
  split
  · exact ⟨fun _ => .inl rfl, fun _ => rfl⟩
  · rename_i dt sh xs
    simp only [Bool.and_eq_true, beq_iff_eq, Bool.or_eq_true]
    constructor
    · rintro ⟨rfl, h2⟩; exact .inr ⟨dt, xs, rfl, h2⟩
    · rintro (h | ⟨dt', xs', h, h2⟩)
      · cases h
      · cases h; exact ⟨rfl, h2⟩
  · rename_i h1 h2
    exact ⟨nofun, fun h => h.elim (fun h => (h1 h).elim) fun ⟨dt, xs, h, _⟩ => (h2 dt _ xs h).elim⟩

theorem renderColor_accepts (v : PyVal) : acceptRenderColor v = true := rfl

/-- the stored health is within `[0, 1]` whatever finite number was assigned -/
theorem clampHealth_bounds (q : Rat) : ∃ r, clampHealth (.fin q) = .fin r ∧ 0 ≤ r ∧ r ≤ 1 := by
  unfold clampHealth
  by_cases h1 : q < 0
  · exact ⟨0, by simp [h1], by decide, by decide⟩
  · by_cases h2 : 1 < q
    · exact ⟨1, by simp [h1, h2], by decide, by decide⟩
    · exact ⟨q, by simp [h1, h2], Rat.not_lt.mp h1, Rat.not_lt.mp h2⟩

theorem finWhere_iff (p : Rat → Bool) (f : Flt) : finWhere p f = true ↔ ∃ q, f = .fin q ∧ p q = true := by
  cases f <;> simp [finWhere]

theorem float_finWhere_iff (p : Rat → Bool) (v : PyVal) :
    (∃ f, v = .float f ∧ finWhere p f = true) ↔ ∃ q, v = .float (.fin q) ∧ p q = true := by
  simp only [finWhere_iff]
  exact ⟨fun ⟨_, h, q, hq, hp⟩ => ⟨q, hq ▸ h, hp⟩, fun ⟨q, h, hp⟩ => ⟨_, h, q, rfl, hp⟩⟩

theorem geR_leR (f : Flt) (lo hi : Rat) :
    (f.geR lo && f.leR hi) = finWhere (fun q => decide (lo ≤ q) && decide (q ≤ hi)) f := by
  cases f <;> rfl

theorem gtR_leR (f : Flt) (lo hi : Rat) :
    (f.gtR lo && f.leR hi) = finWhere (fun q => decide (lo < q) && decide (q ≤ hi)) f := by
  cases f <;> rfl

theorem acceptInitialHealth_eq (v : PyVal) :
    acceptInitialHealth v = optB (acceptNum fun f => f.gtR 0 && f.leR 1) v := by
  cases v <;> rfl

theorem range_accepts_iff (v : PyVal) :
    acceptRange v = true ↔ (v = .str "FULL" ∨ ∃ i, v = .int i ∧ 0 ≤ i) := by
  cases v <;> simp [acceptRange]

theorem wholeOf_int (i : Int) : wholeOf (.fin (i : Rat)) = some i := by
  simp [wholeOf]

theorem wholeOf_bool (bb : Bool) : wholeOf (.fin (if bb then 1 else 0)) = some (b2i bb) := by
  cases bb <;> simp [wholeOf, b2i]

theorem wholeOf_eq_asInt (f : Flt) : wholeOf f = f.asInt := by
  cases f <;> rfl

/-- the integer the documentation reads off a value is the one Python's `==` goes by: `numKey`,
and for a one-element array (which is not hashable) its element -/
theorem intView_eq (v : PyVal) :
    intView v = match v with | .ndarray _ _ [x] => x.asInt | v => numKey v := by
  unfold intView
  cases v with
  | ndarray dt sh xs => rcases xs with _ | ⟨x, _ | _⟩ <;> simp [numKey, numView, wholeOf_eq_asInt]
  | _ => simp [numKey, numView, ← wholeOf_eq_asInt, wholeOf_bool, wholeOf_int]

theorem intView_of_numKey (k : PyVal) (i : Int) (h : numKey k = some i) : intView k = some i := by
  rw [intView_eq]
  split
  · cases h
  · exact h

/-- the integer a value equals in the sense of `in range(...)`: a hashable number, or the single
element of a one-element array -/
def EqualsInt (v : PyVal) (i : Int) : Prop :=
  numKey v = some i ∨ ∃ dt sh x, v = .ndarray dt sh [x] ∧ x.asInt = some i

theorem equalsInt_iff (v : PyVal) (i : Int) : EqualsInt v i ↔ intView v = some i := by
  rw [intView_eq, EqualsInt]
  split
  · exact ⟨fun h => h.elim nofun fun ⟨_, _, _, e, hx⟩ => by cases e; exact hx, fun h => .inr ⟨_, _, _, rfl, h⟩⟩
  · rename_i h
    exact or_iff_left fun ⟨dt, sh, x, e, _⟩ => h dt sh x e

theorem inRange1to4_eq (v : PyVal) :
    inRange1to4 v = match intView v with | some i => in1to4 i | none => false := by
  rw [intView_eq]
  unfold inRange1to4
  cases v with
  | ndarray dt sh xs => rcases xs with _ | ⟨x, _ | _⟩ <;> rfl
  | _ => rfl

theorem orientation_accepts_iff (v : PyVal) :
    acceptOrientation v = true ↔ ∃ i, EqualsInt v i ∧ 1 ≤ i ∧ i ≤ 4 := by
  simp only [equalsInt_iff, acceptOrientation, inRange1to4_eq]
  cases intView v <;> simp [in1to4]

/-- the value equals (numerically, as Python's `in` goes) one of the simulation's encodings -/
def InSim (encs : List Int) (x : PyVal) : Prop := ∃ i, numKey x = some i ∧ i ∈ encs

theorem pyIn_iff (x : PyVal) (encs : List Int) : pyIn x encs = true ↔ InSim encs x := by
  unfold pyIn InSim
  cases h : numKey x with
  | none => simp
  | some i => simp

/-- an encoding present in the simulation, or a set of such -/
def TargetsOk (encs : List Int) (val : PyVal) : Prop :=
  (∃ i, val = .int i ∧ i ∈ encs) ∨ (∃ elems, val = .set elems ∧ ∀ e ∈ elems, InSim encs e)

theorem encTargets_accepts_iff (encs : List Int) (val : PyVal) :
    acceptEncTargets encs val = true ↔ TargetsOk encs val :=
  (acceptIntOrSet_iff _ _ val).trans (by simp [TargetsOk, pyIn_iff])

/-- a setter that takes dictionaries only and checks them entry by entry -/
theorem dict_all_iff (g : PyVal × PyVal → Bool) (v : PyVal) :
    (match v with | .dict items => items.all g | _ => false) = true ↔
      ∃ items, v = .dict items ∧ ∀ kv ∈ items, g kv = true := by
  split
  · rename_i items
    rw [List.all_eq_true]
    exact ⟨fun h => ⟨items, rfl, h⟩, fun ⟨_, h1, h2⟩ => PyVal.dict.inj h1 ▸ h2⟩
  · rename_i h
    exact ⟨nofun, fun ⟨items, h1, _⟩ => (h items h1).elim⟩

theorem attackMapping_accepts_iff (encs : List Int) (v : PyVal) :
    acceptAttackMapping encs v = true ↔
      ∃ items, v = .dict items ∧ ∀ kv ∈ items, InSim encs kv.1 ∧ TargetsOk encs kv.2 := by
  refine (dict_all_iff (fun kv => pyIn kv.1 encs && acceptEncTargets encs kv.2) v).trans ?_
  simp only [Bool.and_eq_true, pyIn_iff, encTargets_accepts_iff]

/-- `a != b` for two hashable values: not the same number -/
def Differs (a b : PyVal) : Prop := ∀ x y, numKey a = some x → numKey b = some y → x ≠ y

theorem pyNe_iff (a b : PyVal) : pyNe a b = true ↔ Differs a b := by
  unfold pyNe Differs
  cases ha : numKey a with
  | none => simp
  | some x =>
    cases hb : numKey b with
    | none => simp
    | some y => simp

/-- the value side of `TargetEncodingInactiveDone.target_mapping` for the key `k` -/
def EncTargetsOk (encs : List Int) (k val : PyVal) : Prop :=
  (∃ i, val = .int i ∧ i ∈ encs ∧ Differs (.int i) k) ∨
  (∃ elems, val = .set elems ∧ ∀ e ∈ elems, InSim encs e ∧ Differs e k)

theorem targetEncVal_iff (encs : List Int) (k val : PyVal) :
    acceptTargetEncVal encs k val = true ↔ EncTargetsOk encs k val :=
  (acceptIntOrSet_iff _ _ val).trans (by simp [EncTargetsOk, pyIn_iff, pyNe_iff])

theorem targetEncMapping_accepts_iff (encs : List Int) (v : PyVal) :
    acceptTargetEncMapping encs v = true ↔
      ∃ items, v = .dict items ∧ ∀ kv ∈ items, InSim encs kv.1 ∧ EncTargetsOk encs kv.1 kv.2 := by
  refine (dict_all_iff (acceptTargetEncEntry encs) v).trans ?_
  simp only [acceptTargetEncEntry, Bool.and_eq_true, pyIn_iff, targetEncVal_iff]

theorem strIn_iff (x : PyVal) (ids : List String) : strIn x ids = true ↔ ∃ s, x = .str s ∧ s ∈ ids := by
  cases x <;> simp [strIn]

theorem agentEntry_iff (gwOnly : Bool) (kv : PyVal × PyVal) :
    acceptAgentEntry gwOnly kv = true ↔
      ∃ gw id, kv.2 = .agent gw id ∧ kv.1 = .str id ∧ (gwOnly = true → gw = true) := by
  obtain ⟨k, a⟩ := kv
  unfold acceptAgentEntry
  split
  · rename_i gw id ha
    simp only at ha
    subst ha
    split
    · rename_i s hk
      simp only at hk
      subst hk
      simp only [Bool.and_eq_true, Bool.or_eq_true, Bool.not_eq_true', beq_iff_eq]
      constructor
      · rintro ⟨h1, rfl⟩
        exact ⟨gw, s, rfl, rfl, fun hg => h1.resolve_left (by simp [hg])⟩
      · rintro ⟨gw', id', e1, e2, h3⟩
        cases e1
        cases e2
        exact ⟨(Bool.eq_false_or_eq_true gwOnly).symm.imp_right h3, rfl⟩
    · rename_i hk
      rw [Bool.and_false]
      exact ⟨nofun, fun ⟨_, id', _, h, _⟩ => (hk id' h).elim⟩
  · rename_i ha
    exact ⟨nofun, fun ⟨gw, id, h, _⟩ => (ha gw id h).elim⟩

theorem agents_accepts_iff (gwOnly : Bool) (v : PyVal) :
    acceptAgents gwOnly v = true ↔
      ∃ items, v = .dict items ∧ ∀ kv ∈ items,
        ∃ gw id, kv.2 = .agent gw id ∧ kv.1 = .str id ∧ (gwOnly = true → gw = true) := by
  refine (dict_all_iff (acceptAgentEntry gwOnly) v).trans ?_
  simp only [agentEntry_iff]

theorem overlapVal_accepts_iff (val : PyVal) :
    acceptOverlapVal val = true ↔
      ((∃ i, val = .int i) ∨ ∃ elems, val = .set elems ∧ ∀ e ∈ elems, ∃ j, e = .int j) :=
  (acceptIntOrSet_iff _ _ val).trans (by simp [isPyInt_iff])

theorem noNullPoint_iff (v : PyVal) : noNullPoint v = true ↔ (v = .none ∨ v = .dict []) := by
  unfold noNullPoint
  split
  · exact ⟨fun _ => .inl rfl, fun _ => rfl⟩
  · exact ⟨fun _ => .inr rfl, fun _ => rfl⟩
  · rename_i h1 h2
    exact ⟨nofun, fun h => h.elim (fun h => (h1 h).elim) fun h => (h2 h).elim⟩

theorem nullOutcome_given {sp : Space} {v : PyVal} (h : noNullPoint v = false) :
    nullOutcome sp v = (match spaceContains sp v with
      | .yes => .accepted | .no => .rejFinal | .raises => .rejFinal | .unmodelled => .unmodelled) := by
  unfold nullOutcome
  rw [h]; rfl

theorem nullPoint_accepted_iff (sp : Space) (v : PyVal) :
    nullOutcome sp v = .accepted ↔ (v = .none ∨ v = .dict [] ∨ spaceContains sp v = .yes) := by
  rw [← or_assoc, ← noNullPoint_iff]
  cases hn : noNullPoint v with
  | true => simp [nullOutcome, hn]
  | false => rw [nullOutcome_given hn]; cases spaceContains sp v <;> simp

theorem nullPoint_never_rejAssign (sp : Space) (v : PyVal) : nullOutcome sp v ≠ .rejAssign := by
  cases hn : noNullPoint v with
  | true => simp [nullOutcome, hn]
  | false => rw [nullOutcome_given hn]; cases spaceContains sp v <;> simp

end Cfg
end Abmarl
