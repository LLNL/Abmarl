import Abmarl.Model.Examples
import Abmarl.Lemmas.ManagersInv
import Abmarl.Lemmas.Dict
/-!
# The packaged examples satisfy the frame conditions of the manager theorems (`Lawful`, `WF`)

The getters of the five modelled classes read the world and the reward dict only; `get_obs` moves
the oracle tape, `get_reward` reads one entry of the reward dict and writes 0 there.  That is exactly
`Lawful`, for the five classes and for every simulation that keeps such a state inside its own and has these two
getters (`lawful_of_ex`: `ReachTheTargetSim` in Props/Reach.lean, the Pacman classes in Lemmas/Pacman.lean).
-/
namespace Abmarl

namespace Ex

def AllInGrid (w : World) : Prop := ∀ a < w.n, w.inGrid (w.stOf a).pos = true

theorem getObs_ok {cfg : Cfg} {s s' : St} {a : Aid} {o : List (String × Observers.Obs)}
    (h : getObs cfg s a = .ok (o, s')) : ∃ r ks outs t', s.rewards = some r ∧ cfg.observers = some ks ∧ a < s.w.n ∧
      obsOuts s.w a ks s.tape = .ok (outs, t') ∧ o = mergeObs outs ∧ s' = { s with tape := t' } := by
  unfold getObs at h
  split at h
  · cases h
  · rename_i r hr
    split at h
    · cases h
    · rename_i ks hks
      split at h
      · rename_i ha
        split at h
        · cases h
        · rename_i outs t' hout
          cases h
          exact ⟨r, ks, outs, t', hr, hks, ha, hout, rfl, rfl⟩
      · cases h

theorem rewardVal_ok {r : Ledger} {a : Aid} {x : Int} : rewardVal r a = .ok x ↔ r.lookup a = some x := by
  unfold rewardVal
  cases r.lookup a <;> simp

theorem getReward_shape {cfg : Cfg} {s s' : St} {a : Aid} {x : Int}
    (h : getReward cfg s a = .ok (x, s')) :
    ∃ r, s.rewards = some r ∧ rewardVal r a = .ok x ∧ s' = { s with rewards := some (dictSet r a 0) } := by
  unfold getReward at h
  split at h
  · cases h
  · rename_i r hr
    split at h
    · cases h
    · rename_i y hy
      simp only [Except.ok.injEq, Prod.mk.injEq] at h
      exact ⟨r, hr, by rw [hy, h.1], h.2.symm⟩

theorem pendingOf_eq (cfg : Cfg) (s : St) (a : Aid) :
    pendingOf cfg s a = (match s.rewards with | none => 0 | some r => (r.lookup a).getD 0) := by
  unfold pendingOf
  cases hr : s.rewards with
  | none => rfl
  | some r =>
    simp only [rewardVal]
    cases r.lookup a <;> rfl

theorem getReward_error {cfg : Cfg} {s : St} {a : Aid} {e : GErr} (h : getReward cfg s a = .error e) :
    pendingOf cfg s a = 0 := by
  unfold getReward at h
  unfold pendingOf
  cases hr : s.rewards with
  | none => rfl
  | some r =>
    rw [hr] at h
    simp only at h ⊢
    cases hv : rewardVal r a with
    | error e' => rfl
    | ok x => rw [hv] at h; cases h

theorem obs_state (cfg : Cfg) (n : Nat) (s : St) (a : Aid) :
    ∃ t', ((toSimIface cfg n).obs s a).2 = { s with tape := t' } := by
  simp only [toSimIface]
  cases h : getObs cfg s a with
  | error e => exact ⟨s.tape, rfl⟩
  | ok r =>
    obtain ⟨o, s'⟩ := r
    obtain ⟨_, _, _, t', _, _, _, _, _, hs'⟩ := getObs_ok h
    exact ⟨t', hs'⟩

theorem reward_cases (cfg : Cfg) (n : Nat) (s : St) (a : Aid) :
    (pendingOf cfg s a = 0 ∧ (toSimIface cfg n).reward s a = (0, s)) ∨
    ∃ r x, s.rewards = some r ∧ rewardVal r a = .ok x ∧
      (toSimIface cfg n).reward s a = (x, { s with rewards := some (dictSet r a 0) }) := by
  simp only [toSimIface]
  cases h : getReward cfg s a with
  | error e => exact Or.inl ⟨getReward_error h, rfl⟩
  | ok r =>
    obtain ⟨x, s'⟩ := r
    obtain ⟨r0, hr0, hv, rfl⟩ := getReward_shape h
    exact Or.inr ⟨r0, x, hr0, hv, rfl⟩

/-- **`Lawful`** for a simulation that keeps the state of a smart simulation as a part `ex s` of its own (`put` writes
that part) and whose `get_obs`, `get_reward` and ghost `pending` are the smart simulation's on that part; `htape`,
`hled`: the pure getters look neither at the tape nor at what the reward dict holds -/
theorem lawful_of_ex {σ α : Type} {S : SimIface σ α ObsOut Unit} (cfg : Cfg) (n : Nat) (ex : σ → St) (put : σ → St → σ)
    (hobs : ∀ s a, S.obs s a = (((toSimIface cfg n).obs (ex s) a).1, put s ((toSimIface cfg n).obs (ex s) a).2))
    (hrew : ∀ s a, S.reward s a =
      (((toSimIface cfg n).reward (ex s) a).1, put s ((toSimIface cfg n).reward (ex s) a).2))
    (hpend : ∀ s a, S.pending s a = pendingOf cfg (ex s) a) (hex : ∀ s e, ex (put s e) = e) (hput : ∀ s, put s (ex s) = s)
    (htape : ∀ s t, SameView S s (put s { ex s with tape := t }))
    (hled : ∀ s r r', (ex s).rewards = some r → SameView S s (put s { ex s with rewards := some r' })) : Lawful S := by
  have ho : ∀ s a, ∃ t', (S.obs s a).2 = put s { ex s with tape := t' } := by
    intro s a
    obtain ⟨t', h⟩ := obs_state cfg n (ex s) a
    exact ⟨t', by rw [hobs, h]⟩
  have hr : ∀ s a, (pendingOf cfg (ex s) a = 0 ∧ S.reward s a = (0, s)) ∨
      ∃ r x, (ex s).rewards = some r ∧ rewardVal r a = .ok x ∧
        S.reward s a = (x, put s { ex s with rewards := some (dictSet r a 0) }) := by
    intro s a
    rcases reward_cases cfg n (ex s) a with ⟨h0, h⟩ | ⟨r, x, hr, hv, h⟩
    · exact Or.inl ⟨h0, by rw [hrew, h, hput]⟩
    · exact Or.inr ⟨r, x, hr, hv, by rw [hrew, h]⟩
  have hov : ∀ s a, SameView S s (S.obs s a).2 := by
    intro s a
    obtain ⟨t', h⟩ := ho s a
    rw [h]
    exact htape s t'
  have hrv : ∀ s a, SameView S s (S.reward s a).2 := by
    intro s a
    rcases hr s a with ⟨_, h⟩ | ⟨r, x, hr, _, h⟩
    · rw [h]
      exact SameView.refl S s
    · rw [h]
      exact hled s r _ hr
  refine ⟨fun s a => (hov s a).1, fun s a => (hov s a).2.1, fun s a => (hov s a).2.2, fun s a b => ?_,
    fun s a => (hrv s a).1, fun s a => (hrv s a).2.1, fun s a => (hrv s a).2.2, fun s a => ?_, fun s a b => ?_⟩
  · obtain ⟨t', h⟩ := ho s a
    rw [h, hpend, hpend, hex]
    rfl
  · rw [hpend]
    rcases hr s a with ⟨h0, h⟩ | ⟨r, x, hr, hv, h⟩
    · rw [h]
      exact h0.symm
    · rw [h]
      simp only [pendingOf, hr, hv]
  · rw [hpend, hpend]
    rcases hr s a with ⟨h0, h⟩ | ⟨r, x, hr, _, h⟩
    · rw [h]
      by_cases hb : b = a
      · rw [if_pos hb, hb]
        exact h0
      · rw [if_neg hb]
    · rw [h]
      simp only [hex, pendingOf_eq, hr, lookup_dictSet]
      by_cases hb : b = a <;> simp [hb]

/-- **`Lawful`** for `TeamBattleSim`, `PredatorPreyResourcesSim`, `MazeNavigationSim`,
`MultiMazeNavigationSim`, `TrafficCorridorSimulation` — every configuration, every number of agents -/
theorem ex_lawful (cfg : Cfg) (n : Nat) : Lawful (toSimIface cfg n) :=
  lawful_of_ex cfg n id (fun _ e => e) (fun _ _ => rfl) (fun _ _ => rfl) (fun _ _ => rfl) (fun _ _ => rfl) (fun _ => rfl)
    (fun _ _ => ⟨fun _ => rfl, rfl, rfl⟩) fun s r r' (hr : s.rewards = some r) =>
    ⟨fun b => by simp only [toSimIface, getDone, hr, id], by simp only [toSimIface, getAllDone, hr, id], rfl⟩

/-- `WF` for the two managers that can drive the examples (they are not
`DynamicOrderSimulation`s): the turn-based manager needs a learning agent -/
theorem ex_WF (cfg : Cfg) (n : Nat) (k : MKind) (hk : k ≠ .dynamic)
    (hl : k = .turnBased → ∃ a < n, cfg.isLearning a = true) : WF (toSimIface cfg n) k :=
  WF_of_lawful (ex_lawful cfg n) hk hl

end Ex
end Abmarl
