import Abmarl.Lemmas.ConfigAttr
import Abmarl.Lemmas.ConfigBox
/-!
# Lemmas for C19: the model's outcome satisfies `specAccept`, attribute by attribute

`Doc.Fits d f`: the setter's answer `f` is compatible with the documented classification `d`.  The
documented rules are put together from a Boolean test, `Doc.and`, `docAll`, `docOpt` and `docNum`,
the setters from the matching Boolean operations, and `Fits` is closed under each of these; so
`docX v` fits `acceptX v` by a proof that follows the two definitions (`X_fits`; an attribute that is
`Fits.int` / `Fits.numAttr` by `rfl` appears in `accepts_fits` only).  `accepts_fits` collects the
attributes that are checked when they are supplied.  The null points and the barrier/free pair,
whose outcome is more than a setter's answer, are `nullPoint_ok` and `barrierFree_ok`.
-/
namespace Abmarl
namespace Cfg

/-- `specAccept` with the classification made explicit -/
def SpecOK (d : Doc) (out : Outcome) : Bool :=
  match d with
  | .valid => out == .accepted
  | .malformed => out == .rejAssign || out == .rejFinal
  | .either => true

theorem specAccept_eq (a : Attr) (c : Ctx) (v : PyVal) (out : Outcome) :
    specAccept a c v out = SpecOK (docAttr a c v) out := by
  unfold specAccept SpecOK
  cases docAttr a c v <;> rfl

theorem and_malformed_iff (a b : Doc) : a.and b = .malformed ↔ (a = .malformed ∨ b = .malformed) := by
  cases a <;> cases b <;> simp [Doc.and]

theorem and_valid_iff (a b : Doc) : a.and b = .valid ↔ (a = .valid ∧ b = .valid) := by
  cases a <;> cases b <;> simp [Doc.and]

theorem docAll_valid_iff (ds : List Doc) : docAll ds = .valid ↔ ∀ d ∈ ds, d = .valid := by
  induction ds with
  | nil => simp [docAll]
  | cons d ds ih => simp [docAll, and_valid_iff, ih]

theorem wholeWhere_int (p : Int → Bool) (i : Int) : wholeWhere p (.fin (i : Rat)) = p i := by
  simp [wholeWhere, wholeOf_int]

theorem docNum_malformed_iff (canon : PyVal → Bool) (ok good : Flt → Bool) (v : PyVal) :
    docNum canon ok good v = .malformed ↔ ∀ x, numView v = some x → ok x = false := by
  unfold docNum
  cases h : numView v with
  | none => simp
  | some x =>
    cases hok : ok x with
    | false => simp [hok]
    | true =>
      simp only [hok, Bool.not_true, Bool.false_eq_true, if_false, Option.some.injEq, forall_eq']
      split <;> simp

theorem docNum_valid_iff (canon : PyVal → Bool) (ok good : Flt → Bool) (v : PyVal) :
    docNum canon ok good v = .valid ↔
      ∃ x, numView v = some x ∧ ok x = true ∧ canon v = true ∧ good x = true := by
  unfold docNum
  cases h : numView v with
  | none => simp
  | some x =>
    cases hok : ok x with
    | false => simp [hok]
    | true =>
      simp only [hok, Bool.not_true, Bool.false_eq_true, if_false, Option.some.injEq, exists_eq_left',
        true_and]
      split
      · rename_i hc; simpa using hc
      · rename_i hc; simpa using hc

theorem docNum_malformed_of {canon : PyVal → Bool} {ok good : Flt → Bool} {v : PyVal} {x : Flt}
    (hx : numView v = some x) (h : ok x = false) : docNum canon ok good v = .malformed :=
  (docNum_malformed_iff canon ok good v).mpr fun y hy => by
    rw [hx] at hy
    cases hy
    exact h

theorem canonInt_iff (v : PyVal) : canonInt v = true ↔ ∃ i, v = .int i := isPyInt_iff v

theorem canonNum_iff (v : PyVal) : canonNum v = true ↔ ((∃ i, v = .int i) ∨ ∃ f, v = .float f) :=
  (acceptNum_iff (fun _ => true) v).trans (by simp)

/-- the setter's answer `f` is compatible with the documented classification `d` (what is borderline
may go either way) -/
structure Doc.Fits (d : Doc) (f : Bool) : Prop where
  accept : d = .valid → f = true
  reject : d = .malformed → f = false

namespace Doc.Fits

theorem specOK {d : Doc} {f : Bool} (h : d.Fits f) {r : Outcome} (hr : r = .rejAssign ∨ r = .rejFinal) :
    SpecOK d (if f then .accepted else r) = true := by
  cases d with
  | valid => simp [SpecOK, h.accept rfl]
  | malformed => rcases hr with rfl | rfl <;> simp [SpecOK, h.reject rfl]
  | either => rfl

theorem valid : Doc.valid.Fits true := ⟨fun _ => rfl, nofun⟩

theorem either (f : Bool) : Doc.either.Fits f := ⟨nofun, nofun⟩

theorem notValid {d : Doc} (h : d ≠ .valid) : d.Fits false := ⟨fun hv => absurd hv h, fun _ => rfl⟩

theorem malformed : Doc.malformed.Fits false := notValid nofun

theorem iteEither (c : Prop) [Decidable c] : (if c then Doc.either else .malformed).Fits false :=
  notValid (by split <;> nofun)

theorem ite (b : Bool) : (if b = true then Doc.valid else .malformed).Fits b := by
  cases b
  · exact malformed
  · exact valid

theorem and {d₁ d₂ : Doc} {f₁ f₂ : Bool} (h₁ : d₁.Fits f₁) (h₂ : d₂.Fits f₂) :
    (d₁.and d₂).Fits (f₁ && f₂) where
  accept h := by
    obtain ⟨a, b⟩ := (and_valid_iff _ _).mp h
    rw [h₁.accept a, h₂.accept b]; rfl
  reject h := by
    rcases (and_malformed_iff _ _).mp h with a | b
    · rw [h₁.reject a]; rfl
    · rw [h₂.reject b, Bool.and_false]

theorem all {α : Type} (d : α → Doc) (f : α → Bool) (l : List α) (h : ∀ x ∈ l, (d x).Fits (f x)) :
    (docAll (l.map d)).Fits (l.all f) := by
  induction l with
  | nil => exact valid
  | cons x xs ih =>
    rw [List.map_cons, docAll, List.all_cons]
    exact (h x (by simp)).and (ih fun y hy => h y (List.mem_cons_of_mem _ hy))

theorem opt {d : PyVal → Doc} {f : PyVal → Bool} (h : ∀ v, (d v).Fits (f v)) (v : PyVal) :
    (docOpt d v).Fits (optB f v) := by
  cases v with
  | none => exact valid
  | _ => exact h _

/-- setters of the form `acceptIntOrSet`; `dz` classifies the values that are neither -/
theorem intOrSet {a : Int → Bool} {b : PyVal → Bool} {da : Int → Doc} {db dz : PyVal → Doc}
    (ha : ∀ i, (da i).Fits (a i)) (hb : ∀ e, (db e).Fits (b e)) (hz : ∀ v, (dz v).Fits false) (v : PyVal) :
    (match v with | .int i => da i | .set elems => docAll (elems.map db) | v => dz v).Fits
      (acceptIntOrSet a b v) := by
  cases v with
  | int i => exact ha i
  | set elems => exact .all _ _ _ fun e _ => hb e
  | _ => exact hz _

/-- a valid entry that is set aside as borderline when `s` holds, and refused by the setter then -/
theorem setAside {d : Doc} {f : Bool} (s : Bool) (h : d.Fits f) :
    (if (d == .valid && s) = true then Doc.either else d).Fits (f && !s) := by
  cases s
  · simpa using h
  · cases d with
    | malformed => rw [h.reject rfl]; exact malformed
    | _ => exact either _

theorem num {canon : PyVal → Bool} {ok good : Flt → Bool} {v : PyVal} {f : Bool}
    (sound : f = true → ∃ x, numView v = some x ∧ ok x = true)
    (complete : canon v = true → ∀ x, numView v = some x → ok x = true → good x = true → f = true) :
    (docNum canon ok good v).Fits f where
  accept hv := by
    obtain ⟨x, hx, hok, hc, hg⟩ := (docNum_valid_iff _ _ _ _).mp hv
    exact complete hc x hx hok hg
  reject hm := by
    cases hf : f with
    | false => rfl
    | true =>
      obtain ⟨x, hx, hok⟩ := sound hf
      rw [(docNum_malformed_iff _ _ _ _).mp hm x hx] at hok
      cases hok

/-- a setter that takes whatever reads as an admissible integer -/
theorem whole (canon : PyVal → Bool) (p : Int → Bool) (good : Flt → Bool) (v : PyVal) :
    (docNum canon (wholeWhere p) good v).Fits (match intView v with | some i => p i | none => false) := by
  unfold intView
  refine .num (fun h => ?_) fun _ x hx hok _ => by rw [hx]; exact hok
  cases hx : numView v with
  | none => rw [hx] at h; cases h
  | some x => exact ⟨x, rfl, by rwa [hx] at h⟩

/-- attributes of the form `type(value) is int and p(value)` -/
theorem int {f : Bool} {p : Int → Bool} {good : Flt → Bool} {v : PyVal}
    (hf : f = true ↔ ∃ i, v = .int i ∧ p i = true) :
    (docNum canonInt (wholeWhere p) good v).Fits f := by
  refine .num (fun h => ?_) fun hc x hx hok _ => ?_
  · obtain ⟨i, rfl, hp⟩ := hf.mp h
    exact ⟨.fin i, rfl, by rw [wholeWhere_int, hp]⟩
  · obtain ⟨i, rfl⟩ := (canonInt_iff v).mp hc
    cases hx
    exact hf.mpr ⟨i, rfl, by rwa [wholeWhere_int] at hok⟩

/-- attributes of the form `type(value) in [int, float] and ok(value)` -/
theorem numAttr {ok ok' : Flt → Bool} (hk : ∀ x, ok' x = ok x) (good : Flt → Bool) (v : PyVal) :
    (docNum canonNum ok good v).Fits (acceptNum ok' v) := by
  refine .num (fun h => ?_) fun hc x hx hok _ => ?_
  · rcases (acceptNum_iff ok' v).mp h with ⟨i, rfl, h⟩ | ⟨fl, rfl, h⟩
    · exact ⟨.fin i, rfl, hk _ ▸ h⟩
    · exact ⟨fl, rfl, hk _ ▸ h⟩
  · rcases (canonNum_iff v).mp hc with ⟨i, rfl⟩ | ⟨fl, rfl⟩ <;> cases hx <;> exact (hk _).trans hok

end Doc.Fits

theorem id_fits (v : PyVal) : (docId v).Fits (acceptId v) := by
  cases v with
  | str s => exact .valid
  | _ => exact .malformed

theorem seed_fits (v : PyVal) :
    (docOpt (docNum canonInt (wholeWhere fun _ => true) (fun _ => true)) v).Fits (acceptSeed v) := by
  rw [acceptSeed_eq]
  exact .opt (fun v => .int (acceptInt_iff _ v)) v

theorem docFlag_valid_iff (v : PyVal) : docFlag v = .valid ↔ ∃ b, v = .bool b := by
  unfold docFlag
  split
  · exact ⟨fun _ => ⟨_, rfl⟩, fun _ => rfl⟩
  · rename_i hb
    refine ⟨fun h => ?_, fun ⟨b, h⟩ => (hb b h).elim⟩
    split at h
    · split at h <;> cases h
    · cases h

theorem flag_fits (v : PyVal) : (docFlag v).Fits (acceptFlag v) := by
  cases v with
  | bool b => exact .valid
  | _ => exact .notValid fun h => nomatch (docFlag_valid_iff _).mp h

theorem optFlag_fits (v : PyVal) : (docOpt docFlag v).Fits (acceptOptFlag v) := by
  rw [acceptOptFlag_eq]
  exact .opt flag_fits v

theorem initialPosition_fits (v : PyVal) : (docInitialPosition v).Fits (acceptInitialPosition v) := by
  unfold docInitialPosition acceptInitialPosition
  split
  · exact .valid
  · rename_i dt sh xs
    show Doc.Fits _ (sh == [2] && (dt == .i64 || dt == .f64))
    cases sh == [2]
    · exact .malformed
    · cases dt == .i64 || dt == .f64
      · exact .either _
      · exact .valid
  · exact .iteEither _
  · exact .iteEither _
  · rename_i h1 h2 _ _
    split
    · exact absurd rfl h1
    · exact absurd rfl (h2 _ _ _)
    · exact .malformed

theorem renderShape_fits (v : PyVal) : (docRenderShape v).Fits (acceptRenderShape v) := by
  cases v with
  | str s => exact .ite (renderShapes.contains s)
  | _ => exact .malformed

theorem renderColor_fits (v : PyVal) : (docRenderColor v).Fits (acceptRenderColor v) := by
  cases v with
  | str s => exact .valid
  | _ => exact .either _

theorem initialHealth_fits (v : PyVal) :
    (docOpt (docNum canonNum (finWhere fun q => decide (0 < q) && decide (q ≤ 1)) (fun _ => true)) v).Fits
      (acceptInitialHealth v) := by
  rw [acceptInitialHealth_eq]
  exact .opt (.numAttr (fun x => gtR_leR x 0 1) _) v

theorem range_fits (v : PyVal) : (docRange v).Fits (acceptRange v) := by
  unfold docRange
  split
  · exact .ite _
  · rename_i hs
    exact .int ((range_accepts_iff v).trans ((or_iff_right (hs _)).trans (by simp)))

theorem intView_int (i : Int) : intView (.int i) = some i := intView_of_numKey _ i rfl

theorem orientation_fits (v : PyVal) :
    (docNum canonInt (wholeWhere fun i => decide (1 ≤ i) && decide (i ≤ 4)) (fun _ => true) v).Fits
      (acceptOrientation v) := by
  rw [acceptOrientation, inRange1to4_eq]
  exact .whole _ _ _ v

theorem docAgentEntry_eq (gwOnly : Bool) : docAgentEntry gwOnly = acceptAgentEntry gwOnly := by
  funext ⟨k, a⟩
  cases a with
  | agent gw id => cases k <;> simp [docAgentEntry, acceptAgentEntry, Bool.or_comm]
  | _ => rfl

theorem agents_fits (gwOnly : Bool) (v : PyVal) : (docAgents gwOnly v).Fits (acceptAgents gwOnly v) := by
  cases v with
  | dict items =>
    rw [docAgents, docAgentEntry_eq]
    exact .ite _
  | _ => exact .malformed

theorem docIdEntry_eq (ids : List String) :
    docIdEntry ids = fun kv => strIn kv.1 ids && strIn kv.2 ids := by
  funext ⟨k, t⟩
  cases k with
  | str a => cases t <;> simp [docIdEntry, strIn]
  | _ => rfl

theorem targetIdMapping_fits (ids : List String) (v : PyVal) :
    (docTargetIdMapping ids v).Fits (acceptTargetIdMapping ids v) := by
  cases v with
  | dict items =>
    rw [docTargetIdMapping, docIdEntry_eq]
    exact .ite _
  | _ => exact .malformed

/-- how `docEncKey` and `docEncTargets` classify a value that is not of the documented type: at best
borderline -/
theorem intView_ne_valid (encs : List Int) (o : Option Int) :
    (match o with
      | some i => if encs.contains i = true then Doc.either else .malformed
      | none => .malformed) ≠ .valid := by
  split
  · split <;> nofun
  · nofun

theorem fits_intView (encs : List Int) (k : PyVal) :
    (match intView k with
      | some i => if encs.contains i = true then Doc.either else .malformed
      | none => .malformed).Fits (pyIn k encs) where
  accept h := absurd h (intView_ne_valid encs _)
  reject h := Bool.eq_false_iff.mpr fun hp => by
    obtain ⟨i, hi, hm⟩ := (pyIn_iff _ _).mp hp
    rw [intView_of_numKey k i hi] at h
    simp [hm] at h

theorem encKey_fits (encs : List Int) (k : PyVal) : (docEncKey encs k).Fits (pyIn k encs) := by
  unfold docEncKey
  split
  · exact .ite _
  · exact fits_intView encs k

theorem encTargets_fits (encs : List Int) (val : PyVal) :
    (docEncTargets encs val).Fits (acceptEncTargets encs val) :=
  .intOrSet (fun _ => .ite _) (encKey_fits encs) (fun _ => .notValid (intView_ne_valid encs _)) val

theorem attackMapping_fits (encs : List Int) (v : PyVal) :
    (docAttackMapping encs v).Fits (acceptAttackMapping encs v) := by
  cases v with
  | dict items => exact .all _ _ _ fun kv _ => (encKey_fits encs kv.1).and (encTargets_fits encs kv.2)
  | _ => exact .malformed

theorem encSet_fits (encs : List Int) (v : PyVal) : (docEncSet encs v).Fits (acceptEncSet encs v) :=
  .opt (encTargets_fits encs) v

theorem all_and_not {α : Type} (p s : α → Bool) (l : List α) :
    l.all (fun x => p x && !s x) = (l.all p && !l.any s) := by
  induction l with
  | nil => rfl
  | cons a l ih =>
    rw [List.all_cons, List.all_cons, List.any_cons, ih]
    cases p a <;> cases s a <;> simp

/-- for a target that is an encoding, `!=` against a key that is one is what `selfTarget` negates -/
theorem pyIn_and_pyNe {encs : List Int} {k : PyVal} (hk : pyIn k encs = true) (e : PyVal) :
    (pyIn e encs && pyNe e k) = (pyIn e encs && !((intView e).isSome && intView e == intView k)) := by
  cases he : pyIn e encs with
  | false => rfl
  | true =>
    obtain ⟨x, hx, _⟩ := (pyIn_iff _ _).mp he
    obtain ⟨y, hy, _⟩ := (pyIn_iff _ _).mp hk
    rw [intView_of_numKey e x hx, intView_of_numKey k y hy]
    simp only [pyNe, hx, hy, ne_eq, decide_not, Option.isSome_some, Bool.true_and]
    rfl

/-- the shape `Doc.Fits.setAside` asks for -/
theorem targetEncEntry_eq (encs : List Int) (kv : PyVal × PyVal) :
    acceptTargetEncEntry encs kv =
      (pyIn kv.1 encs && acceptEncTargets encs kv.2 && !selfTarget kv.1 kv.2) := by
  obtain ⟨k, val⟩ := kv
  unfold acceptTargetEncEntry
  cases hk : pyIn k encs with
  | false => rfl
  | true =>
    rw [Bool.true_and, Bool.true_and]
    cases val with
    | int i => exact pyIn_and_pyNe hk (.int i)
    | set elems =>
      show elems.all _ = (elems.all _ && !elems.any _)
      rw [List.all_congr rfl (pyIn_and_pyNe hk), all_and_not]
    | _ => rfl

theorem targetEncMapping_fits (encs : List Int) (v : PyVal) :
    (docTargetEncMapping encs v).Fits (acceptTargetEncMapping encs v) := by
  cases v with
  | dict items =>
    refine .all _ _ _ fun kv _ => ?_
    rw [targetEncEntry_eq]
    exact ((encKey_fits encs kv.1).and (encTargets_fits encs kv.2)).setAside _
  | _ => exact .malformed

theorem overlapKey_fits (k : PyVal) : (docOverlapKey k).Fits (isPyInt k) := by
  unfold docOverlapKey
  split
  · exact .valid
  · rename_i h
    have hk : isPyInt k = false := Bool.eq_false_iff.mpr fun hi => ((isPyInt_iff k).mp hi).elim h
    rw [hk]
    exact .iteEither _

theorem overlapVal_fits (val : PyVal) : (docOverlapVal val).Fits (acceptOverlapVal val) :=
  .intOrSet (fun _ => .valid) overlapKey_fits (fun _ => .iteEither _) val

theorem overlapping_fits (v : PyVal) : (docOverlapping v).Fits (acceptOverlapping v) := by
  cases v with
  | none => exact .valid
  | dict items => exact .all _ _ _ fun kv _ => (overlapKey_fits kv.1).and (overlapVal_fits kv.2)
  | _ => exact .malformed

theorem accepts_fits (a : Attr) (c : Ctx) (v : PyVal) (h1 : a ≠ .nullPoint) (h2 : a ≠ .barrierFree) :
    (docAttr a c v).Fits (accepts a c v) := by
  cases a with
  | nullPoint => exact absurd rfl h1
  | barrierFree => exact absurd rfl h2
  | id => exact id_fits v
  | seed => exact seed_fits v
  | active => exact flag_fits v
  | flag => exact flag_fits v
  | optFlag => exact optFlag_fits v
  | encoding => exact .int ((acceptInt_iff _ v).trans (by simp))
  | initialPosition => exact initialPosition_fits v
  | renderShape => exact renderShape_fits v
  | renderColor => exact renderColor_fits v
  | renderSize => exact .int (acceptInt_iff _ v)
  | health => exact .numAttr (fun _ => rfl) _ v
  | initialHealth => exact initialHealth_fits v
  | range => exact range_fits v
  | unit => exact .numAttr (fun x => geR_leR x 0 1) _ v
  | simAttacks => exact .int (acceptInt_iff _ v)
  | initialAmmo => exact .int (acceptInt_iff _ v)
  | ammo => exact .int (acceptInt_iff _ v)
  | orientation => exact orientation_fits v
  | initialOrientation => exact .opt orientation_fits v
  | agentsSim => exact agents_fits false v
  | agentsComp => exact agents_fits true v
  | attackMapping => exact attackMapping_fits c.encs v
  | targetEncMapping => exact targetEncMapping_fits c.encs v
  | targetIdMapping => exact targetIdMapping_fits c.ids v
  | encSet => exact encSet_fits c.encs v
  | gridDim => exact .int (acceptInt_iff _ v)
  | overlapping => exact overlapping_fits v

theorem docEncKey_valid {encs : List Int} {e : PyVal} (h : docEncKey encs e = .valid) : ∃ j, e = .int j := by
  unfold docEncKey at h
  split at h
  · exact ⟨_, rfl⟩
  · exact absurd h (intView_ne_valid encs _)

/-- a valid value is `None`, an `int` or a set of `int`s: the encodings `reset` reads off it are the
listed ones, and all of them are `int` keys -/
theorem encSet_valid_elems (encs : List Int) (v : PyVal) (h : docEncSet encs v = .valid) :
    (encSetElems v).filterMap numKey = listed v ∧ (encSetElems v).all isPyInt = true := by
  cases v with
  | set elems =>
    change docAll (elems.map (docEncKey encs)) = .valid at h
    show elems.filterMap numKey = elems.filterMap intView ∧ _
    induction elems with
    | nil => exact ⟨rfl, rfl⟩
    | cons e es ih =>
      obtain ⟨he, hes⟩ := (and_valid_iff _ _).mp h
      obtain ⟨j, rfl⟩ := docEncKey_valid he
      obtain ⟨h1, h2⟩ := ih hes
      exact ⟨by rw [List.filterMap_cons, List.filterMap_cons, intView_int, h1]; rfl, h2⟩
  | _ => exact ⟨rfl, rfl⟩

theorem barrierFree_ok (c : Ctx) (v : PyVal) :
    SpecOK (docBarrierFree c.encs v) (outcome .barrierFree c v) = true := by
  unfold docBarrierFree
  split
  · rename_i bv fv
    show SpecOK _ (barrierFreeOutcome c.encs bv fv) = true
    have hb := encSet_fits c.encs bv
    have hf := encSet_fits c.encs fv
    cases hd : (docEncSet c.encs bv).and (docEncSet c.encs fv) with
    | either => rfl
    | malformed =>
      -- one of the two values is malformed, so its setter refuses it: rejected when supplied
      simp [barrierFreeOutcome, (hb.and hf).reject hd, SpecOK]
    | valid =>
      simp only
      split
      · -- both setters accept; the values being canonical, the encodings `reset` collects are the
        -- listed ones (so the cover check passes) and every key of `ravelled_positions_available`
        -- is an `int`
        rename_i hcover
        obtain ⟨h1, h2⟩ := (and_valid_iff _ _).mp hd
        obtain ⟨e1, i1⟩ := encSet_valid_elems c.encs bv h1
        obtain ⟨e2, i2⟩ := encSet_valid_elems c.encs fv h2
        have hacc : barrierFreeOutcome c.encs bv fv = .accepted := by
          unfold barrierFreeOutcome
          simp only [hb.accept h1, hf.accept h2, Bool.and_self, Bool.not_true, Bool.false_eq_true, if_false]
          rw [List.filterMap_append, e1, e2]
          simp only [hcover, Bool.not_true, Bool.false_eq_true, if_false]
          have hk : ((encSetElems bv ++
              (encSetElems fv).filter fun e => !((encSetElems bv).map numKey).contains (numKey e)).all isPyInt) = true := by
            rw [List.all_append, i1, Bool.true_and, List.all_eq_true]
            intro e he
            exact (List.all_eq_true.mp i2) e (List.mem_filter.mp he).1
          simp only [hk, Bool.not_true, Bool.false_eq_true, if_false]
        rw [hacc]; rfl
      · rfl
  · rfl

theorem discrete_yes (n : Nat) (v : PyVal) (h : discreteContains n v = .yes) :
    ∃ x, numView v = some x ∧ wholeWhere (fun i => decide (0 ≤ i) && decide (i < n)) x = true := by
  have hin : ∀ i : Int, inDiscrete n i = .yes → (decide (0 ≤ i) && decide (i < (n : Int))) = true := by
    intro i hi
    unfold inDiscrete at hi
    split at hi
    · rename_i hc; exact hc
    · cases hi
  unfold discreteContains at h
  split at h
  · exact ⟨_, rfl, by simp only [wholeWhere, wholeOf_bool]; exact hin _ h⟩
  · split at h
    · exact ⟨_, rfl, by rw [wholeWhere_int]; exact hin _ h⟩
    · cases h
  · exact ⟨_, rfl, by rw [wholeWhere_int]; exact hin _ h⟩
  · rename_i dt x
    split at h
    · cases hx : x.asInt with
      | none => simp [hx] at h
      | some i =>
        simp only [hx] at h
        exact ⟨x, rfl, by simp only [wholeWhere, wholeOf_eq_asInt, hx]; exact hin _ h⟩
    · cases h
  · cases h

theorem box_fits (b : BoxSp) (v : PyVal) : (docBox b v).Fits (boxContains b v == .yes) := by
  have hs := model_meets_specBox_aux b v
  unfold specBox at hs
  refine ⟨fun h => ?_, fun h => ?_⟩
  · rw [h] at hs; exact hs
  · rw [h] at hs; simpa using hs

theorem inSpace_fits (sp : Space) (v : PyVal) : (docInSpace sp v).Fits (spaceContains sp v == .yes) := by
  cases sp with
  | box b => exact box_fits b v
  | discrete n =>
    refine .num (fun h => discrete_yes n v (eq_of_beq h)) fun hc x hx hok hg => ?_
    obtain ⟨i, rfl⟩ := (canonInt_iff v).mp hc
    cases hx
    rw [wholeWhere_int] at hok hg
    simp [spaceContains, discreteContains, hg, inDiscrete, hok]

theorem docNullPoint_eq (sp : Space) (v : PyVal) :
    docNullPoint sp v = if noNullPoint v then .valid else docInSpace sp v := by
  cases v with
  | dict l => cases l <;> rfl
  | _ => rfl

theorem nullPoint_ok (sp : Space) (v : PyVal) (hm : nullOutcome sp v ≠ .unmodelled) :
    SpecOK (docNullPoint sp v) (nullOutcome sp v) = true := by
  revert hm
  rw [docNullPoint_eq, nullOutcome]
  cases noNullPoint v with
  | true => exact fun _ => rfl
  | false =>
    intro hm
    have hfit := (inSpace_fits sp v).specOK (.inr rfl)
    cases hs : spaceContains sp v with
    | unmodelled => rw [hs] at hm; exact absurd rfl hm
    | _ => rw [hs] at hfit; exact hfit

end Cfg
end Abmarl
