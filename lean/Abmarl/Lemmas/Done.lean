import Abmarl.Spec.Done
import Abmarl.Lemmas.ListAux
/-!
# C17: the done components

The model's loops in closed form (`activeLoop`, `collect`, `toSet`), the Bool judges of `Spec/Done.lean`
as first-order statements, and the two getters against the documented answers, as equations
(`getDone_eq`, `getAllDone_eq`).
-/
namespace Abmarl
open World Done Doc

theorem hasEntry_iff {β : Type} (m : List (Aid × β)) (a : Aid) :
    hasEntry m a = true ↔ ∃ t, (a, t) ∈ m := by
  simp only [hasEntry, List.any_eq_true, beq_iff_eq]
  constructor
  · rintro ⟨p, hp, rfl⟩; exact ⟨p.2, hp⟩
  · rintro ⟨t, ht⟩; exact ⟨(a, t), ht, rfl⟩

theorem hasEntry_eq {β : Type} (m : List (Aid × β)) (a : Aid) : hasEntry m a = (m.lookup a).isSome := by
  rw [Bool.eq_iff_iff, hasEntry_iff, lookup_isSome_iff_mem_keys, List.mem_map]
  exact ⟨fun ⟨t, h⟩ => ⟨(a, t), h, rfl⟩, fun ⟨p, h, e⟩ => ⟨p.2, e ▸ h⟩⟩

theorem exists_entry_iff {α β : Type} [BEq α] [LawfulBEq α] {m : List (α × β)} (hd : IsDict m)
    {a : α} {t : β} (ht : (a, t) ∈ m) (P : β → Prop) : (∃ t', (a, t') ∈ m ∧ P t') ↔ P t := by
  refine ⟨?_, fun h => ⟨t, ht, h⟩⟩
  rintro ⟨t', ht', hs⟩
  have h := lookup_of_mem_nodup m hd a t' ht'
  rw [lookup_of_mem_nodup m hd a t ht] at h
  cases h
  exact hs

theorem DoneComp.isDict_iff (c : DoneComp) :
    c.isDict = true ↔
      match c with
      | .targetOverlap m | .targetInactive m => IsDict m
      | .targetEncoding m _ => IsDict m
      | _ => True := by
  cases c <;> simp [DoneComp.isDict, IsDict]

theorem activeLoop_eq (w : World) : ∀ l : List Aid, activeLoop w l = l.all w.inactiveB
  | [] => rfl
  | a :: as => by
    cases h : (w.stOf a).active with
    | false => simpa [activeLoop, inactiveB, isActive, h] using activeLoop_eq w as
    | true => simp [activeLoop, inactiveB, isActive, h]

theorem collect_ok {α β : Type} (f : α → Except GErr β) (g : α → β) :
    ∀ l : List α, (∀ x ∈ l, f x = .ok (g x)) → collect f l = .ok (l.map g)
  | [], _ => rfl
  | x :: xs, h => by
    simp only [collect, h x (by simp), collect_ok f g xs (fun y hy => h y (by simp [hy])),
      List.map_cons]

theorem mem_foldl_setAdd (l : List Int) : ∀ (s : List Int) (x : Int),
    x ∈ l.foldl setAdd s ↔ x ∈ s ∨ x ∈ l := by
  induction l with
  | nil => intro s x; simp
  | cons y ys ih =>
    intro s x
    rw [List.foldl_cons, ih]
    unfold setAdd
    by_cases hy : y ∈ s <;> by_cases hx : x = y <;> simp [hy, hx]

theorem mem_toSet (l : List Int) (x : Int) : x ∈ toSet l ↔ x ∈ l := by
  unfold toSet; rw [mem_foldl_setAdd]; simp

theorem nodup_foldl_setAdd (l : List Int) : ∀ s : List Int, s.Nodup → (l.foldl setAdd s).Nodup := by
  induction l with
  | nil => intro s h; exact h
  | cons y ys ih =>
    intro s h
    rw [List.foldl_cons]
    apply ih
    unfold setAdd
    by_cases hy : y ∈ s
    · rw [if_pos hy]; exact h
    · rw [if_neg hy]; exact nodup_snoc h hy

theorem nodup_toSet (l : List Int) : (toSet l).Nodup := nodup_foldl_setAdd l [] List.nodup_nil

theorem length_le_one_iff {α : Type} : ∀ {s : List α}, s.Nodup →
    (s.length ≤ 1 ↔ ∀ x ∈ s, ∀ y ∈ s, x = y)
  | [], _ => by simp
  | [_], _ => by simp
  | a :: b :: _, h => by
    have : a ≠ b := fun e => by simp [e] at h
    simp [this]

/-- `len(set(l)) <= 1` iff all members are equal -/
theorem toSet_length_le_one (l : List Int) :
    (toSet l).length ≤ 1 ↔ ∀ x ∈ l, ∀ y ∈ l, x = y := by
  simp only [length_le_one_iff (nodup_toSet l), mem_toSet]

theorem mem_allAgents (w : World) (a : Aid) : a ∈ w.allAgents ↔ a < w.n := by
  simp [allAgents]

theorem mem_activeEncs (w : World) (e : Int) :
    e ∈ w.activeEncs ↔ ∃ b, b < w.n ∧ (w.stOf b).active = true ∧ w.encOf b = e := by
  simp only [activeEncs, List.mem_map, List.mem_filter, List.mem_range, isActive]
  constructor
  · rintro ⟨b, ⟨hb, hact⟩, he⟩; exact ⟨b, hb, hact, he⟩
  · rintro ⟨b, hb, hact, he⟩; exact ⟨b, ⟨hb, hact⟩, he⟩

theorem teamDoneB_iff (w : World) (ts : List Int) : w.teamDoneB ts = true ↔ TeamDone w ts := by
  simp only [teamDoneB, List.all_eq_true, mem_allAgents, bimp_iff, Bool.not_eq_true',
    decide_eq_false_iff_not, TeamDone, EncInactive]
  exact ⟨fun h e he b hb hact hbe => h b hb hact (hbe ▸ he),
    fun h b hb hact hm => h _ hm b hb hact rfl⟩

/-- De Morgan along the listing -/
theorem teamDone_eq (w : World) (ts : List Int) : teamDone w ts = w.teamDoneB ts := by
  simp only [teamDone, meets, activeEncs, teamDoneB, allAgents, isActive, List.any_map,
    List.any_filter, List.all_eq_not_any_not, Function.comp_def, Bool.not_or, Bool.not_not]
  cases (List.range w.n).any _ <;> rfl

theorem atMostOneTeamB_iff (w : World) : w.atMostOneTeamB = true ↔ AtMostOneTeam w := by
  simp only [atMostOneTeamB, List.all_eq_true, mem_allAgents, bimp_iff, Bool.and_eq_true, beq_iff_eq,
    AtMostOneTeam]
  exact ⟨fun h a b ha hb x y => h a ha b hb ⟨x, y⟩, fun h a ha b hb ⟨x, y⟩ => h a b ha hb x y⟩

theorem oneTeam_model_iff (w : World) :
    (toSet w.activeEncs).length ≤ 1 ↔ AtMostOneTeam w := by
  rw [toSet_length_le_one]
  constructor
  · intro h a b ha hb hact hbct
    exact h _ ((mem_activeEncs w _).mpr ⟨a, ha, hact, rfl⟩) _ ((mem_activeEncs w _).mpr ⟨b, hb, hbct, rfl⟩)
  · intro h x hx y hy
    obtain ⟨a, ha, hact, rfl⟩ := (mem_activeEncs w x).mp hx
    obtain ⟨b, hb, hbct, rfl⟩ := (mem_activeEncs w y).mp hy
    exact h a b ha hb hact hbct

theorem overlapDone_of_lookup {m : AgentMap} {a t : Aid} (w : World) (h : m.lookup a = some t) :
    overlapDone m w a = .ok (w.samePosB a t) := by
  unfold overlapDone
  rw [h]
  simp only [samePosB, posOf]
  congr 1
  rw [Bool.eq_iff_iff]
  simp only [beq_iff_eq]
  exact decide_eq_true_iff

theorem inactiveDone_of_lookup {m : AgentMap} {a t : Aid} (w : World) (h : m.lookup a = some t) :
    inactiveDone m w a = .ok (w.inactiveB t) := by
  unfold inactiveDone
  rw [h]
  simp [inactiveB, isActive]

/-- the two agent→target components against the documented answer -/
theorem target_eq {m : AgentMap} (hd : IsDict m) (a : Aid) (q : Aid → Bool)
    (out : Except GErr Bool) (hs : ∀ t, m.lookup a = some t → out = .ok (q t))
    (hn : m.lookup a = none → out = .error .keyError) :
    out = match (if hasEntry m a then some (m.any fun p => p.1 == a && q p.2) else none) with
      | some b => .ok b
      | none => .error .keyError := by
  rw [hasEntry_eq, any_key_of_nodup hd]
  cases h : m.lookup a with
  | none => exact hn h
  | some t => exact hs t h

theorem allMapped_eq {m : AgentMap} (f : Aid → Except GErr Bool) (q : Aid → Aid → Bool)
    (h : ∀ p ∈ m, f p.1 = .ok (q p.1 p.2)) :
    allMapped f m = .ok (m.all (fun p => q p.1 p.2)) := by
  unfold allMapped
  rw [collect_ok (fun p => f p.1) (fun p => q p.1 p.2) m h]
  simp [List.all_map]

theorem getDone_eq (c : DoneComp) (hd : c.isDict = true) (w : World) (a : Aid) :
    getDone c w a = match docDone c w a with
      | some b => .ok b
      | none => .error .keyError := by
  cases c with
  | active => rfl
  | oneTeam => rfl
  | targetOverlap m =>
    exact target_eq ((DoneComp.isDict_iff _).mp hd) a (fun t => w.samePosB a t) _
      (fun t h => overlapDone_of_lookup w h) (fun h => by simp [getDone, overlapDone, h])
  | targetInactive m =>
    exact target_eq ((DoneComp.isDict_iff _).mp hd) a (fun t => w.inactiveB t) _
      (fun t h => inactiveDone_of_lookup w h) (fun h => by simp [getDone, inactiveDone, h])
  | targetEncoding m one =>
    simp only [docDone, getDone, any_key_of_nodup ((DoneComp.isDict_iff _).mp hd)]
    cases m.lookup (w.encOf a) <;> simp [teamDone_eq]

theorem getDone_specDone (c : DoneComp) (w : World) (a : Aid) (hd : c.isDict = true) :
    specDone c w a (getDone c w a) = true := by
  rw [specDone, getDone_eq c hd]
  cases docDone c w a <;> simp [answerOK]

theorem getAllDone_eq (c : DoneComp) (hd : c.isDict = true) (w : World) :
    getAllDone c w = .ok (docAllDone c w) := by
  cases c with
  | active => simp [docAllDone, getAllDone, activeLoop_eq, allAgents]
  | oneTeam =>
    simp only [docAllDone, getAllDone]
    congr 1
    rw [Bool.eq_iff_iff, decide_eq_true_iff, oneTeam_model_iff, atMostOneTeamB_iff]
  | targetOverlap m =>
    have hd' : IsDict m := (DoneComp.isDict_iff _).mp hd
    exact allMapped_eq (overlapDone m w) (fun a t => w.samePosB a t)
      (fun p hp => overlapDone_of_lookup w (lookup_of_mem_nodup m hd' p.1 p.2 hp))
  | targetInactive m =>
    have hd' : IsDict m := (DoneComp.isDict_iff _).mp hd
    exact allMapped_eq (inactiveDone m w) (fun _ t => w.inactiveB t)
      (fun p hp => inactiveDone_of_lookup w (lookup_of_mem_nodup m hd' p.1 p.2 hp))
  | targetEncoding m one =>
    cases one <;>
      simp [docAllDone, getAllDone, List.any_map, List.all_map, Function.comp_def, teamDone_eq]

theorem getAllDone_specAllDone (c : DoneComp) (w : World) (hd : c.isDict = true) :
    specAllDone c w (getAllDone c w) = true := by
  rw [getAllDone_eq c hd]
  simp [specAllDone]

end Abmarl
