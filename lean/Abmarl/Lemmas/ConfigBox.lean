import Abmarl.Spec.Config
import Mathlib.Data.Rat.Defs
/-!
# Lemmas for C19: `np.asarray` on nested lists, `Box.contains`, and the judge's Box classification

`asArr_ok_iff`: the model's conversion succeeds exactly on the rectangular nestings whose leaves all
convert (`ConvR`, written with `rect` and `leaves`, which the specification defines independently
of the model); what goes through the recursion of `asArr` is `ConvN`, which also says when the
conversion fails.
`boxContains_yes_iff`: the model's `Box.contains` says yes exactly on the members as the
documentation describes them (`DocMember`: by shape, bounds and what each leaf denotes).
Last, the judge's two classes against that: `mustAcceptBox → DocMember`,
`mustRejectBox → ¬ DocMember`; with `boxContains_yes_iff` this gives `model_meets_specBox_aux`.

`DocMember`, `ViaAsarray`, `leafDen`, `fracF` and `fracFloatLeaf`, defined here, are the terms in
which `box_contains_iff` and `box_int_rejects_fractional` of `Props/C19.lean` are stated, and
`ConvR`, `leafOk`, `leafVal` those of `asArr_ok_iff`: they are part of what those theorems say, not
of how they are proved.
-/
namespace Abmarl
namespace Cfg

/-- does `np.asarray(leaf, dtype)` succeed -/
def leafOk (isInt : Bool) (l : PyVal) : Bool :=
  match leafConv isInt l with
  | .ok _ _ => true
  | _ => false

/-- the element it produces -/
def leafVal (isInt : Bool) (l : PyVal) : Flt :=
  match leafConv isInt l with
  | .ok _ (x :: _) => x
  | _ => .nan

/-- one element of shape `()`, or a refusal -/
def AsArr.Scalar (c : AsArr) : Prop := (∃ x, c = .ok [] [x]) ∨ c = .raises ∨ c = .unmodelled

theorem leafConv_scalar (isInt : Bool) (v : PyVal) : (leafConv isInt v).Scalar := by
  -- a float offered to an integer dtype is truncated if that fits, and refused with `r` otherwise
  have float : ∀ (f : Flt) (r : AsArr), r = .raises ∨ r = .unmodelled →
      AsArr.Scalar (match f with
        | .fin q => if inI64 (truncQ q) then AsArr.ok [] [.fin (truncQ q)] else r
        | _ => r) := by
    intro f r hr
    split
    · split
      · exact .inl ⟨_, rfl⟩
      · exact .inr hr
    · exact .inr hr
  unfold leafConv
  split
  · exact .inl ⟨_, rfl⟩
  · split
    · split
      · exact .inl ⟨_, rfl⟩
      · exact .inr (.inl rfl)
    · exact .inl ⟨_, rfl⟩
  · split
    · exact float _ _ (.inl rfl)
    · exact .inl ⟨_, rfl⟩
  · exact .inl ⟨_, rfl⟩
  · split
    · exact float _ _ (.inr rfl)
    · exact .inl ⟨_, rfl⟩
  · split
    · exact .inr (.inl rfl)
    · exact .inl ⟨_, rfl⟩
  · exact .inr (.inr rfl)
  · exact .inr (.inr rfl)
  · exact .inr (.inl rfl)
  · exact .inr (.inl rfl)
  · exact .inr (.inl rfl)
  · exact .inr (.inl rfl)
  · exact .inr (.inl rfl)

theorem asArrs_eq_map (isInt : Bool) (l : List PyVal) : asArrs isInt l = l.map (asArr isInt) := by
  induction l with
  | nil => simp [asArrs]
  | cons v vs ih => simp [asArrs, ih]

theorem rects_eq_map (l : List PyVal) : rects l = l.map rect := by
  induction l with
  | nil => simp [rects]
  | cons v vs ih => simp [rects, ih]

theorem leavesL_eq_flatMap (l : List PyVal) : leavesL l = l.flatMap leaves := by
  induction l with
  | nil => simp [leavesL]
  | cons v vs ih => simp [leavesL, ih]

/-- the shape of a successful conversion -/
def AsArr.shape? : AsArr → Option (List Nat)
  | .ok sh _ => some sh
  | _ => none

theorem AsArr.eq_ok_iff (r : AsArr) (sh : List Nat) (xs : List Flt) :
    r = .ok sh xs ↔ (r.shape? = some sh ∧ r.valsOf = xs) := by
  cases r <;> simp [AsArr.shape?, AsArr.valsOf]

theorem isOkShape_eq (sh : List Nat) (r : AsArr) : r.isOkShape sh = (r.shape? == some sh) := by
  cases r <;> rfl

theorem rectOf_none {l : List (Option (List Nat))} (h : none ∈ l) : rectOf l = none := by
  cases l with
  | nil => cases h
  | cons x rest =>
    cases x with
    | none => rfl
    | some sh =>
      have hr : none ∈ rest := by simpa using h
      have : rest.all (· == some sh) = false := List.all_eq_false.mpr ⟨none, hr, by simp⟩
      simp [rectOf, this]

theorem combine_shape (rs : List AsArr) : (combine rs).shape? = rectOf (rs.map AsArr.shape?) := by
  unfold combine
  -- a part that is unmodelled, or raised, has no shape
  split
  · rename_i h
    obtain ⟨r, hr, e⟩ := List.any_eq_true.mp h
    exact (rectOf_none (List.mem_map.mpr ⟨r, hr, by rw [eq_of_beq e]; rfl⟩)).symm
  split
  · rename_i h
    obtain ⟨r, hr, e⟩ := List.any_eq_true.mp h
    exact (rectOf_none (List.mem_map.mpr ⟨r, hr, by rw [eq_of_beq e]; rfl⟩)).symm
  cases rs with
  | nil => rfl
  | cons r rest =>
    cases r with
    | ok sh vs =>
      have hall : (AsArr.ok sh vs :: rest).all (AsArr.isOkShape sh) =
          (rest.map AsArr.shape?).all (· == some sh) := by
        rw [List.all_cons, List.all_map, isOkShape_eq]
        simp only [AsArr.shape?, beq_self_eq_true, Bool.true_and]
        exact List.all_congr rfl (isOkShape_eq sh)
      show (if _ then _ else _ : AsArr).shape? = (if _ then _ else _)
      rw [hall]
      split
      · simp [AsArr.shape?]
      · rfl
    | _ => rfl

theorem combine_vals (rs : List AsArr) (h : (combine rs).shape? ≠ none) :
    (combine rs).valsOf = rs.flatMap AsArr.valsOf := by
  unfold combine at h ⊢
  split at h
  · exact absurd rfl h
  split at h
  · exact absurd rfl h
  rename_i h1 h2
  rw [if_neg h1, if_neg h2]
  split at h
  · rfl
  · split at h
    · rename_i hall; rw [if_pos hall]; rfl
    · exact absurd rfl h
  · exact absurd rfl h

/-- what a successful conversion looks like, in terms of the specification's `rect` and `leaves` -/
def ConvR (isInt : Bool) (v : PyVal) (sh : List Nat) (xs : List Flt) : Prop :=
  rect v = some sh ∧ (∀ l ∈ leaves v, leafOk isInt l = true) ∧ xs = (leaves v).map (leafVal isInt)

theorem flatMap_vals (isInt : Bool) (l : List PyVal)
    (h : ∀ v ∈ l, (asArr isInt v).valsOf = (leaves v).map (leafVal isInt)) :
    (l.map (asArr isInt)).flatMap AsArr.valsOf = (l.flatMap leaves).map (leafVal isInt) := by
  induction l with
  | nil => rfl
  | cons v vs ih =>
    simp only [List.map_cons, List.flatMap_cons, List.map_append]
    rw [h v (by simp), ih (fun w hw => h w (List.mem_cons_of_mem _ hw))]

/-- what `asArr` does on `v`: it succeeds when every leaf converts, with the shape `rect` finds,
and the values are then the converted leaves in order -/
def ConvN (isInt : Bool) (v : PyVal) : Prop :=
  (asArr isInt v).shape? = (if (leaves v).all (leafOk isInt) = true then rect v else none) ∧
  ((asArr isInt v).shape? ≠ none → (asArr isInt v).valsOf = (leaves v).map (leafVal isInt))

theorem seq_convN (isInt : Bool) (l : List PyVal) (ih : ∀ v ∈ l, ConvN isInt v) :
    (combine (asArrs isInt l)).shape? =
        (if (leavesL l).all (leafOk isInt) = true then rectOf (rects l) else none) ∧
    ((combine (asArrs isInt l)).shape? ≠ none →
        (combine (asArrs isInt l)).valsOf = (leavesL l).map (leafVal isInt)) := by
  rw [asArrs_eq_map, rects_eq_map, leavesL_eq_flatMap]
  have key : (combine (l.map (asArr isInt))).shape? =
      (if (l.flatMap leaves).all (leafOk isInt) = true then rectOf (l.map rect) else none) := by
    rw [combine_shape, List.map_map]
    split
    · rename_i hall
      refine congrArg rectOf (List.map_congr_left fun v hv => ?_)
      have : (leaves v).all (leafOk isInt) = true := List.all_eq_true.mpr fun x hx =>
        List.all_eq_true.mp hall x (List.mem_flatMap.mpr ⟨v, hv, hx⟩)
      rw [Function.comp_apply, (ih v hv).1, if_pos this]
    · rename_i hall
      -- some part has a leaf that does not convert
      obtain ⟨x, hx, hbad⟩ := List.all_eq_false.mp (Bool.not_eq_true _ ▸ hall)
      obtain ⟨v, hv, hxv⟩ := List.mem_flatMap.mp hx
      refine rectOf_none (List.mem_map.mpr ⟨v, hv, ?_⟩)
      rw [Function.comp_apply, (ih v hv).1, if_neg]
      exact fun h => hbad (List.all_eq_true.mp h x hxv)
  refine ⟨key, fun hne => ?_⟩
  rw [combine_vals _ hne]
  refine flatMap_vals isInt l fun v hv => (ih v hv).2 fun hn => hne ?_
  rw [combine_shape]
  exact rectOf_none (List.mem_map.mpr ⟨_, List.mem_map_of_mem hv, hn⟩)

theorem asArr_convN (isInt : Bool) :
    (∀ v, ConvN isInt v) ∧ ∀ l : List PyVal, ∀ v ∈ l, ConvN isInt v := by
  refine asArr.mutual_induct _ _ ?_ ?_ ?_ nofun ?_
  · intro l ih
    rw [ConvN, asArr, rect, leaves]
    exact seq_convN isInt l ih
  · intro l ih
    rw [ConvN, asArr, rect, leaves]
    exact seq_convN isInt l ih
  · -- neither a list nor a tuple: converted as a leaf, of shape `()`, its own only leaf
    intro v hl ht
    rw [ConvN, asArr.eq_3 isInt v hl ht, rect.eq_3 v hl ht, leaves.eq_3 v hl ht]
    rcases leafConv_scalar isInt v with ⟨x, h⟩ | h | h <;> simp [h, leafOk, leafVal, AsArr.shape?, AsArr.valsOf]
  · intro w ws h1 h2
    exact List.forall_mem_cons.mpr ⟨h1, h2⟩

/-- **`np.asarray` on nested lists**: succeeds with shape `sh` and values `xs` iff the nesting is
rectangular of shape `sh`, every leaf converts, and `xs` are the converted leaves in order -/
theorem asArr_ok_iff (isInt : Bool) (v : PyVal) (sh : List Nat) (xs : List Flt) :
    asArr isInt v = .ok sh xs ↔ ConvR isInt v sh xs := by
  obtain ⟨h1, h2⟩ := (asArr_convN isInt).1 v
  rw [AsArr.eq_ok_iff, ConvR, h1]
  split
  · rename_i hall
    refine and_congr_right fun hr => ?_
    rw [h2 (by rw [h1, if_pos hall, hr]; nofun), eq_comm]
    exact (and_iff_right (fun l hl => List.all_eq_true.mp hall l hl)).symm
  · rename_i hall
    exact ⟨fun h => (nomatch h.1), fun ⟨_, h, _⟩ => (hall (List.all_eq_true.mpr h)).elim⟩

theorem asArr_ok_iff_list (isInt : Bool) : ∀ (l : List PyVal), ∀ v ∈ l, ∀ (sh : List Nat) (xs : List Flt),
    asArr isInt v = .ok sh xs ↔ ConvR isInt v sh xs :=
  fun _ v _ => asArr_ok_iff isInt v

/-- the exact number a leaf denotes for a box of the given element type, if it is admissible at
all: Python ints must fit int64 for an integer box, floats offered to an integer box must be whole
(and fit), `None` reads as `nan` in a float box; sets, dicts, strings, … denote nothing -/
def leafDen (isInt : Bool) : PyVal → Option Flt
  | .bool b => some (.fin (b2i b))
  | .int i => if isInt = true ∧ inI64 i = false then none else some (.fin i)
  | .float f =>
    if isInt then
      (match f with
       | .fin q => if q.den = 1 ∧ inI64 q.num = true then some (.fin q) else none
       | _ => none)
    else some f
  | .npInt i => some (.fin i)
  | .npFloat f =>
    if isInt then
      (match f with
       | .fin q => if q.den = 1 ∧ inI64 q.num = true then some (.fin q) else none
       | _ => none)
    else some f
  | .none => if isInt then none else some .nan
  | _ => none

/-- values that `Box.contains` hands to `np.asarray(x, dtype=self.dtype)` -/
def ViaAsarray (v : PyVal) : Prop :=
  (∀ i, v ≠ .int i) ∧ (∀ f, v ≠ .float f) ∧ (∀ dt sh xs, v ≠ .ndarray dt sh xs)

/-- **Box membership, declaratively.**  A Python `int` / `float` is a one-element vector (a float
only for a float box); an array needs a safely castable dtype, the box's shape and all elements
within the bounds; anything else must be a rectangular nesting of lists/tuples (a bare value having
shape `()`) of the box's shape whose leaves all denote numbers within the bounds. -/
def DocMember (b : BoxSp) (v : PyVal) : Prop :=
  (∃ i, v = .int i ∧ inI64 i = true ∧ b.shape = [1] ∧ inBounds b (.fin i) = true) ∨
  (∃ f, v = .float f ∧ b.isInt = false ∧ b.shape = [1] ∧ inBounds b f = true) ∨
  (∃ dt sh xs, v = .ndarray dt sh xs ∧ canCast dt b.isInt = true ∧ sh = b.shape ∧
      ∀ x ∈ xs, inBounds b x = true) ∨
  (ViaAsarray v ∧ rect v = some b.shape ∧
      ∀ l ∈ leaves v, ∃ x, leafDen b.isInt l = some x ∧ inBounds b x = true)

theorem docMember_int (b : BoxSp) (i : Int) :
    DocMember b (.int i) ↔ (inI64 i = true ∧ b.shape = [1] ∧ inBounds b (.fin i) = true) := by
  constructor
  · rintro (⟨_, h1, h2⟩ | ⟨_, h1, _⟩ | ⟨_, _, _, h1, _⟩ | ⟨⟨h1, _⟩, _⟩)
    · cases h1; exact h2
    · cases h1
    · cases h1
    · exact absurd rfl (h1 i)
  · exact fun h => .inl ⟨i, rfl, h⟩

theorem docMember_float (b : BoxSp) (f : Flt) :
    DocMember b (.float f) ↔ (b.isInt = false ∧ b.shape = [1] ∧ inBounds b f = true) := by
  constructor
  · rintro (⟨_, h1, _⟩ | ⟨_, h1, h2⟩ | ⟨_, _, _, h1, _⟩ | ⟨⟨_, h1, _⟩, _⟩)
    · cases h1
    · cases h1; exact h2
    · cases h1
    · exact absurd rfl (h1 f)
  · exact fun h => .inr (.inl ⟨f, rfl, h⟩)

theorem docMember_ndarray (b : BoxSp) (dt : DT) (sh : List Nat) (xs : List Flt) :
    DocMember b (.ndarray dt sh xs) ↔
      (canCast dt b.isInt = true ∧ sh = b.shape ∧ ∀ x ∈ xs, inBounds b x = true) := by
  constructor
  · rintro (⟨_, h1, _⟩ | ⟨_, h1, _⟩ | ⟨_, _, _, h1, h2⟩ | ⟨⟨_, _, h1⟩, _⟩)
    · cases h1
    · cases h1
    · cases h1; exact h2
    · exact absurd rfl (h1 dt sh xs)
  · exact fun h => .inr (.inr (.inl ⟨dt, sh, xs, rfl, h⟩))

theorem docMember_via (b : BoxSp) (v : PyVal) (hv : ViaAsarray v) :
    DocMember b v ↔
      (rect v = some b.shape ∧ ∀ l ∈ leaves v, ∃ x, leafDen b.isInt l = some x ∧ inBounds b x = true) := by
  constructor
  · rintro (⟨_, h1, _⟩ | ⟨_, h1, _⟩ | ⟨_, _, _, h1, _⟩ | ⟨_, h2⟩)
    · exact absurd h1 (hv.1 _)
    · exact absurd h1 (hv.2.1 _)
    · exact absurd h1 (hv.2.2 _ _ _)
    · exact h2
  · exact fun h => .inr (.inr (.inr ⟨hv, h⟩))

theorem inBounds_eq (b : BoxSp) (x : Flt) : (x.geR b.low && x.leR b.high) = inBounds b x := by
  cases x <;> simp [Flt.geR, Flt.leR, inBounds]

theorem boxTest_yes_iff (b : BoxSp) (dt : DT) (sh : List Nat) (xs : List Flt) :
    boxTest b dt sh xs = .yes ↔ (canCast dt b.isInt = true ∧ sh = b.shape ∧ ∀ x ∈ xs, inBounds b x = true) := by
  simp only [boxTest, ite_eq_left_iff, reduceCtorEq, imp_false, Decidable.not_not, Bool.and_eq_true, beq_iff_eq,
    List.all_eq_true, and_assoc, ← inBounds_eq, forall_and]

theorem boxTest_one (b : BoxSp) (dt : DT) (x : Flt) :
    boxTest b dt [1] [x] = .yes ↔ (canCast dt b.isInt = true ∧ b.shape = [1] ∧ inBounds b x = true) := by
  simp [boxTest_yes_iff, eq_comm (a := b.shape)]

theorem truncQ_whole (q : Rat) (h : q.den = 1) : truncQ q = q.num ∧ ((q.num : Int) : Rat) = q := by
  refine ⟨?_, Rat.coe_int_num_of_den_eq_one h⟩
  unfold truncQ
  rw [h]
  simp

/-- finite and not an integer -/
def fracF : Flt → Bool
  | .fin q => q.den != 1
  | _ => false

/-- a float (Python or numpy) that is finite and not whole: what `int(x)` alters -/
def fracFloatLeaf : PyVal → Bool
  | .float f => fracF f
  | .npFloat f => fracF f
  | _ => false

theorem truncQ_eq_iff (q : Rat) : ((truncQ q : Int) : Rat) = q ↔ q.den = 1 :=
  ⟨fun h => h ▸ Rat.den_intCast _, fun h => by rw [(truncQ_whole q h).1, (truncQ_whole q h).2]⟩

theorem leafChanged_eq (l : PyVal) : leafChanged l = fracFloatLeaf l := by
  cases l with
  | float f | npFloat f =>
    cases f <;> simp [leafChanged, fracFloatLeaf, fracF, truncQ_eq_iff, bne, beq_eq_decide]
  | _ => rfl

theorem castChanged_both :
    (∀ v, castChanged v = (leaves v).any fracFloatLeaf) ∧
    ∀ l, castChangedL l = (leavesL l).any fracFloatLeaf := by
  refine leaves.mutual_induct _ _ ?_ ?_ ?_ rfl ?_
  · intro l ih
    rw [castChanged, leaves]
    exact ih
  · intro l ih
    rw [castChanged, leaves]
    exact ih
  · intro v hl ht
    rw [castChanged.eq_3 v hl ht, leaves.eq_3 v hl ht, leafChanged_eq, List.any_cons, List.any_nil,
      Bool.or_false]
  · intro v vs h1 h2
    rw [castChangedL, leavesL, List.any_append, h1, h2]

theorem castChanged_eq : ∀ (v : PyVal), castChanged v = (leaves v).any fracFloatLeaf :=
  castChanged_both.1

theorem castChangedL_eq : ∀ (l : List PyVal), castChangedL l = (leavesL l).any fracFloatLeaf :=
  castChanged_both.2

/-- what a leaf denotes, read off the conversion: the converted element, unless an integer dtype
altered a fractional float -/
theorem leafDen_eq (isInt : Bool) (l : PyVal) :
    leafDen isInt l =
      if leafOk isInt l = true ∧ (isInt && fracFloatLeaf l) = false then some (leafVal isInt l)
      else none := by
  cases isInt with
  | false => cases l <;> rfl
  | true =>
    cases l with
    | int i => by_cases hi : inI64 i = true <;> simp [leafOk, leafVal, leafConv, leafDen, fracFloatLeaf, hi]
    | float f | npFloat f =>
      cases f with
      | fin q =>
        -- `int(x)` keeps a whole float and alters any other
        by_cases hq : q.den = 1
        · obtain ⟨ht, hc⟩ := truncQ_whole q hq
          by_cases hi : inI64 q.num = true <;>
            simp [leafOk, leafVal, leafConv, leafDen, fracFloatLeaf, fracF, ht, hc, hi, hq]
        · simp [leafDen, fracFloatLeaf, fracF, hq]
      | _ => rfl
    | _ => rfl

theorem den_inBounds_iff (b : BoxSp) (l : PyVal) :
    (∃ x, leafDen b.isInt l = some x ∧ inBounds b x = true) ↔
      (leafOk b.isInt l = true ∧ (b.isInt && fracFloatLeaf l) = false) ∧
        inBounds b (leafVal b.isInt l) = true := by
  rw [leafDen_eq]
  split
  · rename_i h
    exact ⟨fun ⟨_, e, hx⟩ => ⟨h, Option.some.inj e ▸ hx⟩, fun ⟨_, hx⟩ => ⟨_, rfl, hx⟩⟩
  · rename_i h
    exact ⟨fun ⟨_, e, _⟩ => (nomatch e), fun ⟨h', _⟩ => (h h').elim⟩

theorem castChanged_false_iff (c : Bool) (v : PyVal) :
    (c && castChanged v) = false ↔ ∀ l ∈ leaves v, (c && fracFloatLeaf l) = false := by
  rw [castChanged_eq]
  cases c <;> simp

theorem canCast_boxDT (b : BoxSp) : canCast (boxDT b) b.isInt = true := by
  cases h : b.isInt <;> simp [canCast, boxDT, h]

theorem boxContains_yes_iff (b : BoxSp) (v : PyVal) :
    boxContains b v = .yes ↔ DocMember b v := by
  unfold boxContains
  split
  · -- Python int
    rename_i i
    have hc : canCast .i64 b.isInt = true := by cases b.isInt <;> rfl
    rw [docMember_int]
    split
    · simp [boxTest_one, *]
    · simp [*]
  · -- Python float
    have hc : canCast .f64 b.isInt = true ↔ b.isInt = false := by cases b.isInt <;> simp [canCast]
    rw [docMember_float, boxTest_one, hc]
  · -- numpy array
    rw [docMember_ndarray, boxTest_yes_iff]
  · -- everything else: `np.asarray(x, dtype=self.dtype)`, refused if an integer dtype altered a leaf
    rename_i h1 h2 h3
    rw [docMember_via b v ⟨h1, h2, h3⟩]
    -- yes: the conversion succeeded and altered nothing, and the array passes the test
    trans ∃ sh xs, asArr b.isInt v = .ok sh xs ∧ (b.isInt && castChanged v) = false ∧
      boxTest b (boxDT b) sh xs = .yes
    · by_cases hch : (b.isInt && castChanged v) = true <;> cases asArr b.isInt v <;> simp [hch]
    simp only [asArr_ok_iff, ConvR, castChanged_false_iff, boxTest_yes_iff, canCast_boxDT, true_and,
      den_inBounds_iff]
    constructor
    · rintro ⟨sh, xs, ⟨hr, hok, rfl⟩, hfr, rfl, hb⟩
      exact ⟨hr, fun l hl => ⟨⟨hok l hl, hfr l hl⟩, hb _ (List.mem_map_of_mem hl)⟩⟩
    · rintro ⟨hr, h⟩
      exact ⟨_, _, ⟨hr, fun l hl => (h l hl).1.1, rfl⟩, fun l hl => (h l hl).1.2, rfl,
        List.forall_mem_map.mpr fun l hl => (h l hl).2⟩

/-! ## The judge's classes against `DocMember` -/

theorem b2i_cast (bb : Bool) : ((b2i bb : Int) : Rat) = (if bb then 1 else 0) := by
  cases bb <;> simp [b2i]

theorem goodLeaf_den (b : BoxSp) (l : PyVal) (h : goodLeaf b l = true) :
    ∃ x, leafDen b.isInt l = some x ∧ inBounds b x = true := by
  unfold goodLeaf at h
  split at h
  · rename_i i
    simp only [Bool.and_eq_true] at h
    exact ⟨.fin i, by simp [leafDen, h.1], h.2⟩
  · rename_i f
    simp only [Bool.and_eq_true, Bool.not_eq_true'] at h
    exact ⟨f, by simp [leafDen, h.1], h.2⟩
  · cases h

theorem viaAsarray_list (l : List PyVal) : ViaAsarray (.list l) := by simp [ViaAsarray]
theorem viaAsarray_tuple (l : List PyVal) : ViaAsarray (.tuple l) := by simp [ViaAsarray]
theorem viaAsarray_npInt (i : Int) : ViaAsarray (.npInt i) := by simp [ViaAsarray]
theorem viaAsarray_npFloat (f : Flt) : ViaAsarray (.npFloat f) := by simp [ViaAsarray]

theorem docMember_scalar (b : BoxSp) (v : PyVal) (hl : ∀ l, v ≠ .list l) (ht : ∀ l, v ≠ .tuple l)
    (hn : ∀ dt sh xs, v ≠ .ndarray dt sh xs) (h : DocMember b v) :
    (b.shape = [] ∨ b.shape = [1]) ∧ ∃ x, leafDen b.isInt v = some x ∧ inBounds b x = true := by
  rcases h with ⟨i, rfl, hi, hsh, hb⟩ | ⟨f, rfl, hI, hsh, hb⟩ | ⟨_, _, _, h1, _⟩ | ⟨_, hr, hall⟩
  · exact ⟨.inr hsh, .fin i, by simp [leafDen, hi], hb⟩
  · exact ⟨.inr hsh, f, by simp [leafDen, hI], hb⟩
  · exact absurd h1 (hn _ _ _)
  · rw [rect.eq_3 v hl ht] at hr
    rw [leaves.eq_3 v hl ht] at hall
    exact ⟨.inl (Option.some.inj hr).symm, hall v (List.mem_singleton.mpr rfl)⟩

theorem mustAccept_docMember (b : BoxSp) (v : PyVal) (h : mustAcceptBox b v = true) : DocMember b v := by
  unfold mustAcceptBox at h
  split at h <;>
    simp only [Bool.and_eq_true, beq_iff_eq, Bool.not_eq_true', List.all_eq_true, Bool.false_eq_true] at h
  · exact (docMember_int b _).mpr ⟨h.1.2, h.1.1, h.2⟩
  · exact (docMember_float b _).mpr ⟨h.1.1, h.1.2, h.2⟩
  · -- a numpy scalar is its own only leaf, of shape `()`
    refine (docMember_via b _ (viaAsarray_npInt _)).mpr ⟨h.1 ▸ rfl, fun l hl => ?_⟩
    cases List.mem_singleton.mp hl
    exact ⟨_, rfl, h.2⟩
  · refine (docMember_via b _ (viaAsarray_npFloat _)).mpr ⟨h.1.2 ▸ rfl, fun l hl => ?_⟩
    cases List.mem_singleton.mp hl
    exact ⟨_, by simp [leafDen, h.1.1], h.2⟩
  · -- the judge admits fewer dtypes than numpy's safe cast does
    rename_i dt sh xs
    refine (docMember_ndarray b dt sh xs).mpr ⟨?_, h.1.2, h.2⟩
    have h1 := h.1.1
    unfold canCast
    split
    · rename_i hI
      rw [if_pos hI] at h1
      rw [h1, Bool.true_or]
    · rfl
  · exact (docMember_via b _ (viaAsarray_list _)).mpr ⟨h.1, fun x hx => goodLeaf_den b x (h.2 x hx)⟩
  · exact (docMember_via b _ (viaAsarray_tuple _)).mpr ⟨h.1, fun x hx => goodLeaf_den b x (h.2 x hx)⟩

/-- `hx` excludes `None`, which denotes `nan` in a float box and is no `leafNum` -/
theorem leafDen_num {isInt : Bool} {l : PyVal} {x : Flt} (h : leafDen isInt l = some x) (hx : x ≠ .nan) :
    leafNum l = some x ∧ (isInt = true → isFloatLeaf l = true → wholeF x = true) := by
  cases l with
  | bool c => cases h; exact ⟨by rw [b2i_cast]; rfl, nofun⟩
  | npInt i => cases h; exact ⟨rfl, nofun⟩
  | int i =>
    simp only [leafDen] at h
    split at h
    · cases h
    · cases h; exact ⟨rfl, nofun⟩
  | float f | npFloat f =>
    cases isInt with
    | false => cases h; exact ⟨rfl, nofun⟩
    | true =>
      cases f with
      | fin q =>
        simp only [leafDen, if_true] at h
        split at h
        · rename_i hq
          cases h
          exact ⟨rfl, fun _ _ => by simp [wholeF, hq.1]⟩
        · cases h
      | _ => cases h
  | none =>
    cases isInt with
    | true => cases h
    | false => cases h; exact absurd rfl hx
  | _ => cases h

theorem badLeaf_no_den (b : BoxSp) (l : PyVal) (h : badLeaf b l = true) :
    ¬ ∃ x, leafDen b.isInt l = some x ∧ inBounds b x = true := by
  rintro ⟨x, hx, hb⟩
  obtain ⟨hn, hw⟩ := leafDen_num hx (by rintro rfl; cases hb)
  -- `l` is the number `x`, which is within the bounds: `badLeaf` says it is a fractional float
  simp only [badLeaf, hn, hb, Bool.not_true, Bool.false_or, Bool.and_eq_true, Bool.not_eq_true'] at h
  obtain ⟨⟨hI, hf⟩, hnw⟩ := h
  rw [hw hI hf] at hnw
  cases hnw

theorem scalar_reject (b : BoxSp) (v : PyVal) (hl : ∀ l, v ≠ .list l) (ht : ∀ l, v ≠ .tuple l)
    (hn : ∀ dt sh xs, v ≠ .ndarray dt sh xs)
    (h : (!(b.shape == [] || b.shape == [1]) || badLeaf b v) = true) : ¬ DocMember b v := by
  intro hd
  obtain ⟨hsh, hden⟩ := docMember_scalar b v hl ht hn hd
  refine badLeaf_no_den b v ?_ hden
  rcases hsh with hsh | hsh <;> simpa [hsh] using h

theorem seq_reject (b : BoxSp) (v : PyVal) (hv : ViaAsarray v)
    (h : (match rect v with
          | none => true
          | some sh => sh != b.shape || (leaves v).any (badLeaf b)) = true) :
    ¬ DocMember b v := by
  intro hd
  obtain ⟨hr, hall⟩ := (docMember_via b v hv).mp hd
  simp only [hr, bne_self_eq_false, Bool.false_or, List.any_eq_true] at h
  obtain ⟨l, hl, hbad⟩ := h
  exact badLeaf_no_den b l hbad (hall l hl)

theorem mustReject_not_docMember (b : BoxSp) (v : PyVal) (h : mustRejectBox b v = true) :
    ¬ DocMember b v := by
  unfold mustRejectBox at h
  split at h
  · exact scalar_reject b .none nofun nofun nofun (Bool.or_true _)
  · exact scalar_reject b (.set _) nofun nofun nofun (Bool.or_true _)
  · exact scalar_reject b (.dict _) nofun nofun nofun (Bool.or_true _)
  · exact scalar_reject b (.agent _ _) nofun nofun nofun (Bool.or_true _)
  · cases h
  · rename_i dt sh xs
    rw [docMember_ndarray]
    rintro ⟨hc, hsh, hall⟩
    simp only [Bool.or_eq_true, bne_iff_ne, ne_eq, List.any_eq_true, Bool.not_eq_true',
      Bool.and_eq_true] at h
    rcases h with (h | ⟨x, hx, hnb⟩) | ⟨⟨hI, hdt⟩, _⟩
    · exact h hsh
    · rw [hall x hx] at hnb; cases hnb
    · -- a float dtype cannot be cast safely to an integer one
      rw [hI] at hc
      simp only [beq_iff_eq] at hdt
      rcases hdt with rfl | rfl <;> cases hc
  · exact seq_reject b _ (viaAsarray_list _) h
  · exact seq_reject b _ (viaAsarray_tuple _) h
  · -- a bare number (or `bool`): the box must have shape `()` or `(1,)`
    rename_i _ _ _ _ _ hn hl ht
    exact scalar_reject b v hl ht hn h

theorem specBox_iff (b : BoxSp) (v : PyVal) (out : BoxOut) :
    specBox b v out = true ↔
      (mustAcceptBox b v = true → out = .yes) ∧
      (mustAcceptBox b v = false → mustRejectBox b v = true → out ≠ .yes) := by
  unfold specBox docBox
  cases mustAcceptBox b v <;> cases mustRejectBox b v <;> simp

theorem model_meets_specBox_aux (b : BoxSp) (v : PyVal) :
    specBox b v (boxContains b v) = true :=
  (specBox_iff b v _).mpr
    ⟨fun ha => (boxContains_yes_iff b v).mpr (mustAccept_docMember b v ha),
      fun _ hr hy => mustReject_not_docMember b v hr ((boxContains_yes_iff b v).mp hy)⟩

end Cfg
end Abmarl
