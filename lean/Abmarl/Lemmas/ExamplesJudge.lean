import Abmarl.Lemmas.ExamplesObs
import Abmarl.Lemmas.ExamplesNoRaise
import Abmarl.Spec.Examples
/-!
# The model's own trace passes the judge `specEx`

The Boolean hypotheses of the judge are the Prop hypotheses of the lemmas (`*_of_b`, `exPre_hyps`); every call of the
model from a `Live` state passes `judge1` (`judge1_model`), hence the trace of every history passes `specFrom`
(`specFrom_model`).  `examples_hist` (Props/Examples.lean) is the instance from the constructed object.
-/
namespace Abmarl
open World
namespace Ex

theorem frameb_of_sframe {w0 w : World} (h : SFrame w0 w) : frameb w0 w = true := by
  simp [frameb, h.rows, h.cols, h.overlap, h.cfg, h.len]

theorem resetOK_of_b {cfg : Cfg} {w0 : World} {order : List StateComp} (h : resetOKb cfg w0 order = true) :
    ResetOK cfg w0 order := by
  simp only [resetOKb, Bool.and_eq_true, Bool.not_eq_true'] at h
  obtain ⟨⟨⟨h1, h2⟩, h3⟩, h4⟩ := h
  refine ⟨(any_isPosition_iff order).mp h1, ?_, (all_wfOn_iff w0 order).mp h3, ?_⟩
  · intro hm
    have := (any_isHealthClosed_iff order).mpr hm
    rw [h2] at this; cases this
  · rintro (hc | hc) <;> rw [hc] at h4 <;> exact (any_isHealth_iff order).mp h4

theorem actsOK_of_b {cfg : Cfg} {w0 : World} {acts : List (Aid × Act)} (h : actsOKb cfg w0 acts = true) :
    ActsOK cfg w0 acts := by
  unfold actsOKb at h
  unfold ActsOK
  cases hc : cfg.which <;> rw [hc] at h <;> simp only at h ⊢
  · exact fun x hx => List.all_eq_true.mp h x hx
  · exact fun x hx => List.all_eq_true.mp h x hx
  · simp only [Bool.and_eq_true, decide_eq_true_eq] at h
    refine ⟨h.1, fun act hl => ?_⟩
    have := h.2
    rw [hl] at this
    exact this
  · intro x hx
    have := List.all_eq_true.mp h x hx
    simpa using this
  · intro x hx
    have := List.all_eq_true.mp h x hx
    simpa using this

theorem stepOK_of_b {cfg : Cfg} {w0 w : World} {acts : List (Aid × Act)} (hF : SFrame w0 w)
    (h1 : stepMustNotRaise cfg w acts = true) : StepOK cfg w0 acts := by
  have hn : w.n = w0.n := hF.sameG.n
  -- the Boolean speaks of the current world `w`, `StepOK` of `w0`: the declared spaces depend on the static part only
  simp only [stepMustNotRaise, Bool.and_eq_true, List.all_eq_true] at h1
  obtain ⟨⟨⟨⟨hin, _⟩, hlearn⟩, hdt⟩, hcls⟩ := h1
  have hitem : ∀ x ∈ acts, ItemOK cfg w0 x := by
    intro x hx
    have hi := hin x hx
    simp only [actInSpace, Bool.and_eq_true, decide_eq_true_eq] at hi
    obtain ⟨⟨hlt, hmv⟩, hat⟩ := hi
    refine ⟨by rw [← hn]; exact hlt, hlearn x hx, by rw [← inSpace_move_sframe hF]; exact hmv, ?_⟩
    intro hw hatt
    have hat' : (!(w.cfgOf x.1).attacking || inSpace cfg.attack w x.1 x.2.attack) = true := by
      rcases hw with hw | hw <;> rw [hw] at hat <;> exact hat
    simp only [Bool.or_eq_true, Bool.not_eq_true'] at hat'
    rcases hat' with hat' | hat'
    · rw [hF.sameG.cfgOf, hatt] at hat'; cases hat'
    · rw [← inSpace_attack_sframe hF]; exact hat'
  refine ⟨hitem, ?_, ?_⟩
  · intro hw
    rw [hw] at hcls
    simp only [Bool.and_eq_true, decide_eq_true_eq] at hcls
    obtain ⟨⟨hl, hlr⟩, hlt⟩ := hcls
    obtain ⟨act, hact⟩ := Option.isSome_iff_exists.mp hl
    have hmem := mem_of_lookup acts cfg.navigator act hact
    have := hitem (cfg.navigator, act) hmem
    exact ⟨act, hact, this⟩
  · intro hw x hx
    unfold donesTotal at hdt
    rw [hw] at hdt
    simp only at hdt
    cases hd : cfg.dones with
    | none => rw [hd] at hdt; cases hdt
    | some ds =>
      rw [hd] at hdt
      simp only [List.all_eq_true] at hdt
      refine ⟨ds, hd, fun c hc => ?_⟩
      have := hdt c hc
      cases c with
      | active => trivial
      | oneTeam => trivial
      | targetEncoding m one => trivial
      | targetOverlap m => simp only [List.all_eq_true] at this; exact this x hx
      | targetInactive m => simp only [List.all_eq_true] at this; exact this x hx

/-- the hypotheses on the constructed world -/
structure WorldOK (w0 : World) : Prop where
  cfgok : CfgOK w0
  fresh : w0.vitalsAlive = true
  enc : ∀ b < w0.n, 0 < w0.encOf b
  ammo : ∀ b < w0.n, 0 ≤ (w0.cfgOf b).initAmmo

theorem judge1_model {cfg : Cfg} {w0 : World} (hW : WorldOK w0) (s : St) (op : EOp) (hop : OpOK cfg w0 op)
    (hL : Live cfg w0 s) : judge1 cfg w0 ⟨s.w, s.rewards⟩ op (runOp cfg s op).1 = true := by
  have hc := runOp_call cfg s op
  generalize (runOp cfg s op).1 = e at hc ⊢
  generalize (runOp cfg s op).2 = s' at hc
  rw [judge1.eq_def]
  cases hc with
  | resetErr => rfl
  | @reset order tape w' t' h =>
    have hX := comps_establish hW.cfgok hW.fresh hop hL.good.world h
    simp [hX.inv, frameb_of_sframe hX.frame]
  | @stepErr acts tape e h =>
    cases hr : s.rewards with
    | none => rfl
    | some r =>
      -- if the three conditions under which the judge forbids an exception held, `step` would have returned
      simp only [Bool.not_eq_true', Bool.eq_false_iff, ne_eq, Bool.and_eq_true]
      rintro ⟨⟨_, h2⟩, _⟩
      have hS := stepOK_of_b (good_inv hL.good hr).xinv.frame h2
      obtain ⟨s', hs'⟩ := step_ok { s with tape := tape } hL.good hr (hL.full r hr) acts hS
      rw [hs'] at h
      cases h
  | @step acts tape s1 h =>
    obtain ⟨r, r', hr, hr', hacc, hI, _⟩ := step_good (P := fun _ => True) (fun _ _ _ => trivial) hop
      (s := { s with tape := tape }) hL.good (fun _ _ => trivial) h
    simp only at hr
    simp [hI.xinv.inv, frameb_of_sframe hI.xinv.frame, hr, hr', hacc.keylist]
  | obsErr => rfl
  | @obs a tape r ks outs t' hr hks ha hout =>
    have hI := (good_inv hL.good hr).xinv
    have hos := outs_obsInSpace (.of_WInv hI.inv) ha (hL.inGrid r hr a ha)
      (sframe_encPos hI.frame hW.enc) (sframe_ammoNonneg hI.frame hW.ammo a ha) hout
    simp [hks, hos]
  | rewErr => rfl
  | rew hr hx => simp [hr, hx]
  | @done a =>
    simp only [getDone]
    cases hr : s.rewards with
    | none => simp [resOfBool]
    | some r => cases doneW cfg s.w a <;> simp [resOfBool]
  | allDone =>
    simp only [getAllDone]
    cases hr : s.rewards with
    | none => simp [resOfBool]
    | some r => cases allDoneW cfg s.w <;> simp [resOfBool]

theorem specFrom_model {cfg : Cfg} {w0 : World} (hW : WorldOK w0) :
    ∀ (ops : List EOp) (s : St), (∀ op ∈ ops, OpOK cfg w0 op) → Live cfg w0 s →
      specFrom cfg w0 ⟨s.w, s.rewards⟩ (zipOps ops (runOps cfg s ops).1) = true :=
  fun ops s hops hL =>
    hist_spec (f := runOp cfg) (stop := fun _ e => e.res.isErr) (run := runOps cfg) (spec := specFrom cfg w0)
      (zip := zipOps) (judge := judge1 cfg w0) (next := fun e => ⟨e.w, e.rewards⟩)
      (V := fun j s => j = ⟨s.w, s.rewards⟩) (P := Live cfg w0) (Q := OpOK cfg w0)
      -- the unfolding equations of `runOps`, `zipOps` and `specFrom`, in the order of the binders of `hist_spec`
      (fun _ _ _ => rfl) (fun _ => rfl) (fun _ _ _ _ => rfl) (fun ops => by cases ops <;> rfl)
      (fun j op e rest => by obtain ⟨res, w, r⟩ := e; cases res <;> rfl) (fun _ => rfl)
      (fun s op => runOp_live hW.cfgok hW.fresh s op)
      (fun j s op hop hL hj => by rw [hj]; exact judge1_model hW s op hop hL)
      (fun s op _ _ _ => by rw [(runOp_call cfg s op).entry_state.1, (runOp_call cfg s op).entry_state.2])
      ops s _ hops hL rfl

theorem exPre_hyps {cfg : Cfg} {w0 : World} {ops : List EOp} (h : exPre cfg w0 ops = true) :
    WorldOK w0 ∧ ∀ op ∈ ops, OpOK cfg w0 op := by
  unfold exPre at h
  simp only [Bool.and_eq_true, List.all_eq_true, allAgents, List.mem_range, decide_eq_true_eq] at h
  obtain ⟨⟨⟨⟨⟨h1, h2⟩, _⟩, h4⟩, _⟩, h6⟩ := h
  refine ⟨⟨(cfgOKb_iff w0).mp h1, h2, fun b hb => (h4 b hb).1, fun b hb => (h4 b hb).2⟩, ?_⟩
  intro op hop
  have := h6 op hop
  cases op with
  | reset order tape => exact resetOK_of_b this
  | step acts tape => exact actsOK_of_b this
  | obs a tape => trivial
  | rew a => trivial
  | done a => trivial
  | allDone => trivial

end Ex
end Abmarl
