import Abmarl.Lemmas.Observers
import Abmarl.Lemmas.GridInv
import Batteries.Data.List.Perm
/-!
# C09 lemmas: `ObsInv`, one cell of each view, the paste, the largest encoding

`absCell_ok` (for an entry inside the grid) and `cenCell_ok`: on **every tape** the cell function of the model returns
a value that satisfies the cell clause of the specification, provided the encodings of the occupants are positive;
`stkCell_ok` needs neither: the stacked view draws nothing and reports counts.  They speak of a mask entry `!hidden`
and of a local-grid entry `if inG then some occ else none`, which is what `at2_maskFor` and `at2_localGrid` make of
the window of a world.  `paste_spec` carries the per-entry fact of the convolved window to the `rows × cols` array
(true grid coordinates).
-/
namespace Abmarl
namespace Observers
open World

/-- all that the observers read of the consistency invariant: whoever is stored in a cell is an
agent of the simulation, no cell stores an id twice, ammunition is legal.  (`WInv` gives it, and so
does every weaker invariant in which an active agent may be stored in no cell.) -/
structure ObsInv (w : World) : Prop where
  lt : ∀ {q : Pos} {b : Aid}, b ∈ w.cell q → b < w.n
  nodup : ∀ q : Pos, (w.cell q).Nodup
  ammo : ∀ a < w.n, 0 ≤ (w.stOf a).ammo ∧
    ((w.cfgOf a).hasAmmo = true → (w.stOf a).ammo ≤ max 0 (w.cfgOf a).initAmmo)

/-- of the vitals clause `V` the observers read the two ammunition bounds only -/
theorem ObsInv.of_InvV {V : AgentCfg → AgentSt → Prop} {w : World} (hI : InvV V w)
    (hV : ∀ c x, V c x → 0 ≤ x.ammo ∧ (c.hasAmmo = true → x.ammo ≤ max 0 c.initAmmo)) : ObsInv w where
  lt hb := (hI.cinv.occ _ _ hb).1
  nodup _ := hI.cinv.nodup _
  ammo a ha := hV _ _ (hI.vit a ha)

theorem ObsInv.of_WInv {w : World} (hI : w.WInv = true) : ObsInv w :=
  .of_InvV ((WInv_iff_InvV w).mp hI) fun _ _ h => ⟨h.ammo0, h.ammo1⟩

theorem ObsInv.cell_length_le {w : World} (hI : ObsInv w) (q : Pos) : (w.cell q).length ≤ w.n := by
  have hsub : w.cell q ⊆ List.range w.n := fun x hx => List.mem_range.mpr (hI.lt hx)
  simpa using (List.subperm_of_subset (hI.nodup q) hsub).length_le

theorem cell_length_le {w : World} (hI : w.WInv = true) (q : Pos) : (w.cell q).length ≤ w.n :=
  (ObsInv.of_WInv hI).cell_length_le q

theorem marker_ne_of_pos {v : Int} (h : 0 < v) :
    (v == -2) = false ∧ (v == -1) = false ∧ (v == 0) = false := by
  simp only [beq_eq_false_iff_ne, ne_eq]
  omega

theorem absCell_ok (w : World) (a : Aid) (hidden inG : Bool) (occ : List Aid) (t : Tape)
    (henc : ∀ b ∈ occ, 0 < w.encOf b) :
    ∃ v t', absCell w a (!hidden) (if inG = true then some occ else none) t = .ok (v, t') ∧
      (inG = true → absCellOK w a hidden occ v = true) := by
  cases hidden with
  | true => exact ⟨-2, t, rfl, fun _ => rfl⟩
  | false =>
    cases inG with
    | false => exact ⟨0, t, rfl, nofun⟩
    | true =>
      by_cases hne : occ = []
      · subst hne
        exact ⟨0, t, rfl, fun _ => rfl⟩
      · have hemp : occ.isEmpty = false := by simpa using hne
        by_cases hmem : a ∈ occ
        · exact ⟨-1, t, by simp [absCell, hemp, hmem], by simp [absCellOK, hemp, hmem]⟩
        · obtain ⟨v, t', hp, b, hb, hv⟩ := pick_ok w occ t hne
          obtain ⟨h1, h2, h3⟩ := marker_ne_of_pos (hv ▸ henc b hb)
          refine ⟨v, t', by simp [absCell, hemp, hmem, hp], ?_⟩
          have hba : b ≠ a := fun e => hmem (e ▸ hb)
          have h4 : (occ.any fun b => b != a && w.encOf b == v) = true :=
            List.any_eq_true.mpr ⟨b, hb, by simp [hv, hba]⟩
          simp [absCellOK, h1, h2, h3, h4, hemp, hmem]

/-- the two `observe_self` branches of `cenCell` differ only in who is reportable -/
theorem cenCell_some (w : World) (a : Aid) (os : Bool) (occ : List Aid) (t : Tape) :
    cenCell w a os true (some occ) t =
      if (if os = true then occ else occ.filter fun b => b != a).isEmpty then .ok (0, t)
      else pick w (if os = true then occ else occ.filter fun b => b != a) t := by
  cases os
  · by_cases hne : occ = []
    · subst hne; rfl
    · simp [cenCell, hne]
  · simp [cenCell]

theorem cenCell_ok (w : World) (a : Aid) (os hidden inG : Bool) (occ : List Aid) (t : Tape)
    (henc : ∀ b ∈ occ, 0 < w.encOf b) :
    ∃ v t', cenCell w a os (!hidden) (if inG = true then some occ else none) t = .ok (v, t') ∧
      cenCellOK w hidden inG
        (if inG = true then (if os = true then occ else occ.filter fun b => b != a) else []) v = true := by
  cases hidden with
  | true => exact ⟨-2, t, rfl, rfl⟩
  | false =>
    cases inG with
    | false => exact ⟨-1, t, rfl, rfl⟩
    | true =>
      have hrep : ∀ b ∈ (if os = true then occ else occ.filter fun b => b != a), 0 < w.encOf b := by
        cases os
        · exact fun b hb => henc b (List.mem_filter.mp hb).1
        · exact henc
      simp only [if_true, Bool.not_false, cenCell_some]
      generalize (if os = true then occ else occ.filter fun b => b != a) = rep at hrep ⊢
      by_cases hne : rep = []
      · subst hne
        exact ⟨0, t, rfl, rfl⟩
      · obtain ⟨v, t', hp, b, hb, hv⟩ := pick_ok w rep t hne
        obtain ⟨h1, h2, h3⟩ := marker_ne_of_pos (hv ▸ hrep b hb)
        have h4 : (rep.any fun b => w.encOf b == v) = true := List.any_eq_true.mpr ⟨b, hb, by simp [hv]⟩
        have hemp : rep.isEmpty = false := by simpa using hne
        refine ⟨v, t', ?_, by simp [cenCellOK, h1, h2, h3, h4, hemp]⟩
        rw [hemp, if_neg Bool.false_ne_true, hp]

theorem stkCell_ok (w : World) (hidden inG : Bool) (occ : List Aid) (e : Nat) :
    stkCellOK w hidden inG (if inG = true then occ else []) e
      (stkCell w (!hidden) (if inG = true then some occ else none) e) = true := by
  cases hidden with
  | true => rfl
  | false =>
    cases inG with
    | false => rfl
    | true =>
      by_cases hne : occ = []
      · subst hne
        rfl
      · have hemp : occ.isEmpty = false := by simpa using hne
        have h1 : (((occ.countP fun b => w.encOf b == (e : Int) + 1 : Nat) : Int) == -2) = false := by
          simp
        have h2 : (((occ.countP fun b => w.encOf b == (e : Int) + 1 : Nat) : Int) == -1) = false := by
          simp
        simp [stkCell, stkCellOK, hemp, h1, h2]

variable (w : World) (a : Aid)

/-- one coordinate of the paste: grid index `g` lies in the clipped source slice exactly when it
is within `R` of the observer's coordinate `p` -/
theorem clip_iff (n R g : Nat) (p : Int) (hg : g < n) :
    (max 0 (p - (R : Int)) ≤ (g : Int) ∧ (g : Int) < min ((n : Int) - 1) (p + (R : Int)) + 1) ↔
      (-(R : Int) ≤ (g : Int) - p ∧ (g : Int) - p ≤ (R : Int)) := by
  omega

/-- the window index the paste reads for grid index `g` (`m` is the lower slice bound): a natural
number below `2R+1` whose offset from the centre is `g − p` -/
theorem paste_idx (R g : Nat) (m p : Int) (h : -(R : Int) ≤ (g : Int) - p ∧ (g : Int) - p ≤ (R : Int)) :
    (m + (R : Int) - p + ((g : Int) - m)).toNat < 2*R+1 ∧
    (((m + (R : Int) - p + ((g : Int) - m)).toNat : Nat) : Int) - (R : Int) = (g : Int) - p := by
  omega

/-- **paste embedding**: a grid cell `(gi, gj)` within `R` of the observer in both coordinates reads the window entry
`[gi − r + R, gj − c + R]`, whose grid coordinate is again `(gi, gj)`; the others keep the initial −2 -/
theorem paste_spec (R : Nat) (conv : List (List Int)) (hpos : w.inGrid (w.stOf a).pos = true)
    (hP : TabP (2*R+1) (2*R+1) (fun i j v => w.inGrid (winPos (w.stOf a).pos R i j) = true →
      absCellOK w a (hiddenFrom w a R ((i : Int) - (R : Int)) ((j : Int) - (R : Int)))
        (w.cell (winPos (w.stOf a).pos R i j)) v = true) conv) :
    TabP w.rows w.cols (fun gi gj v =>
      absCellOK w a
        (!(Mask.inWin R ((gi : Int) - (w.stOf a).pos.1) && Mask.inWin R ((gj : Int) - (w.stOf a).pos.2)) ||
          hiddenFrom w a R ((gi : Int) - (w.stOf a).pos.1) ((gj : Int) - (w.stOf a).pos.2))
        (w.cell ((gi : Int), (gj : Int))) v = true)
      (paste w.rows w.cols (w.stOf a).pos R conv) := by
  generalize (w.stOf a).pos = p at hP ⊢
  unfold paste
  apply TabP_tab
  intro gi hgi gj hgj
  -- the condition of the paste is "within the view window", rows and columns separately
  have hw : (Mask.inWin R ((gi : Int) - p.1) && Mask.inWin R ((gj : Int) - p.2)) = true ↔
      ((clip w.rows w.cols p R).rl ≤ (gi : Int) ∧ (gi : Int) < (clip w.rows w.cols p R).ru ∧
        (clip w.rows w.cols p R).cl ≤ (gj : Int) ∧ (gj : Int) < (clip w.rows w.cols p R).cu) :=
    Bool.and_eq_true_iff.trans ((and_congr (Mask.inWin_iff R _) (Mask.inWin_iff R _)).trans
      ((and_congr (clip_iff w.rows R gi p.1 hgi).symm (clip_iff w.cols R gj p.2 hgj).symm).trans and_assoc))
  by_cases hs : Mask.inWin R ((gi : Int) - p.1) = true ∧ Mask.inWin R ((gj : Int) - p.2) = true
  · rw [if_pos (hw.mp (Bool.and_eq_true_iff.mpr hs)), hs.1, hs.2]
    simp only [clip]
    obtain ⟨hi, ei⟩ := paste_idx R gi (max 0 (p.1 - (R : Int))) p.1 ((Mask.inWin_iff R _).mp hs.1)
    obtain ⟨hj, ej⟩ := paste_idx R gj (max 0 (p.2 - (R : Int))) p.2 ((Mask.inWin_iff R _).mp hs.2)
    have h := at2_of_TabP hP _ _ (-2) hi hj
    simp only [winPos, ei, ej] at h
    have hq : ∀ x y : Int, x + (y - x) = y := fun x y => by omega
    rw [hq, hq] at h
    exact h (inGrid_iff_nat.mpr ⟨_, _, hgi, hgj, rfl⟩)
  · rw [if_neg (fun h => hs (Bool.and_eq_true_iff.mp (hw.mpr h)))]
    have hout : (Mask.inWin R ((gi : Int) - p.1) && Mask.inWin R ((gj : Int) - p.2)) = false := by
      simpa using hs
    rw [hout]
    simp [absCellOK]

theorem encOf_le_maxEnc {b : Aid} (hb : b < w.n) : w.encOf b ≤ maxEnc w := by
  unfold World.n at hb
  have hmem : w.cfgOf b ∈ w.cfg := by
    unfold cfgOf
    rw [List.getD_eq_getElem?_getD, List.getElem?_eq_getElem hb, Option.getD_some]
    exact List.getElem_mem hb
  unfold encOf maxEnc
  generalize w.cfgOf b = c at hmem
  cases hcfg : w.cfg with
  | nil => rw [hcfg] at hmem; cases hmem
  | cons d ds =>
    rw [hcfg] at hmem
    have h := le_foldl_max (ds.map (·.enc)) d.enc
    rw [List.foldl_map] at h
    rcases List.mem_cons.mp hmem with rfl | hc
    · exact h.1
    · exact h.2 _ (List.mem_map_of_mem hc)

theorem foldl_topEnc (cs : List AgentCfg) (x : Int) :
    cs.foldl (fun (m : Option Int) c => match m with
      | none => some c.enc
      | some y => some (if y < c.enc then c.enc else y)) (some x) =
    some (cs.foldl (fun m c => max m c.enc) x) := by
  induction cs generalizing x with
  | nil => rfl
  | cons c cs ih =>
    simp only [List.foldl_cons]
    have : (if x < c.enc then c.enc else x) = max x c.enc := by
      by_cases h : x < c.enc
      · rw [if_pos h]; omega
      · rw [if_neg h]; omega
    rw [this]
    exact ih _

theorem topEnc_eq (hn : 0 < w.n) : topEnc w = some (maxEnc w) := by
  unfold topEnc maxEnc World.n at *
  cases hcfg : w.cfg with
  | nil => rw [hcfg] at hn; cases hn
  | cons c cs =>
    simp only [List.foldl_cons]
    exact foldl_topEnc cs c.enc

theorem maxEnc_pos {b : Aid} (hb : b < w.n) (henc : ∀ b < w.n, 0 < w.encOf b) : 0 < maxEnc w :=
  Int.lt_of_lt_of_le (henc b hb) (encOf_le_maxEnc w hb)

end Observers
end Abmarl
