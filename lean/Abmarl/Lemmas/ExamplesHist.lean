import Abmarl.Lemmas.ExamplesStep
import Abmarl.Lemmas.ExamplesLawful
import Abmarl.Spec.Examples
/-!
# The invariant of a packaged example along histories of resets, steps and getter calls

`Good`: the state of a live object (constructed, or its class's invariant `Inv` holds); the two calls that change the
world keep it when they are covered (`ResetOK`, `OpOK`; `comps_establish`, `step_good`).  What `reset` does is said of
worlds (`applyComps`), so that the classes with a state of their own (`MultiAgentGridSim`, `BroadcastSim`) use the same
statements.  `Call`: what one call does, as a relation between the state before, the call, the entry and the state
after (`runOp_call`; `ReachTheTargetSim`, which has its own `step`, lands in the same relation); `Call.keeps`: the
closure conditions under which every call keeps a property.

`Live`, the invariant that every covered call keeps (`runOp_live`), adds two clauses to `Good`.  `LedgerFull`: every
learning agent has a reward entry; an accrual keeps the key list of the reward dict, hence so does every `step`, which
changes the dict by accruals only.  `AllInGrid`: every agent keeps a stored position on the grid, dead or alive; it is
a clause of the vitals (`invV_inGrid_iff`), which the component calls of a `step` keep.

The `simIface_*_eq` lemmas read the calls of the `SimIface` instance as calls of a history.
-/
namespace Abmarl
open World
namespace Ex

/-- the reset orders the theorems cover: a placement state with well-formed options is among the
components, the oracle stream is the regular one (finding K4), and the two classes whose agents can
die have a `HealthState` -/
structure ResetOK (cfg : Cfg) (w0 : World) (order : List StateComp) : Prop where
  pos : ∃ kind o, StateComp.position kind o ∈ order
  noClosed : StateComp.healthClosed ∉ order
  wf : ∀ kind o, StateComp.position kind o ∈ order → wfPlacement kind o w0 = true
  health : cfg.which = .teamBattle ∨ cfg.which = .predatorPrey → StateComp.health ∈ order

theorem ammoC_of_WInv {w : World} (hI : w.WInv = true) : AmmoC w := by
  intro a ha hA
  have h := (wAgent_reading w a).mp (((WInv_parts_iff w).mp hI).2.2.1 a ha)
  exact ⟨h.2.2.2.2.1, h.2.2.2.2.2.1 hA⟩

theorem orientC_of_WInv {w : World} (hI : w.WInv = true) : OrientC w := by
  intro a ha hO
  have h := (wAgent_reading w a).mp (((WInv_parts_iff w).mp hI).2.2.1 a ha)
  exact h.2.2.2.2.2.2 hO

theorem ResetOK.compsOK {cfg : Cfg} {w0 w : World} {order : List StateComp} (hR : ResetOK cfg w0 order)
    (hcfg : CfgOK w0) (hF : SFrame w0 w) : CompsOK order w := by
  have hwf : ∀ kind o, StateComp.position kind o ∈ order → wfPlacement kind o w = true :=
    fun k o hm => by rw [wfPlacement_of_sframe hF]; exact hR.wf k o hm
  obtain ⟨k0, o0, hm0⟩ := hR.pos
  exact ⟨hwf, cfgOK_of_sframe hF hcfg, hR.noClosed, (wfp_of_wf (hwf k0 o0 hm0)).lenS⟩

/-- the vitals the reset does not own must be legal before it; health and orientation are owned by `HealthState` /
`OrientationState` when these are among the components (`hH`, `hO`) -/
theorem reset_establishes_of {cfg : Cfg} {w0 w w' : World} {order : List StateComp} {t t' : Tape}
    (hcfg : CfgOK w0) (hR : ResetOK cfg w0 order) (hF : SFrame w0 w)
    (hH : StateComp.health ∈ order ∨ HealthC w) (hA : AmmoC w) (hO : StateComp.orient ∈ order ∨ OrientC w)
    (hN : NoAmmoC w) (h : applyComps order w t = .ok (w', t')) : XInvA w0 w' := by
  have hok := hR.compsOK hcfg hF
  obtain ⟨k0, o0, hm0⟩ := hR.pos
  obtain ⟨hS, hN', hP', hH', hA', hO'⟩ := applyComps_spec order w t w' t' hok.wf hok.cfg hok.nc hok.len h
  exact ⟨⟨hF.trans hS, WInv_of_clauses (hP' (Or.inl hR.pos)) (hH' hH) (hA' (Or.inr hA)) (hO' hO) (hN' hN)
    (by rw [hS.sameG.wOverlapSym]; exact (wfp_of_wf (hok.wf k0 o0 hm0)).sym)⟩, hH' hH⟩

theorem reset_establishes {cfg : Cfg} {w0 w w' : World} {order : List StateComp} {t t' : Tape}
    (hcfg : CfgOK w0) (hR : ResetOK cfg w0 order) (hF : SFrame w0 w)
    (hH : StateComp.health ∈ order ∨ HealthC w) (hA : AmmoC w) (hO : OrientC w) (hN : NoAmmoC w)
    (h : applyComps order w t = .ok (w', t')) : XInvA w0 w' :=
  reset_establishes_of hcfg hR hF hH hA (Or.inr hO) hN h

theorem reset_establishes_fresh {cfg : Cfg} {w0 w' : World} {order : List StateComp} {t t' : Tape}
    (hcfg : CfgOK w0) (hfresh : w0.vitalsAlive = true) (hR : ResetOK cfg w0 order)
    (h : applyComps order w0 t = .ok (w', t')) : XInvA w0 w' := by
  obtain ⟨hH, hA, hO, hN⟩ := vitalsAlive_clauses hfresh
  exact reset_establishes hcfg hR (SFrame.refl w0) (Or.inr hH) hA hO hN h

theorem XInvA.inv' {cfg : Cfg} {w0 w : World} (h : XInvA w0 w) : Inv cfg w0 w := by
  unfold Inv
  cases cfg.which <;> first | exact h.toXInv | exact h

/-- the state of a live object: nothing happened yet (the constructed world, no reward dict), or the
invariant of the class holds -/
def Good (cfg : Cfg) (w0 : World) (s : St) : Prop :=
  match s.rewards with
  | none => s.w = w0
  | some _ => Inv cfg w0 s.w

theorem good_inv {cfg : Cfg} {w0 : World} {s : St} {r : Ledger} (hG : Good cfg w0 s) (hr : s.rewards = some r) :
    Inv cfg w0 s.w := by
  unfold Good at hG
  rw [hr] at hG
  exact hG

theorem good_of_inv {cfg : Cfg} {w0 : World} {s : St} (hs : s.rewards.isSome = true) (h : Inv cfg w0 s.w) :
    Good cfg w0 s := by
  obtain ⟨r, hr⟩ := Option.isSome_iff_exists.mp hs
  unfold Good
  rw [hr]
  exact h

theorem Good.world {cfg : Cfg} {w0 : World} {s : St} (hG : Good cfg w0 s) : Inv cfg w0 s.w ∨ s.w = w0 := by
  unfold Good at hG
  split at hG
  · exact Or.inr hG
  · exact Or.inl hG

theorem Good.frame {cfg : Cfg} {w0 : World} {s : St} (hG : Good cfg w0 s) : SFrame w0 s.w := by
  rcases hG.world with hI | hw
  · exact hI.xinv.frame
  · rw [hw]; exact SFrame.refl w0

/-- the calls the theorems cover: a `reset` with a covered order, a `step` with covered actions, any getter call -/
def OpOK (cfg : Cfg) (w0 : World) : EOp → Prop
  | .reset order _ => ResetOK cfg w0 order
  | .step acts _ => ActsOK cfg w0 acts
  | _ => True

theorem comps_establish {cfg : Cfg} {w0 : World} (hcfg : CfgOK w0) (hfresh : w0.vitalsAlive = true)
    {order : List StateComp} (hR : ResetOK cfg w0 order) {w w' : World} (hw : Inv cfg w0 w ∨ w = w0) {t t' : Tape}
    (ha : applyComps order w t = .ok (w', t')) : XInvA w0 w' := by
  rcases hw with hI | rfl
  · -- a class whose invariant lets agents be dead resets a `HealthState`
    have hH : StateComp.health ∈ order ∨ HealthC w := by
      unfold Inv at hI
      cases hc : cfg.which <;> rw [hc] at hI <;> simp only at hI
      · exact Or.inl (hR.health (Or.inl hc))
      · exact Or.inl (hR.health (Or.inr hc))
      · exact Or.inr hI.alive
      · exact Or.inr hI.alive
      · exact Or.inr hI.alive
    have hX := hI.xinv
    exact reset_establishes hcfg hR hX.frame hH (ammoC_of_WInv hX.inv) (orientC_of_WInv hX.inv)
      (noAmmoC_of_WInv hX.inv) ha
  · exact reset_establishes_fresh hcfg hfresh hR ha

theorem reset_ok {cfg : Cfg} {order : List StateComp} {s s' : St} (h : reset cfg order s = .ok s') :
    ∃ w' t', applyComps order s.w s.tape = .ok (w', t') ∧ s' = ⟨w', some (zeroRewards cfg w'.n), t'⟩ := by
  unfold reset at h
  split at h
  · cases h
  · split at h
    · cases h
    · rename_i w' t' ha
      cases h
      exact ⟨w', t', ha, rfl⟩

theorem step_shape {cfg : Cfg} {s s' : St} {acts : List (Aid × Act)} (h : step cfg s acts = .ok s') :
    ∃ r p, s.rewards = some r ∧ stepPS cfg ⟨s.w, r, s.tape⟩ acts = .ok p ∧ s' = ⟨p.w, some p.r, p.t⟩ := by
  unfold step at h
  split at h
  · cases h
  · rename_i r hr
    split at h
    · cases h
    · rename_i p hp
      simp only [Except.ok.injEq] at h
      exact ⟨r, p, hr, hp, h.symm⟩

theorem step_good {cfg : Cfg} {w0 : World} {acts : List (Aid × Act)} {P : World → Prop}
    (hK : ∀ {w w' : World}, XInv w0 w → P w →
      CompCall (cfg.which = .teamBattle ∨ cfg.which = .predatorPrey) w w' → P w')
    (hA : ActsOK cfg w0 acts) {s s' : St} (hG : Good cfg w0 s) (hP : ∀ r, s.rewards = some r → P s.w)
    (h : step cfg s acts = .ok s') :
    ∃ r r', s.rewards = some r ∧ s'.rewards = some r' ∧ Accrued r r' ∧ Inv cfg w0 s'.w ∧ P s'.w := by
  obtain ⟨r, p, hr, hp, rfl⟩ := step_shape h
  obtain ⟨_, h2, h3⟩ := stepPS_hist (p := ⟨s.w, r, s.tape⟩) hK (good_inv hG hr) (hP r hr) hA hp
  exact ⟨r, p.r, hr, rfl, h3, h2⟩

/-- what one call of a history does to the state `s` and enters in the trace, for a smart simulation whose `reset`,
`get_obs`, `get_reward` are those of `SmartGridWorldSimulation` and whose `step`, `get_done`, `get_all_done` are
`stp`, `dn`, `ad` (`Ex.runOp`: those of the five classes; `RT.runOp`: those of `ReachTheTargetSim`).  `resetErr`,
`obsErr`, `rewErr` ask for no evidence that the call raised: a deliberate over-approximation, harmless because a `Call`
is only ever obtained from `Ex.runOp_call` and `RT.runOp_call`. -/
inductive Call (cfg : Cfg) (stp : St → List (Aid × Act) → Except GErr St) (dn : St → Aid → Except GErr Bool)
    (ad : St → Except GErr Bool) (s : St) : EOp → EEntry → St → Prop
  | resetErr {order tape e} : Call cfg stp dn ad s (.reset order tape) ⟨.err e, s.w, s.rewards⟩ s
  | reset {order tape w' t'} : applyComps order s.w tape = .ok (w', t') →
      Call cfg stp dn ad s (.reset order tape) ⟨.unit, w', some (zeroRewards cfg w'.n)⟩
        ⟨w', some (zeroRewards cfg w'.n), t'⟩
  | stepErr {acts tape e} : stp { s with tape := tape } acts = .error e →
      Call cfg stp dn ad s (.step acts tape) ⟨.err e, s.w, s.rewards⟩ s
  | step {acts tape s'} : stp { s with tape := tape } acts = .ok s' →
      Call cfg stp dn ad s (.step acts tape) ⟨.unit, s'.w, s'.rewards⟩ s'
  | obsErr {a tape e} : Call cfg stp dn ad s (.obs a tape) ⟨.err e, s.w, s.rewards⟩ s
  | obs {a tape r ks outs t'} : s.rewards = some r → cfg.observers = some ks → a < s.w.n →
      obsOuts s.w a ks tape = .ok (outs, t') →
      Call cfg stp dn ad s (.obs a tape) ⟨.obs (mergeObs outs), s.w, s.rewards⟩ { s with tape := t' }
  | rewErr {a e} : Call cfg stp dn ad s (.rew a) ⟨.err e, s.w, s.rewards⟩ s
  | rew {a r x} : s.rewards = some r → r.lookup a = some x →
      Call cfg stp dn ad s (.rew a) ⟨.int x, s.w, some (dictSet r a 0)⟩ { s with rewards := some (dictSet r a 0) }
  | done {a} : Call cfg stp dn ad s (.done a) ⟨resOfBool (dn s a), s.w, s.rewards⟩ s
  | allDone : Call cfg stp dn ad s .allDone ⟨resOfBool (ad s), s.w, s.rewards⟩ s

section smart
variable (cfg : Cfg) (stp : St → List (Aid × Act) → Except GErr St) (dn : St → Aid → Except GErr Bool)
  (ad : St → Except GErr Bool) (s : St)

/-! the three calls that are the same for every class -/

theorem runOp_call_reset (order : List StateComp) (tape : Tape) :
    Call cfg stp dn ad s (.reset order tape) (runOp cfg s (.reset order tape)).1 (runOp cfg s (.reset order tape)).2 := by
  simp only [runOp]
  cases h : reset cfg order { s with tape := tape } with
  | error e => exact .resetErr
  | ok s' =>
    obtain ⟨w', t', ha, rfl⟩ := reset_ok h
    exact .reset ha

theorem runOp_call_obs (a : Aid) (tape : Tape) :
    Call cfg stp dn ad s (.obs a tape) (runOp cfg s (.obs a tape)).1 (runOp cfg s (.obs a tape)).2 := by
  simp only [runOp]
  cases h : getObs cfg { s with tape := tape } a with
  | error e => exact .obsErr
  | ok r =>
    obtain ⟨o, s'⟩ := r
    obtain ⟨r, ks, outs, t', hr, hks, ha, hout, rfl, rfl⟩ := getObs_ok h
    exact .obs hr hks ha hout

theorem runOp_call_rew (a : Aid) :
    Call cfg stp dn ad s (.rew a) (runOp cfg s (.rew a)).1 (runOp cfg s (.rew a)).2 := by
  simp only [runOp]
  cases h : getReward cfg s a with
  | error e => exact .rewErr
  | ok r =>
    obtain ⟨x, s'⟩ := r
    obtain ⟨r0, hr0, hv, rfl⟩ := getReward_shape h
    exact .rew hr0 (rewardVal_ok.mp hv)

end smart

theorem runOp_call (cfg : Cfg) (s : St) (op : EOp) :
    Call cfg (step cfg) (getDone cfg) (getAllDone cfg) s op (runOp cfg s op).1 (runOp cfg s op).2 := by
  cases op with
  | reset order tape => exact runOp_call_reset cfg _ _ _ s order tape
  | step acts tape =>
    simp only [runOp]
    cases h : step cfg { s with tape := tape } acts with
    | error e => exact .stepErr h
    | ok s' => exact .step h
  | obs a tape => exact runOp_call_obs cfg _ _ _ s a tape
  | rew a => exact runOp_call_rew cfg _ _ _ s a
  | done a => exact .done
  | allDone => exact .allDone

section call
variable {cfg : Cfg} {stp : St → List (Aid × Act) → Except GErr St} {dn : St → Aid → Except GErr Bool}
  {ad : St → Except GErr Bool} {s s' : St} {op : EOp} {e : EEntry}

theorem Call.entry_state (h : Call cfg stp dn ad s op e s') : e.w = s'.w ∧ e.rewards = s'.rewards := by
  cases h <;> exact ⟨rfl, rfl⟩

theorem Call.keeps {P : St → Prop} {Q : EOp → Prop} (h : Call cfg stp dn ad s op e s') (hop : Q op) (hP : P s)
    (htape : ∀ s t, P s → P { s with tape := t })
    (hreset : ∀ order tape s w' t', Q (.reset order tape) → P s → applyComps order s.w tape = .ok (w', t') →
      P ⟨w', some (zeroRewards cfg w'.n), t'⟩)
    (hstep : ∀ acts tape s s', Q (.step acts tape) → P s → stp s acts = .ok s' → P s')
    (hrew : ∀ s r a, P s → s.rewards = some r → P { s with rewards := some (dictSet r a 0) }) : P s' := by
  cases h with
  | reset h => exact hreset _ _ _ _ _ hop hP h
  | step h => exact hstep _ _ _ _ hop (htape _ _ hP) h
  | obs => exact htape _ _ hP
  | rew hr _ => exact hrew _ _ _ hP hr
  | _ => exact hP

end call

def LedgerFull (cfg : Cfg) (n : Nat) (r : Ledger) : Prop :=
  ∀ a < n, cfg.isLearning a = true → (r.lookup a).isSome = true

theorem zeroRewards_full (cfg : Cfg) (n : Nat) : LedgerFull cfg n (zeroRewards cfg n) := by
  intro a ha hl
  unfold zeroRewards
  have : ((List.range n).filter cfg.isLearning).map (fun a => (a, (0 : Int))) =
      ((List.range n).filter cfg.isLearning).map (fun a => (a, (fun _ => (0 : Int)) a)) := rfl
  rw [this, lookup_map_self]
  simp [ha, hl]

theorem ledgerFullb_zeroRewards (cfg : Cfg) (n : Nat) : ledgerFullb cfg n (zeroRewards cfg n) = true := by
  simp only [ledgerFullb, List.all_eq_true, List.mem_filter, List.mem_range]
  exact fun a h => zeroRewards_full cfg n a h.1 h.2

theorem ledgerFull_of_b {cfg : Cfg} {n : Nat} {r : Ledger} (h : ledgerFullb cfg n r = true) :
    LedgerFull cfg n r := by
  intro a ha hl
  simp only [ledgerFullb, List.all_eq_true, List.mem_filter, List.mem_range] at h
  exact h a ⟨ha, hl⟩

theorem LedgerFull.dictSet {cfg : Cfg} {n : Nat} {r : Ledger} (h : LedgerFull cfg n r) (a : Aid) (v : Int) :
    LedgerFull cfg n (dictSet r a v) := by
  intro b hb hl
  rw [lookup_dictSet]
  split
  · rfl
  · exact h b hb hl

theorem LedgerFull.of_keylist {cfg : Cfg} {n : Nat} {r r' : Ledger} (h : LedgerFull cfg n r)
    (hk : r.map (·.1) = r'.map (·.1)) : LedgerFull cfg n r' :=
  fun a ha hl => (lookup_isSome_iff_mem_keys r' a).mpr (hk ▸ (lookup_isSome_iff_mem_keys r a).mp (h a ha hl))

/-- an accrual writes an entry that is there: the key list stays -/
theorem accrue_keylist {r r' : Ledger} {a : Aid} {x : Int} (h : accrue r a x = .ok r') :
    r.map (·.1) = r'.map (·.1) := by
  unfold accrue at h
  split at h
  · cases h
  · rename_i v hv
    simp only [Except.ok.injEq] at h
    subst h
    exact (keys_dictSet_of_mem a _ r (List.mem_map.mpr ⟨_, mem_of_lookup r a v hv, rfl⟩)).symm

theorem Accrued.keylist {r r' : Ledger} (h : Accrued r r') : r.map (·.1) = r'.map (·.1) := by
  induction h with
  | refl => rfl
  | acc h _ ih => exact (accrue_keylist h).trans ih

theorem allInGrid_of_alive {w : World} (hI : w.WInv = true) (hH : HealthC w) : AllInGrid w :=
  fun a ha => (placed_of_WInv hI ha (hH a ha).2.2).inG

/-- with the constructed static part, "every stored position is a grid cell" is a clause of the vitals -/
theorem invV_inGrid_iff {act : Bool → Rat → Prop} {w0 w : World} (hF : SFrame w0 w) :
    InvV (Vitals act fun p => w0.inGrid p = true) w ↔ InvV (Vitals act fun _ => True) w ∧ AllInGrid w :=
  ⟨fun h => ⟨h.imp fun _ _ hv => hv.imp id trivial, fun a ha => by rw [hF.sameG.inGrid]; exact (h.vit a ha).inP⟩,
    fun h => h.1.imp fun a ha hv => hv.imp id (by rw [← hF.sameG.inGrid]; exact h.2 a ha)⟩

/-- by `CompCall.invV`: the dead stay where they were stored, a mover is put on a cell of the grid -/
theorem CompCall.allInGrid {atk : Prop} {w0 w w' : World} (hX : XInv w0 w) (hP : AllInGrid w)
    (h : CompCall atk w w') : AllInGrid w' :=
  have ⟨hI, hF⟩ := h.invV (fun _ => rfl) (fun p hp => by rw [← hX.frame.sameG.inGrid]; exact hp)
    ((invV_inGrid_iff hX.frame).mpr ⟨(WInv_iff_InvV w).mp hX.inv, hP⟩)
  ((invV_inGrid_iff (hX.frame.trans hF)).mp hI).2

/-- what holds of a packaged example in every state a history can reach: it is `Good`; once the reward dict exists
(after the first `reset`) it has an entry for every learning agent and every agent's stored position is a grid cell -/
structure Live (cfg : Cfg) (w0 : World) (s : St) : Prop where
  good : Good cfg w0 s
  full : ∀ r, s.rewards = some r → LedgerFull cfg w0.n r
  inGrid : ∀ r, s.rewards = some r → AllInGrid s.w

theorem live_init (cfg : Cfg) (w0 : World) (t : Tape) : Live cfg w0 { w := w0, tape := t } :=
  ⟨rfl, fun r hr => (by cases hr), fun r hr => (by cases hr)⟩

theorem runOp_live {cfg : Cfg} {w0 : World} (hcfg : CfgOK w0) (hfresh : w0.vitalsAlive = true) (s : St) (op : EOp)
    (hop : OpOK cfg w0 op) (hL : Live cfg w0 s) : Live cfg w0 (runOp cfg s op).2 := by
  refine (runOp_call cfg s op).keeps (Q := OpOK cfg w0) hop hL (fun _ _ h => ⟨h.good, h.full, h.inGrid⟩) ?_ ?_ ?_
  · intro order _ s w' t' hR hL ha
    have hX := comps_establish hcfg hfresh hR hL.good.world ha
    refine ⟨good_of_inv rfl hX.inv', fun r hr => ?_, fun _ _ => allInGrid_of_alive hX.inv hX.alive⟩
    cases hr
    rw [hX.frame.sameG.n]
    exact zeroRewards_full cfg w0.n
  · intro acts _ s s' hA hL h
    obtain ⟨r, r', hr, hr', hacc, hI, hP⟩ := step_good CompCall.allInGrid hA hL.good hL.inGrid h
    refine ⟨good_of_inv (by rw [hr']; rfl) hI, fun r'' h'' => ?_, fun _ _ => hP⟩
    rw [hr'] at h''; cases h''
    exact (hL.full r hr).of_keylist hacc.keylist
  · intro s r a hL hr
    refine ⟨good_of_inv (s := { s with rewards := some (dictSet r a 0) }) rfl (good_inv (s := s) hL.good hr),
      fun r' hr' => ?_, fun _ _ => hL.inGrid r hr⟩
    cases hr'
    exact (hL.full r hr).dictSet a 0

theorem runOps_live {cfg : Cfg} {w0 : World} (hcfg : CfgOK w0) (hfresh : w0.vitalsAlive = true)
    (ops : List EOp) (s : St) (hops : ∀ op ∈ ops, OpOK cfg w0 op) (hL : Live cfg w0 s) :
    Live cfg w0 (runOps cfg s ops).2 :=
  hist_inv (f := runOp cfg) (stop := fun _ e => e.res.isErr) (run := runOps cfg)
    (fun _ _ _ => rfl) (fun _ => rfl) (runOp_live hcfg hfresh) ops s hops hL

theorem simIface_reset_eq (cfg : Cfg) (n : Nat) (s : St) :
    (toSimIface cfg n).reset s = (Ex.runOp cfg s (.reset cfg.comps s.tape)).2 := by
  obtain ⟨w, r, t⟩ := s
  dsimp only [toSimIface, Ex.runOp]
  cases reset cfg cfg.comps ⟨w, r, t⟩ <;> rfl

theorem simIface_step_eq (cfg : Cfg) (n : Nat) (s : St) (acts : List (Aid × Act)) :
    (toSimIface cfg n).step s acts = (Ex.runOp cfg s (.step acts s.tape)).2 := by
  obtain ⟨w, r, t⟩ := s
  dsimp only [toSimIface, Ex.runOp]
  cases step cfg ⟨w, r, t⟩ acts <;> rfl

theorem simIface_obs_eq (cfg : Cfg) (n : Nat) (s : St) (a : Aid) :
    ((toSimIface cfg n).obs s a).2 = (Ex.runOp cfg s (.obs a s.tape)).2 := by
  obtain ⟨w, r, t⟩ := s
  dsimp only [toSimIface, Ex.runOp]
  cases getObs cfg ⟨w, r, t⟩ a <;> rfl

theorem simIface_reward_eq (cfg : Cfg) (n : Nat) (s : St) (a : Aid) :
    ((toSimIface cfg n).reward s a).2 = (Ex.runOp cfg s (.rew a)).2 := by
  simp only [toSimIface, Ex.runOp]
  cases getReward cfg s a <;> rfl

end Ex
end Abmarl
