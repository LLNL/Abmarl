import Abmarl.Lemmas.MultiGrid
import Abmarl.Lemmas.ExamplesNoRaise
import Abmarl.Lemmas.ExamplesObs
import Abmarl.Spec.Broadcast
import Abmarl.Lemmas.BroadcastDeliv
/-!
# `BroadcastSim`: the invariant of every reachable state; what `step` delivers; what `get_obs` returns

`BC.Good cfg w0 s` — the world satisfies `WInv`, has the constructed static part, everybody is alive (`Ex.XInvA`);
broadcasters have a message in `[-1, 1]` and nobody else has one; the receiving state has exactly the broadcasters as
keys and every pending entry comes from a broadcaster with a number in `[-1, 1]`; the reward dict has an entry for every
agent — is established by every `reset` that returns and kept by `step` (any action dict whose items are for agents of
the simulation with moves of the declared spaces) and the getters (`runOp_inv`).

Under the configuration hypothesis the first loop of `step` is `BC.recvAfter` (`foldE_bcast1_map`): the per-sender
`dictSet`s of `update_receipients` are turned into the per-receiver `filterMap` of the specification; with the other two
loops (`PSAll`) this gives `step` exactly (`step_spec`).  `get_obs` in a state of the invariant is characterised exactly,
given what the grid observer returns (`getObs_eq`, which asks nothing of encodings and ammunition, so `getObs_good` reads
the new state off it).
-/
namespace Abmarl
namespace BC
open World Ex

theorem inUnit_iff (m : Rat) : inUnit m = true ↔ (-1 ≤ m ∧ m ≤ 1) := by
  simp [inUnit]

theorem clamp_inUnit (v : Rat) : inUnit (clamp v) = true := by
  rw [inUnit_iff]
  unfold clamp
  exact ⟨le_min (le_max_right _ _) (by norm_num), min_le_right _ _⟩

/-- the judge asks of the world and of a placement state what the judge of the multi-agent grid class asks -/
theorem aliveb_of_healthC {w : World} (h : HealthC w) : aliveb w = true := MAG.aliveb_of_healthC h

theorem compOKb_eq : compOKb = MAG.compOKb := rfl

def MsgsOK (cfg : Cfg) (n : Nat) (msgs : List (Option Rat)) : Prop :=
  msgs.length = n ∧ ∀ a < n,
    (cfg.isB a = true → ∃ m, msgs.getD a none = some m ∧ inUnit m = true) ∧
    (cfg.isB a = false → msgs.getD a none = none)

theorem msgsOK_iff (cfg : Cfg) (n : Nat) (msgs : List (Option Rat)) : msgsOKb cfg n msgs = true ↔ MsgsOK cfg n msgs := by
  simp only [msgsOKb, MsgsOK, Bool.and_eq_true, beq_iff_eq, List.all_eq_true, List.mem_range]
  refine and_congr_right fun _ => forall₂_congr fun a _ => ?_
  cases msgs.getD a none <;> cases cfg.isB a <;> simp

def RecvOK (cfg : Cfg) (n : Nat) (rv : Recv) : Prop :=
  rv.map (·.1) = bcasters cfg n ∧ ∀ p ∈ rv, ∀ x ∈ p.2, cfg.isB x.1 = true ∧ x.1 < n ∧ inUnit x.2 = true

theorem recvOK_iff (cfg : Cfg) (n : Nat) (rv : Recv) : recvOKb cfg n rv = true ↔ RecvOK cfg n rv := by
  simp only [recvOKb, RecvOK, Bool.and_eq_true, beq_iff_eq, List.all_eq_true, decide_eq_true_eq]
  constructor
  · rintro ⟨h1, h2⟩; exact ⟨h1, fun p hp x hx => ⟨(h2 p hp x hx).1.1, (h2 p hp x hx).1.2, (h2 p hp x hx).2⟩⟩
  · rintro ⟨h1, h2⟩; exact ⟨h1, fun p hp x hx => ⟨⟨(h2 p hp x hx).1, (h2 p hp x hx).2.1⟩, (h2 p hp x hx).2.2⟩⟩

theorem mem_bcasters (cfg : Cfg) (n : Nat) (a : Aid) : a ∈ bcasters cfg n ↔ a < n ∧ cfg.isB a = true := by
  simp [bcasters]

/-- the state of a live object after a reset -/
structure Good (cfg : Cfg) (w0 : World) (s : St) : Prop where
  x : XInvA w0 s.w
  msgs : MsgsOK cfg s.w.n s.msgs
  recv : ∃ rv, s.recv = some rv ∧ RecvOK cfg s.w.n rv
  led : ∃ r, s.rewards = some r ∧ r.map (·.1) = List.range s.w.n

/-- the invariant of a history: `Good`, or the object as constructed (no reset has returned yet) -/
def Inv (cfg : Cfg) (w0 : World) (s : St) : Prop := Good cfg w0 s ∨ (s.w = w0 ∧ s.rewards = none)

theorem Inv.world {cfg : Cfg} {w0 : World} {s : St} (h : Inv cfg w0 s) : XInvA w0 s.w ∨ s.w = w0 :=
  h.imp (·.x) (·.1)

theorem good_tape {cfg : Cfg} {w0 : World} {s : St} (t : Tape) (h : Good cfg w0 s) : Good cfg w0 { s with tape := t } :=
  ⟨h.x, h.msgs, h.recv, h.led⟩

theorem inv_tape {cfg : Cfg} {w0 : World} {s : St} (t : Tape) (h : Inv cfg w0 s) : Inv cfg w0 { s with tape := t } :=
  h.imp (good_tape t) id

/-- one pass of the loop of `BroadcastingState.reset`, its three branches as one: a broadcaster's message is the
configured one, or else a number `u` (the draw), clamped -/
theorem drawMsgs_cons (cfg : Cfg) (a : Aid) (rest : List Aid) (t : Tape) : ∃ u t1, drawMsgs cfg (a :: rest) t =
    ((if cfg.isB a then some (clamp ((cfg.initOf a).getD u)) else none) :: (drawMsgs cfg rest t1).1,
      (drawMsgs cfg rest t1).2) := by
  rw [drawMsgs]
  split
  · split
    · exact ⟨0, t, by simp [*]⟩
    · exact ⟨(Oracle.uniformLH (-1) 1 t).1, (Oracle.uniformLH (-1) 1 t).2, by simp [*]⟩
  · exact ⟨0, t, by simp [*]⟩

theorem drawMsgs_get (cfg : Cfg) : ∀ (l : List Aid) (t : Tape), (drawMsgs cfg l t).1.length = l.length ∧
    ∀ (i : Nat) (hi : i < l.length), ∃ u, (drawMsgs cfg l t).1.getD i none =
      if cfg.isB l[i] then some (clamp ((cfg.initOf l[i]).getD u)) else none
  | [], _ => ⟨rfl, fun _ hi => by cases hi⟩
  | a :: rest, t => by
    obtain ⟨u, t1, h⟩ := drawMsgs_cons cfg a rest t
    obtain ⟨hl, hg⟩ := drawMsgs_get cfg rest t1
    rw [h]
    refine ⟨by simp [hl], fun i hi => ?_⟩
    cases i with
    | zero => exact ⟨u, rfl⟩
    | succ j => exact hg j (by simpa using hi)

theorem drawMsgs_ok (cfg : Cfg) (n : Nat) (t : Tape) : MsgsOK cfg n (drawMsgs cfg (List.range n) t).1 := by
  obtain ⟨hl, hg⟩ := drawMsgs_get cfg (List.range n) t
  refine ⟨hl.trans List.length_range, fun a ha => ?_⟩
  obtain ⟨u, h⟩ := hg a (by rw [List.length_range]; exact ha)
  rw [h, List.getElem_range]
  cases cfg.isB a <;> simp [clamp_inUnit]

/-- a broadcaster with a configured initial message starts with it, clamped (the judge's clause for `reset`) -/
theorem drawMsgs_init (cfg : Cfg) (n : Nat) (t : Tape) :
    ((List.range n).all fun a =>
      match cfg.initOf a with
      | some v => !cfg.isB a || ((drawMsgs cfg (List.range n) t).1.getD a none == some (clamp v))
      | none => true) = true := by
  simp only [List.all_eq_true, List.mem_range]
  intro a ha
  obtain ⟨u, h⟩ := (drawMsgs_get cfg (List.range n) t).2 a (by rw [List.length_range]; exact ha)
  rw [h, List.getElem_range]
  cases cfg.initOf a <;> cases cfg.isB a <;> simp

theorem emptyRecv_ok (cfg : Cfg) (n : Nat) : RecvOK cfg n (emptyRecv cfg n) := by
  refine ⟨by simp [emptyRecv, bcasters, List.map_map, Function.comp_def], ?_⟩
  intro p hp x hx
  obtain ⟨a, _, rfl⟩ := List.mem_map.mp hp
  cases hx

theorem zeroAll_keys (n : Nat) : (zeroAll n).map (·.1) = List.range n := by
  simp [zeroAll, List.map_map, Function.comp_def]

theorem xinvA_frame_of_inv {cfg : Cfg} {w0 : World} {s : St} (h : Inv cfg w0 s) : SFrame w0 s.w := by
  rcases h with h | h
  · exact h.x.frame
  · rw [h.1]; exact SFrame.refl w0

theorem reset_spec {cfg : Cfg} {w0 : World} (hcfg : CfgOK w0) (hfresh : w0.vitalsAlive = true) {c : StateComp}
    (hc : MAG.CompOK w0 c) {s s' : St} (hI : Inv cfg w0 s) (h : reset cfg c s = .ok s') :
    ∃ w' t', XInvA w0 w' ∧ s' = ⟨w', (drawMsgs cfg (List.range w'.n) t').1, some (emptyRecv cfg w'.n),
      some (zeroAll w'.n), (drawMsgs cfg (List.range w'.n) t').2⟩ := by
  unfold reset at h
  cases ha : applyComps [c] s.w s.tape with
  | error e => rw [ha] at h; cases h
  | ok r =>
    rw [ha] at h
    cases h
    exact ⟨r.1, r.2, hc.establishes hcfg hfresh hI.world ha, rfl⟩

theorem reset_good {cfg : Cfg} {w0 : World} (hcfg : CfgOK w0) (hfresh : w0.vitalsAlive = true) {c : StateComp}
    (hc : MAG.CompOK w0 c) {s s' : St} (hI : Inv cfg w0 s) (h : reset cfg c s = .ok s') : Good cfg w0 s' := by
  obtain ⟨w', t', hX, rfl⟩ := reset_spec hcfg hfresh hc hI h
  exact ⟨hX, drawMsgs_ok cfg _ _, ⟨_, rfl, emptyRecv_ok cfg _⟩, ⟨_, rfl, zeroAll_keys _⟩⟩

/-- the state of the second and third loop: the invariant of the world, a reward entry for everybody -/
def PSAll (w0 : World) : PS → Prop := PSIn (XInvA w0) fun r => r.map (·.1) = List.range w0.n

theorem accrue_all {r : Ledger} {n : Nat} (hk : r.map (·.1) = List.range n) {a : Aid} (ha : a < n) (v : Int) :
    ∃ r', accrue r a v = .ok r' ∧ r'.map (·.1) = List.range n := by
  obtain ⟨x, hx⟩ := lookup_of_mem_keys r a (by rw [hk]; exact List.mem_range.mpr ha)
  have h : accrue r a v = .ok (dictSet r a (x + v)) := by simp only [accrue, hx]
  exact ⟨_, h, (accrue_keylist h).symm.trans hk⟩

/-- the second loop over the abstract loop state of the packaged examples: nobody is dead, so the move is made; the
penalty finds its entry -/
theorem loop_all (w0 : World) : Loop (XInvA w0) (fun r => r.map (·.1) = List.range w0.n) (· < w0.n) where
  lt := fun hX ha => by rw [hX.frame.sameG.n]; exact ha
  move := fun d hX ha hact => hX.move ha hact d
  acc := fun x hk ha => accrue_all hk ha x

theorem move1_all {w0 : World} (p : PS) (x : Aid × Act) (hP : PSAll w0 p) (hx : x.1 < w0.n) :
    ∃ p', move1 p x = .ok p' ∧ PSAll w0 p' := by
  have hlt : x.1 < p.w.n := (loop_all w0).lt hP.w hx
  obtain ⟨p', h, hP'⟩ := (loop_all w0).moveAcc hP hx (hP.w.alive x.1 hlt).2.2 x.2.move
  exact ⟨p', by simp only [move1, Nat.not_le.mpr hlt, if_false, h], hP'⟩

theorem entropy1_all {w0 : World} (p : PS) (x : Aid × Act) (hP : PSAll w0 p) (hx : x.1 < w0.n) :
    ∃ p', entropy1 p x = .ok p' ∧ PSAll w0 p' := by
  obtain ⟨r', hr', hk'⟩ := accrue_all hP.r hx (-1)
  exact ⟨⟨p.w, r', p.t⟩, by simp only [entropy1, hr', Except.map], hP.w, hk'⟩

theorem recvOK_dictSet {cfg : Cfg} {n : Nat} {r : Recv} {b : Aid} {l l' : List (Aid × Rat)} (hR : RecvOK cfg n r)
    (hl : r.lookup b = some l) (hl' : ∀ x ∈ l', cfg.isB x.1 = true ∧ x.1 < n ∧ inUnit x.2 = true) :
    RecvOK cfg n (dictSet r b l') := by
  refine ⟨(keys_dictSet_of_mem b _ r (List.mem_map.mpr ⟨_, mem_of_lookup r b _ hl, rfl⟩)).trans hR.1, fun p hp y hy => ?_⟩
  rcases mem_dictSet hp with hp | hp
  · exact hR.2 p hp y hy
  · subst hp; exact hl' y hy

-- the equation comes before the facts about `x`: it is what tells the elaborator which `x` is meant
theorem appendRecv_ok {cfg : Cfg} {n : Nat} {r r' : Recv} {b : Aid} {x : Aid × Rat} (hR : RecvOK cfg n r)
    (h : appendRecv r b x = .ok r') (hx : cfg.isB x.1 = true ∧ x.1 < n ∧ inUnit x.2 = true) : RecvOK cfg n r' := by
  unfold appendRecv at h
  cases hl : r.lookup b with
  | none => rw [hl] at h; cases h
  | some l =>
    rw [hl] at h
    cases h
    refine recvOK_dictSet hR hl fun y hy => ?_
    rcases List.mem_append.mp hy with hy | hy
    · exact hR.2 (b, l) (mem_of_lookup r b l hl) y hy
    · rw [List.mem_singleton.mp hy]; exact hx

theorem recip1_ok {cfg : Cfg} {n : Nat} {msgs : List (Option Rat)} (hM : MsgsOK cfg n msgs) {sender : Aid}
    (hs : sender < n) (hb : cfg.isB sender = true) {r r' : Recv} {b : Aid} (hR : RecvOK cfg n r)
    (h : recip1 msgs sender r b = .ok r') : RecvOK cfg n r' := by
  obtain ⟨m, hm, hu⟩ := (hM.2 sender hs).1 hb
  unfold recip1 at h
  split at h
  · cases h
  · rw [hm] at h
    exact appendRecv_ok hR h ⟨hb, hs, hu⟩

theorem updateRecipients_ok {cfg : Cfg} {n : Nat} {msgs : List (Option Rat)} (hM : MsgsOK cfg n msgs) {sender : Aid}
    (hs : sender < n) (hb : cfg.isB sender = true) : ∀ (tos : List Aid) (r r' : Recv), RecvOK cfg n r →
    updateRecipients msgs r sender tos = .ok r' → RecvOK cfg n r' :=
  foldE_pres _ _ fun _ _ _ hR h => recip1_ok hM hs hb hR h

theorem bcast1_ok {cfg : Cfg} {w : World} {msgs : List (Option Rat)} (hM : MsgsOK cfg w.n msgs) {r r' : Recv}
    {x : Aid × Act} (hR : RecvOK cfg w.n r) (h : bcast1 cfg w msgs r x = .ok r') : RecvOK cfg w.n r' := by
  unfold bcast1 at h
  split at h
  · cases h
  · rename_i hn
    split at h
    · rename_i hb
      split at h
      · split at h
        · cases h
        · exact updateRecipients_ok hM (Nat.lt_of_not_le hn) hb _ r r' hR h
      · cases h; exact hR
    · cases h; exact hR

/-- the items of a step are for agents of the simulation, with moves of the declared spaces -/
def ActsOK (w0 : World) (acts : List (Aid × Act)) : Prop :=
  ∀ x ∈ acts, x.1 < w0.n ∧ (MoveCall.move x.1 x.2.move).inSpace w0 = true

/-- a `step` that returns keeps the invariant: the second and third loop return whatever the first does -/
theorem step_good {cfg : Cfg} {w0 : World} {s s' : St} {acts : List (Aid × Act)}
    (hA : ActsOK w0 acts) (hG : Good cfg w0 s) (h : step cfg s acts = .ok s') : Good cfg w0 s' := by
  obtain ⟨r, hr, hk⟩ := hG.led
  obtain ⟨rv, hrv, hR⟩ := hG.recv
  have hn : s.w.n = w0.n := hG.x.frame.sameG.n
  obtain ⟨p2, h2, hP2⟩ := foldE_ok move1 (PSAll w0) _ move1_all acts ⟨s.w, r, s.tape⟩ ⟨hG.x, hn ▸ hk⟩
    fun x hx => (hA x hx).1
  obtain ⟨p3, h3, hX3, hk3⟩ := foldE_ok entropy1 (PSAll w0) _ entropy1_all acts p2 hP2 fun x hx => (hA x hx).1
  have hn3 : p3.w.n = s.w.n := by rw [hX3.frame.sameG.n, hn]
  simp only [step, hr, hrv, h2, h3] at h
  cases h1 : foldE (bcast1 cfg s.w s.msgs) rv acts with
  | error e => rw [h1] at h; cases h
  | ok rv' =>
    rw [h1] at h
    cases h
    exact ⟨hX3, hn3 ▸ hG.msgs, ⟨rv', rfl, hn3 ▸ foldE_pres _ _ (fun _ _ _ hR h => bcast1_ok hG.msgs hR h) acts rv rv' hR h1⟩,
      ⟨p3.r, rfl, by rw [hk3, hX3.frame.sameG.n]⟩⟩

theorem average_inUnit : ∀ (l : List Rat), l ≠ [] → (∀ m ∈ l, inUnit m = true) → True := fun _ _ _ => trivial

theorem msgsOK_set {cfg : Cfg} {n : Nat} {msgs : List (Option Rat)} (hM : MsgsOK cfg n msgs) {a : Aid}
    (hb : cfg.isB a = true) (v : Rat) : MsgsOK cfg n (msgs.set a (some (clamp v))) := by
  refine ⟨by rw [List.length_set]; exact hM.1, fun b hb' => ?_⟩
  by_cases hba : b = a
  · subst hba
    have hlt : b < msgs.length := by rw [hM.1]; exact hb'
    simp only [List.getD_eq_getElem?_getD, List.getElem?_set_self hlt, Option.getD_some]
    exact ⟨fun _ => ⟨_, rfl, clamp_inUnit _⟩, fun hf => by rw [hb] at hf; cases hf⟩
  · have := hM.2 b hb'
    simp only [List.getD_eq_getElem?_getD, List.getElem?_set_ne (Ne.symm hba)] at this ⊢
    exact this

/-- `get_obs` in a state of the invariant, exactly, given what the grid observer returns -/
theorem getObs_eq {cfg : Cfg} {w0 : World} {s : St} {a : Aid} (hG : Good cfg w0 s) (ha : a < s.w.n)
    {g : Observers.Obs} {t' : Tape} (hget : Observers.getObsCentered s.w a cfg.observeSelf s.tape = .ok (g, t')) :
    (cfg.isB a = false →
      getObs cfg s a = .ok (⟨itemsOf (.centered cfg.observeSelf) g, none⟩, { s with tape := t' })) ∧
    (cfg.isB a = true → ∃ rv rf own, s.recv = some rv ∧ rv.lookup a = some rf ∧ s.msgs.getD a none = some own ∧
      (∀ x ∈ rf, inUnit x.2 = true) ∧
      getObs cfg s a = .ok
        (⟨itemsOf (.centered cfg.observeSelf) g,
          some ((bcasters cfg s.w.n).map fun o =>
            (o, slotOf a (clamp (average (rf.map (·.2) ++ [own]))) rf o))⟩,
         { s with msgs := s.msgs.set a (some (clamp (average (rf.map (·.2) ++ [own])))),
                  recv := some (dictSet rv a []), tape := t' })) := by
  obtain ⟨r, hr, _⟩ := hG.led
  obtain ⟨rv, hrv, hR⟩ := hG.recv
  refine ⟨fun hb => by simp [getObs, hr, Nat.not_le.mpr ha, hget, hb], fun hb => ?_⟩
  obtain ⟨rf, hrf⟩ := lookup_of_mem_keys rv a (hR.1 ▸ (mem_bcasters cfg _ a).mpr ⟨ha, hb⟩)
  obtain ⟨own, hown, _⟩ := (hG.msgs.2 a ha).1 hb
  have hall := hR.2 (a, rf) (mem_of_lookup rv a rf hrf)
  refine ⟨rv, rf, own, hrv, hrf, hown, fun x hx => (hall x hx).2.2, ?_⟩
  have hallb : (rf.all fun p => cfg.isB p.1) = true := List.all_eq_true.mpr fun x hx => (hall x hx).1
  have hown' : s.msgs[a]?.getD none = some own := by simpa [List.getD_eq_getElem?_getD] using hown
  simp [getObs, hr, Nat.not_le.mpr ha, hget, hb, hrv, hrf, St.msgOf, hown', hallb, bcasters]

/-- the call returned, so the grid observer did, and `getObs_eq` says what the new state is; the new message goes
through the clamping setter -/
theorem getObs_good {cfg : Cfg} {w0 : World} {s s' : St} {a : Aid} {o : ObsRes} (hG : Good cfg w0 s)
    (h : getObs cfg s a = .ok (o, s')) : Good cfg w0 s' := by
  obtain ⟨r, hr, _⟩ := hG.led
  by_cases ha : a < s.w.n
  swap
  · simp [getObs, hr, Nat.le_of_not_lt ha] at h
  cases hget : Observers.getObsCentered s.w a cfg.observeSelf s.tape with
  | error e => simp [getObs, hr, Nat.not_le.mpr ha, hget] at h
  | ok gt =>
    obtain ⟨hno, hyes⟩ := getObs_eq hG ha hget
    cases hb : cfg.isB a with
    | false => rw [hno hb] at h; cases h; exact good_tape _ hG
    | true =>
      obtain ⟨rv, rf, own, hrv, hrf, _, _, hget⟩ := hyes hb
      obtain ⟨rv', hrv', hR⟩ := hG.recv
      cases hrv.symm.trans hrv'
      rw [hget] at h
      cases h
      exact ⟨hG.x, msgsOK_set hG.msgs hb _, ⟨_, rfl, recvOK_dictSet hR hrf fun _ hy => by cases hy⟩, hG.led⟩

theorem getReward_good {cfg : Cfg} {w0 : World} {s s' : St} {a : Aid} {x : Int} (hG : Good cfg w0 s)
    (h : getReward s a = .ok (x, s')) : Good cfg w0 s' := by
  obtain ⟨r, hr, hk⟩ := hG.led
  unfold getReward at h
  rw [hr] at h
  simp only at h
  cases hv : rewardVal r a with
  | error e => rw [hv] at h; cases h
  | ok v =>
    rw [hv] at h
    simp only [Except.ok.injEq, Prod.mk.injEq] at h
    obtain ⟨_, hs'⟩ := h
    subst hs'
    exact ⟨hG.x, hG.msgs, hG.recv, ⟨_, rfl,
      (keys_dictSet_of_mem a 0 r (List.mem_map.mpr ⟨_, mem_of_lookup r a _ (rewardVal_ok.mp hv), rfl⟩)).trans hk⟩⟩

/-- the calls the theorems cover: a reset with a covered placement state, a step whose items are for agents of the
simulation with moves of the declared spaces (ANY `broadcast` values), any getter call -/
def OpOK (w0 : World) : BOp → Prop
  | .reset c _ => MAG.CompOK w0 c
  | .step acts _ => ActsOK w0 acts
  | _ => True

/-- on the object as constructed (no reward dict yet) `step`, `get_obs` and `get_reward` raise -/
theorem step_unreset {cfg : Cfg} {s : St} (h : s.rewards = none) (acts : List (Aid × Act)) :
    step cfg s acts = .error .other := by
  simp [step, h]

theorem getObs_unreset {cfg : Cfg} {s : St} (h : s.rewards = none) (a : Aid) : getObs cfg s a = .error .other := by
  simp [getObs, h]

theorem getReward_unreset {s : St} (h : s.rewards = none) (a : Aid) : getReward s a = .error .other := by
  simp [getReward, h]

theorem runOp_inv {cfg : Cfg} {w0 : World} (hcfg : CfgOK w0) (hfresh : w0.vitalsAlive = true) (s : St) (op : BOp)
    (hop : OpOK w0 op) (hI : Inv cfg w0 s) : Inv cfg w0 (runOp cfg s op).2 := by
  cases op with
  | reset c tape =>
    simp only [runOp]
    cases h : reset cfg c { s with tape := tape } with
    | error e => exact hI
    | ok s' => exact Or.inl (reset_good hcfg hfresh hop (inv_tape tape hI) h)
  | step acts tape =>
    simp only [runOp]
    cases h : step cfg { s with tape := tape } acts with
    | error e => exact hI
    | ok s' =>
      rcases inv_tape tape hI with hG | hG
      · exact Or.inl (step_good hop hG h)
      · rw [step_unreset hG.2] at h
        cases h
  | obs a tape =>
    simp only [runOp]
    cases h : getObs cfg { s with tape := tape } a with
    | error e => exact hI
    | ok r =>
      obtain ⟨o, s'⟩ := r
      rcases inv_tape tape hI with hG | hG
      · exact Or.inl (getObs_good hG h)
      · rw [getObs_unreset hG.2] at h
        cases h
  | rew a =>
    simp only [runOp]
    cases h : getReward s a with
    | error e => exact hI
    | ok r =>
      obtain ⟨x, s'⟩ := r
      rcases hI with hG | hG
      · exact Or.inl (getReward_good hG h)
      · rw [getReward_unreset hG.2] at h
        cases h
  | done a => exact hI
  | allDone =>
    simp only [runOp]
    split <;> exact hI

theorem runOps_inv {cfg : Cfg} {w0 : World} (hcfg : CfgOK w0) (hfresh : w0.vitalsAlive = true) (ops : List BOp) :
    ∀ (s : St), (∀ op ∈ ops, OpOK w0 op) → Inv cfg w0 s → Inv cfg w0 (runOps cfg s ops).2 :=
  hist_inv (f := runOp cfg) (stop := fun _ e => e.res.isErr) (run := runOps cfg) (fun _ _ _ => rfl) (fun _ => rfl)
    (runOp_inv hcfg hfresh) ops

theorem cfgHyp_reading {cfg : Cfg} {w : World} (h : cfgHypb cfg w = true) {a : Aid} (ha : a < w.n)
    (hb : cfg.isB a = true) :
    ∃ l, cfg.mapping.lookup (w.encOf a) = some l ∧ ∀ o < w.n, w.encOf o ∈ l → cfg.isB o = true := by
  simp only [cfgHypb, List.all_eq_true, List.mem_range, Bool.or_eq_true, Bool.not_eq_true'] at h
  have := h a ha
  rcases this with h1 | h1
  · rw [hb] at h1; cases h1
  · cases hl : cfg.mapping.lookup (w.encOf a) with
    | none => rw [hl] at h1; cases h1
    | some l =>
      rw [hl] at h1
      simp only [List.all_eq_true, List.mem_range, Bool.or_eq_true, Bool.not_eq_true', decide_eq_false_iff_not] at h1
      refine ⟨l, rfl, fun o ho hm => ?_⟩
      rcases h1 o ho with h2 | h2
      · exact absurd hm h2
      · exact h2

theorem actsOK_of_inSpace {cfg : Cfg} {w0 w : World} {acts : List (Aid × Act)} (hF : SFrame w0 w)
    (hA : ∀ x ∈ acts, actInSpace cfg w x = true) : ActsOK w0 acts := by
  intro x hx
  have h := hA x hx
  simp only [actInSpace, Bool.and_eq_true, decide_eq_true_eq] at h
  exact ⟨hF.sameG.n ▸ h.1.1, by rw [← inSpace_move_sframe hF]; exact h.1.2⟩

/-- appending to the list of key `b`, when keys are distinct, is a `map` -/
theorem dictSet_append_map (x : Aid × Rat) (b : Aid) : ∀ (r : Recv) (l : List (Aid × Rat)),
    (r.map (·.1)).Nodup → r.lookup b = some l →
    dictSet r b (l ++ [x]) = r.map fun p => (p.1, p.2 ++ if p.1 = b then [x] else []) := by
  intro r
  induction r with
  | nil => intro l _ h; cases h
  | cons p rest ih =>
    intro l hnd hl
    obtain ⟨k, v⟩ := p
    simp only [List.map_cons, List.nodup_cons] at hnd
    by_cases hk : k = b
    · subst hk
      simp only [List.lookup, beq_self_eq_true, Option.some.injEq] at hl
      subst hl
      simp only [dictSet, if_true, List.map_cons, List.cons.injEq, true_and]
      symm
      conv_rhs => rw [← List.map_id rest]
      apply List.map_congr_left
      intro q hq
      have : q.1 ≠ k := fun h => hnd.1 (h ▸ List.mem_map_of_mem hq)
      simp [this]
    · have hbk : (b == k) = false := by simpa using (Ne.symm hk)
      simp only [List.lookup, hbk] at hl
      simp only [dictSet, hk, if_false, List.map_cons, List.append_nil, List.cons.injEq, true_and]
      exact ih l hnd.2 hl

theorem updateRecipients_map {msgs : List (Option Rat)} {sender : Aid} {m : Rat}
    (hm : msgs.getD sender none = some m) (tos : List Aid) (r : Recv) (hnd : (r.map (·.1)).Nodup)
    (hk : ∀ b ∈ tos, b ∈ r.map (·.1)) :
    updateRecipients msgs r sender tos =
      .ok (r.map fun p => (p.1, p.2 ++ tos.flatMap fun b => if p.1 = b then [(sender, m)] else [])) :=
  foldE_map_append _ (fun b k => if k = b then [(sender, m)] else []) (r.map (·.1)) (· ∈ r.map (·.1))
    (fun r' b hK hb => by
      obtain ⟨l, hl⟩ := lookup_of_mem_keys r' b (hK ▸ hb)
      rw [← dictSet_append_map _ _ r' l (hK ▸ hnd) hl]
      simp only [recip1, hl, hm, appendRecv])
    tos r rfl hk

/-- a list without repetitions names a key once or not at all -/
theorem flatMap_ite_nodup {υ : Type} {tos : List Aid} (hnd : tos.Nodup) (k : Aid) (x : υ) :
    (tos.flatMap fun b => if k = b then [x] else []) = if k ∈ tos then [x] else [] := by
  induction tos with
  | nil => rfl
  | cons b rest ih =>
    rw [List.nodup_cons] at hnd
    rw [List.flatMap_cons, ih hnd.2]
    by_cases hkb : k = b
    · subst hkb
      simp [hnd.1]
    · simp [hkb]

theorem bcasters_nodup (cfg : Cfg) (n : Nat) : (bcasters cfg n).Nodup :=
  List.Nodup.filter _ List.nodup_range

theorem delivered_single {cfg : Cfg} {w : World} {msgs : List (Option Rat)} {x : Aid × Act} {m : Rat}
    (hb : cfg.isB x.1 = true) (hbc : x.2.broadcast ≠ 0) (hm : msgs.getD x.1 none = some m) (b : Aid) :
    delivered cfg w msgs [x] b = if reaches cfg w x.1 b = true then [(x.1, m)] else [] := by
  have hbc' : (x.2.broadcast != 0) = true := by simpa using hbc
  unfold delivered
  simp only [List.filterMap_cons, hb, hbc', Bool.true_and, hm, Option.map_some, List.filterMap_nil]
  cases reaches cfg w x.1 b <;> rfl

theorem delivered_single_nil {cfg : Cfg} {w : World} {msgs : List (Option Rat)} {x : Aid × Act}
    (h : ¬ (cfg.isB x.1 = true ∧ x.2.broadcast ≠ 0)) (b : Aid) : delivered cfg w msgs [x] b = [] := by
  have : (cfg.isB x.1 && (x.2.broadcast != 0)) = false := by simpa using h
  simp only [delivered, List.filterMap_cons, this, Bool.false_and, Bool.false_eq_true, if_false, List.filterMap_nil]

/-- one pass of the first loop.  The scan has no repetitions (`determine_nodup`), so `update_receipients` appends to the
list of `p.1` once or not at all, according to `reaches` (`mem_scan_iff`): that is `delivered` for the one item -/
theorem bcast1_map {cfg : Cfg} {w : World} {msgs : List (Option Rat)} (hI : w.WInv = true)
    (hP : AllInGrid w) (hH : cfgHypb cfg w = true) (hM : MsgsOK cfg w.n msgs) {r : Recv}
    (hR : r.map (·.1) = bcasters cfg w.n) {x : Aid × Act} (hlt : x.1 < w.n) :
    bcast1 cfg w msgs r x = .ok (r.map fun p => (p.1, p.2 ++ delivered cfg w msgs [x] p.1)) := by
  unfold bcast1
  rw [if_neg (Nat.not_le.mpr hlt)]
  split
  · rename_i hb
    split
    · rename_i hbc
      obtain ⟨l, hl, hall⟩ := cfgHyp_reading hH hlt hb
      obtain ⟨m, hm, _⟩ := (hM.2 x.1 hlt).1 hb
      have hp := hP x.1 hlt
      rw [determine_eq hl hp]
      simp only
      rw [updateRecipients_map hm _ r (hR ▸ bcasters_nodup _ _) fun b hb' => ?_]
      · simp only [flatMap_ite_nodup (determine_nodup hI hp), mem_scan_iff hI hl hp, delivered_single hb hbc hm]
      · obtain ⟨_, hbn, _, _, _, _, _, henc, _⟩ := (reaches_iff hl).mp ((mem_scan_iff hI hl hp b).mp hb')
        exact hR ▸ (mem_bcasters cfg w.n b).mpr ⟨hbn, hall b hbn henc⟩
    · simp only [delivered_single_nil fun h => ‹¬ _› h.2, List.append_nil, List.map_id']
  · simp only [delivered_single_nil fun h => ‹¬ _› h.1, List.append_nil, List.map_id']

theorem delivered_flatMap (cfg : Cfg) (w : World) (msgs : List (Option Rat)) (acts : List (Aid × Act)) (b : Aid) :
    (acts.flatMap fun x => delivered cfg w msgs [x] b) = delivered cfg w msgs acts b := by
  unfold delivered
  rw [← List.filterMap_flatMap, List.flatMap_singleton']

theorem foldE_bcast1_map {cfg : Cfg} {w : World} {msgs : List (Option Rat)} (hI : w.WInv = true)
    (hP : AllInGrid w) (hH : cfgHypb cfg w = true) (hM : MsgsOK cfg w.n msgs) (acts : List (Aid × Act)) (r : Recv)
    (hx : ∀ x ∈ acts, x.1 < w.n) (hR : r.map (·.1) = bcasters cfg w.n) :
    foldE (bcast1 cfg w msgs) r acts = .ok (recvAfter cfg w msgs acts r) := by
  rw [foldE_map_append _ (fun x k => delivered cfg w msgs [x] k) _ (fun x => x.1 < w.n)
    (fun r' x hK hlt => bcast1_map hI hP hH hM hK hlt) acts r hR hx]
  simp only [recvAfter, delivered_flatMap]

theorem foldE_bcast1_lt {cfg : Cfg} {w : World} {msgs : List (Option Rat)} (acts : List (Aid × Act)) (r r' : Recv)
    (h : foldE (bcast1 cfg w msgs) r acts = .ok r') (x : Aid × Act) (hx : x ∈ acts) : x.1 < w.n := by
  refine (foldE_inv (I := fun _ xs => x ∈ xs ∨ x.1 < w.n) (fun r y ys r1 hI h1 => ?_) acts r r' (.inl hx) h).resolve_left
    List.not_mem_nil
  rcases hI with hm | hlt
  · rcases List.mem_cons.mp hm with rfl | hm
    · refine .inr (Nat.lt_of_not_le fun hle => ?_)
      unfold bcast1 at h1
      rw [if_pos hle] at h1
      cases h1
    · exact .inl hm
  · exact .inr hlt

theorem step_spec {cfg : Cfg} {w0 : World} {s : St} (hG : Good cfg w0 s)
    (hH : cfgHypb cfg s.w = true) {acts : List (Aid × Act)} (hA : ActsOK w0 acts) :
    ∃ rv p3, s.recv = some rv ∧ PSAll w0 p3 ∧ step cfg s acts =
      .ok { s with w := p3.w, recv := some (recvAfter cfg s.w s.msgs acts rv), rewards := some p3.r, tape := p3.t } := by
  obtain ⟨r, hr, hk⟩ := hG.led
  obtain ⟨rv, hrv, hR⟩ := hG.recv
  have hn : s.w.n = w0.n := hG.x.frame.sameG.n
  have h1 := foldE_bcast1_map hG.x.inv (allInGrid_of_alive hG.x.inv hG.x.alive) hH hG.msgs acts rv
    (fun x hx => hn ▸ (hA x hx).1) hR.1
  obtain ⟨p2, h2, hP2⟩ := foldE_ok move1 (PSAll w0) _ move1_all acts ⟨s.w, r, s.tape⟩ ⟨hG.x, hn ▸ hk⟩
    fun x hx => (hA x hx).1
  obtain ⟨p3, h3, hP3⟩ := foldE_ok entropy1 (PSAll w0) _ entropy1_all acts p2 hP2 fun x hx => (hA x hx).1
  exact ⟨rv, p3, hrv, hP3, by simp only [step, hr, hrv, h1, h2, h3]⟩

theorem mergeObs_single (k : Observers.Kind) (g : Observers.Obs) : mergeObs [itemsOf k g] = itemsOf k g := by
  cases g <;> rfl

/-- `hammo` is a hypothesis of the general `Observers.ObsInv.getObs_declared` and `Ex.outs_obsInSpace`, stated for every kind of
observer (the ammunition observer's Box needs it) -/
theorem getObs_grid {cfg : Cfg} {w0 : World} {s : St} {a : Aid} (hG : Good cfg w0 s) (ha : a < s.w.n)
    (henc : ∀ b < s.w.n, 0 < s.w.encOf b) (hammo : ∀ b < s.w.n, 0 ≤ (s.w.cfgOf b).initAmmo) :
    ∃ g t', Observers.getObsCentered s.w a cfg.observeSelf s.tape = .ok (g, t') ∧
      obsInSpace s.w a [.centered cfg.observeSelf] (itemsOf (.centered cfg.observeSelf) g) = true := by
  have hI := hG.x.inv
  have hp := allInGrid_of_alive hI hG.x.alive a ha
  obtain ⟨g, t', hget, _⟩ := (Observers.ObsInv.of_WInv hI).getObs_declared a (.centered cfg.observeSelf) s.tape ha hp henc (hammo a ha)
  have hget' : Observers.getObsCentered s.w a cfg.observeSelf s.tape = .ok (g, t') := hget
  have hout : obsOuts s.w a [.centered cfg.observeSelf] s.tape = .ok ([itemsOf (.centered cfg.observeSelf) g], t') := by
    simp only [obsOuts, Observers.getObs, hget']
  refine ⟨g, t', hget', ?_⟩
  rw [← mergeObs_single]
  exact outs_obsInSpace (.of_WInv hI) ha hp henc (hammo a ha) hout

theorem lastFrom_mem (o : Aid) : ∀ (rf : List (Aid × Rat)) (k i : Nat) (m : Rat),
    lastFrom o rf k = some (i, m) → (o, m) ∈ rf := by
  intro rf
  induction rf with
  | nil => intro k i m h; cases h
  | cons x rest ih =>
    intro k i m h
    obtain ⟨s, m'⟩ := x
    simp only [lastFrom] at h
    cases hr : lastFrom o rest (k + 1) with
    | some r =>
      rw [hr] at h
      simp only [Option.some.injEq] at h
      subst h
      exact List.mem_cons_of_mem _ (ih _ _ _ hr)
    | none =>
      rw [hr] at h
      simp only at h
      split at h
      · rename_i hs
        simp only [Option.some.injEq, Prod.mk.injEq] at h
        rw [hs, h.2]; exact List.mem_cons_self
      · cases h

theorem slots_ok (cfg : Cfg) (n : Nat) (a : Aid) (new : Rat) (rf : List (Aid × Rat)) (hnew : inUnit new = true)
    (hrf : ∀ x ∈ rf, inUnit x.2 = true) :
    slotsOK cfg n a rf ((bcasters cfg n).map fun o => (o, slotOf a new rf o)) = true := by
  simp only [slotsOK, Bool.and_eq_true, beq_iff_eq, List.all_eq_true, List.map_map]
  refine ⟨by simp [Function.comp_def], ?_⟩
  intro p hp
  obtain ⟨o, _, rfl⟩ := List.mem_map.mp hp
  simp only [slotOf]
  by_cases hoa : o = a
  · simp [hoa, hnew]
  · simp only [hoa, if_false]
    cases hl : lastFrom o rf 0 with
    | none => simp [inUnit]
    | some r =>
      obtain ⟨k, m⟩ := r
      simp only [List.contains_cons, List.contains_nil, Bool.or_false, beq_self_eq_true]
      exact ⟨hrf (o, m) (lastFrom_mem o rf 0 k m hl), trivial⟩

end BC
end Abmarl
