import Abmarl.Lemmas.SuperAgent
import Abmarl.Lemmas.ManagersInv
/-!
# The functor lemma: a wrapped lawful simulation is lawful

`superSim_lawful` and `superSim_WF`, so that every manager / adapter / trainer theorem (C01, C07, C15,
C16) applies to `superSim S cfg`.  Every outer agent, super or uncovered, stands for a list of inner agents
(`Outer.members`); in a partition the lists of two outer agents are disjoint (`outer_disjoint`), and
`get_reward` of one touches nothing of an inner agent outside its list (`supReward_eff`).
-/
namespace Abmarl
variable {σ α ω ι : Type}

/-- the mapping is a partition of (some of) the simulation's agents: nobody is covered twice and
the uncovered agents are listed once each and are not covered -/
def Partition (cfg : SuperCfg ω) : Prop := (cfg.covered ++ cfg.uncovered).Nodup

/-- the inner agents an outer agent stands for: `super_agent_mapping[k]` for a super agent, the agent
itself for one of `_uncovered_agents` -/
def Outer.members : Outer → List Aid
  | .sup cov => cov
  | .unc a => [a]
  | .bad => []

/-- the member lists of the wrapper's `agents` in the order of their indices (`SuperCfg.outer`):
`super_agent_mapping.values()`, then each of `_uncovered_agents` as a group of its own -/
def SuperCfg.blocks (cfg : SuperCfg ω) : List (List Aid) := cfg.groups ++ cfg.uncovered.map fun a => [a]

theorem blocks_flatten (cfg : SuperCfg ω) : cfg.blocks.flatten = cfg.covered ++ cfg.uncovered := by
  rw [SuperCfg.blocks, List.flatten_append, ← List.flatMap_def, List.flatMap_singleton']
  rfl

theorem mem_members_outer {cfg : SuperCfg ω} {x b : Aid} :
    b ∈ (cfg.outer x).members ↔ ∃ l, cfg.blocks[x]? = some l ∧ b ∈ l := by
  unfold SuperCfg.outer SuperCfg.blocks
  rw [List.getElem?_append]
  cases hg : cfg.groups[x]? with
  | some cov => simp [(List.getElem?_eq_some_iff.mp hg).1, Outer.members]
  | none =>
    rw [if_neg (by simpa using hg), List.getElem?_map]
    cases cfg.uncovered[x - cfg.groups.length]? <;> simp [Outer.members]

theorem outer_disjoint {cfg : SuperCfg ω} (hP : Partition cfg) {x y : Aid} (hne : x ≠ y) {b : Aid}
    (hx : b ∈ (cfg.outer x).members) (hy : b ∈ (cfg.outer y).members) : False := by
  obtain ⟨lx, hlx, hbx⟩ := mem_members_outer.mp hx
  obtain ⟨ly, hly, hby⟩ := mem_members_outer.mp hy
  have hnd : cfg.blocks.flatten.Nodup := by
    rw [blocks_flatten]
    exact hP
  exact disjoint_of_nodup_flatten hnd hlx hly hne hbx hby

theorem nodup_members_outer {cfg : SuperCfg ω} (hP : Partition cfg) (x : Aid) :
    (cfg.outer x).members.Nodup := by
  unfold SuperCfg.outer
  cases hg : cfg.groups[x]? with
  | some cov => exact nodup_group (List.nodup_append.mp hP).1 hg
  | none => cases cfg.uncovered[x - cfg.groups.length]? <;> simp [Outer.members]

theorem supDone_congr (S : SimIface σ α ω ι) {st st' : SupSt σ}
    (h : ∀ b, S.done st'.sim b = S.done st.sim b) (o : Outer) : supDone S st' o = supDone S st o := by
  cases o with
  | sup cov =>
    simp only [supDone]
    congr 1
    funext b
    exact h b
  | unc a => exact h a
  | bad => rfl

theorem supPending_congr (S : SimIface σ α ω ι) {st st' : SupSt σ} (o : Outer)
    (h : ∀ b ∈ o.members,
      S.done st'.sim b = S.done st.sim b ∧ S.pending st'.sim b = S.pending st.sim b ∧
      (b ∈ st'.lastRew ↔ b ∈ st.lastRew)) :
    supPending S st' o = supPending S st o := by
  cases o with
  | sup cov =>
    simp only [supPending]
    have hf : (cov.filter fun c => !(S.done st'.sim c && decide (c ∈ st'.lastRew))) =
        cov.filter fun c => !(S.done st.sim c && decide (c ∈ st.lastRew)) := by
      apply List.filter_congr
      intro c hc
      obtain ⟨h1, _, h3⟩ := h c hc
      rw [h1]
      simp only [h3]
    rw [hf]
    congr 1
    apply List.map_congr_left
    intro c hc
    exact (h c (List.mem_filter.mp hc).1).2.1
  | unc a => exact (h a (List.mem_singleton_self a)).2.1
  | bad => rfl

theorem supObs_frame {S : SimIface σ α ω ι} (hS : Lawful S) (cfg : SuperCfg ω) (st : SupSt σ) (o : Outer) :
    SameView S st.sim (supObs S cfg st o).2.2.sim ∧
    (∀ b, S.pending (supObs S cfg st o).2.2.sim b = S.pending st.sim b) ∧
    (supObs S cfg st o).2.2.lastRew = st.lastRew := by
  cases o with
  | sup cov =>
    obtain ⟨_, hv, hp, hl, _⟩ := supObsLoop_frame hS cfg cov st
    exact ⟨hv, hp, hl⟩
  | unc a => exact ⟨hS.obs_view st.sim a, hS.obs_pending st.sim a, rfl⟩
  | bad => exact ⟨SameView.refl S _, fun _ => rfl, rfl⟩

theorem supReward_eff {S : SimIface σ α ω ι} (hS : Lawful S) (st : SupSt σ) (o : Outer)
    (hnd : o.members.Nodup) :
    (supReward S st o).1 = supPending S st o ∧
    SameView S st.sim (supReward S st o).2.sim ∧
    supPending S (supReward S st o).2 o = 0 ∧
    ∀ b ∉ o.members, S.pending (supReward S st o).2.sim b = S.pending st.sim b ∧
      (b ∈ (supReward S st o).2.lastRew ↔ b ∈ st.lastRew) := by
  cases o with
  | bad => exact ⟨rfl, SameView.refl S _, rfl, fun _ _ => ⟨rfl, Iff.rfl⟩⟩
  | unc a =>
    refine ⟨hS.rew_val st.sim a, hS.rew_view st.sim a, ?_, fun b hb => ⟨?_, Iff.rfl⟩⟩
    · simp [supReward, supPending, hS.rew_pending]
    · simp only [supReward]
      rw [hS.rew_pending, if_neg (fun e => hb (List.mem_singleton.mpr e))]
  | sup cov =>
    obtain ⟨h1, h2, h3, _, h5⟩ := supRewLoop_spec hS _ _ cov st 0 hnd fun _ _ => ⟨rfl, rfl⟩
    refine ⟨by simp only [supReward, supPending]; rw [h1, Int.zero_add], h2, ?_, fun b hb => ?_⟩
    · -- a covered agent that is still counted afterwards is not done (a done one is marked now), so
      -- it was counted before, and what was counted has been emptied
      simp only [supReward, supPending]
      apply sum_map_zero
      intro c hc
      obtain ⟨hcm, hcf⟩ := List.mem_filter.mp hc
      rw [h3 c]
      by_cases hd : S.done st.sim c = true
      · exfalso
        have : c ∈ (supRewLoop S cov st 0).2.lastRew := (h5 c).mpr (Or.inr ⟨hcm, hd⟩)
        simp [h2.1 c, hd, this] at hcf
      · have hd' : S.done st.sim c = false := by simpa using hd
        rw [if_pos (List.mem_filter.mpr ⟨hcm, by simp [hd']⟩)]
    · have hb' : b ∉ cov := hb
      simp only [supReward]
      rw [h3 b, h5 b, if_neg (fun hm => hb' (List.mem_filter.mp hm).1)]
      exact ⟨rfl, or_iff_left (fun h => hb' h.1)⟩

theorem supReward_spec {S : SimIface σ α ω ι} (hS : Lawful S) {cfg : SuperCfg ω} (hP : Partition cfg)
    (st : SupSt σ) {x : Aid} :
    (supReward S st (cfg.outer x)).1 = supPending S st (cfg.outer x) ∧
    SameView S st.sim (supReward S st (cfg.outer x)).2.sim ∧
    supPending S (supReward S st (cfg.outer x)).2 (cfg.outer x) = 0 ∧
    (∀ y, y ≠ x → supPending S (supReward S st (cfg.outer x)).2 (cfg.outer y) =
      supPending S st (cfg.outer y)) := by
  obtain ⟨h1, h2, h3, h4⟩ := supReward_eff hS st (cfg.outer x) (nodup_members_outer hP x)
  refine ⟨h1, h2, h3, fun y hy => supPending_congr S _ fun b hb => ?_⟩
  have := h4 b fun hbx => outer_disjoint hP hy hb hbx
  exact ⟨h2.1 b, this.1, this.2⟩

theorem superSim_lawful {S : SimIface σ α ω ι} (hS : Lawful S) {cfg : SuperCfg ω} (hP : Partition cfg) :
    Lawful (superSim S cfg) where
  obs_done := by
    intro st x y
    exact supDone_congr S (supObs_frame hS cfg st (cfg.outer x)).1.1 (cfg.outer y)
  obs_allDone := by
    intro st x
    exact (supObs_frame hS cfg st (cfg.outer x)).1.2.1
  obs_next := by intros; rfl
  obs_pending := by
    intro st x y
    obtain ⟨hv, hp, hl⟩ := supObs_frame hS cfg st (cfg.outer x)
    apply supPending_congr
    intro b _
    exact ⟨hv.1 b, hp b, by
      show b ∈ (supObs S cfg st (cfg.outer x)).2.2.lastRew ↔ _
      rw [hl]⟩
  rew_done := by
    intro st x y
    exact supDone_congr S (supReward_spec hS hP st (x := x)).2.1.1 (cfg.outer y)
  rew_allDone := by
    intro st x
    exact (supReward_spec hS hP st (x := x)).2.1.2.1
  rew_next := by intros; rfl
  rew_val := by
    intro st x
    exact (supReward_spec hS hP st (x := x)).1
  rew_pending := by
    intro st x y
    obtain ⟨_, _, h0, hne⟩ := supReward_spec hS hP st (x := x)
    by_cases hyx : y = x
    · subst hyx; simp only [if_true]; exact h0
    · simp only [hyx, if_false]; exact hne y hyx

theorem superSim_learners_ne_nil {S : SimIface σ α ω ι} {cfg : SuperCfg ω}
    (hcomplete : ∀ a < S.n, a ∈ cfg.covered ∨ a ∈ cfg.uncovered) (hl : S.learners ≠ []) :
    (superSim S cfg).learners ≠ [] := by
  obtain ⟨a, ha⟩ := List.exists_mem_of_ne_nil _ hl
  obtain ⟨han, hal⟩ := (mem_learners S a).mp ha
  -- the outer agent that stands for the learning agent `a` is a learning agent of the wrapper
  have hm : a ∈ cfg.blocks.flatten := by
    rw [blocks_flatten]
    exact List.mem_append.mpr (hcomplete a han)
  obtain ⟨l, hl', hal'⟩ := List.mem_flatten.mp hm
  obtain ⟨x, hx, rfl⟩ := List.getElem_of_mem hl'
  have hmem : a ∈ (cfg.outer x).members := mem_members_outer.mpr ⟨_, List.getElem?_eq_getElem hx, hal'⟩
  refine List.ne_nil_of_mem ((mem_learners _ x).mpr ⟨?_, ?_⟩)
  · show x < cfg.groups.length + cfg.uncovered.length
    simpa [SuperCfg.blocks] using hx
  · show (match cfg.outer x with | .sup _ => true | .unc a => S.learning a | .bad => false) = true
    cases ho : cfg.outer x with
    | sup _ => rfl
    | unc a' =>
      rw [ho] at hmem
      rw [← List.mem_singleton.mp hmem]
      exact hal
    | bad =>
      rw [ho] at hmem
      cases hmem

/-- `hk`: the wrapper is not a `DynamicOrderSimulation` -/
theorem superSim_WF {S : SimIface σ α ω ι} {k : MKind} (hW : WF S k) (hk : k ≠ .dynamic)
    {cfg : SuperCfg ω} (hP : Partition cfg)
    (hcomplete : ∀ a < S.n, a ∈ cfg.covered ∨ a ∈ cfg.uncovered) : WF (superSim S cfg) k where
  lawful := superSim_lawful hW.lawful hP
  turn := fun hkt => superSim_learners_ne_nil hcomplete (hW.turn hkt)
  dyn := fun hkd => absurd hkd hk

end Abmarl
