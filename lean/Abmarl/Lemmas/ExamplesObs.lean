import Abmarl.Props.C09
import Abmarl.Spec.Examples
import Abmarl.Lemmas.Dict
/-!
# Observations of a packaged example lie in the declared spaces, under exactly the declared keys

Nothing here needs the histories of a packaged example: only the observers (`Observers.ObsInv`,
Lemmas/ObserversViews.lean; `ObsInv.getObs_declared`, Props/C09.lean) and the dictionaries.
-/
namespace Abmarl
open World
namespace Ex

theorem mem_mergeObs {κ υ : Type} [DecidableEq κ] (outs : List (List (κ × υ))) (q : κ × υ)
    (h : q ∈ mergeObs outs) : q ∈ outs.flatten := by
  unfold mergeObs dictOf at h
  rcases mem_foldl_dictSet h with h | h
  · cases h
  · exact h

theorem keys_mergeObs (outs : List (List (String × Observers.Obs))) :
    (mergeObs outs).map (·.1) = dedup (outs.flatten.map (·.1)) := by
  unfold mergeObs
  generalize outs.flatten = items
  induction items with
  | nil => rfl
  | cons p rest ih =>
    rw [keys_dictOf_cons, ih]
    rfl

/-- `supports` is the test every observer starts with; it answers `{}` when the test fails -/
theorem getObs_unsupported_iff {w : World} {a : Aid} {k : Observers.Kind} {t t' : Tape} {o : Observers.Obs}
    (h : Observers.getObs w a k t = .ok (o, t')) : o = .unsupported ↔ supports w a k = false := by
  have e : supports w a k = ((k != .ammo || (w.cfgOf a).hasAmmo) && (w.cfgOf a).observing) := by cases k <;> rfl
  rw [e]
  exact Observers.getObs_unsupported_iff h

theorem itemsOf_of_ne (k : Observers.Kind) {o : Observers.Obs} (h : o ≠ .unsupported) : itemsOf k o = [(keyOf k, o)] := by
  cases o <;> first | rfl | exact absurd rfl h

/-- every item comes with the ONE observer that returned it, so that its key, its support and its space speak of the
same `k` -/
theorem obsOuts_spec {w : World} {a : Aid} (hI : Observers.ObsInv w) (ha : a < w.n)
    (hpos : w.inGrid (w.stOf a).pos = true) (henc : ∀ b < w.n, 0 < w.encOf b) (hammo : 0 ≤ (w.cfgOf a).initAmmo) :
    ∀ (ks : List Observers.Kind) (t : Tape), ∃ outs t', obsOuts w a ks t = .ok (outs, t') ∧
      outs.flatten.map (·.1) = (ks.filter (supports w a)).map keyOf ∧
      ∀ p ∈ outs.flatten, p.2 ≠ .unsupported ∧
        ∃ k ∈ ks, keyOf k = p.1 ∧ supports w a k = true ∧ Observers.declared w a k p.2 = true := by
  intro ks
  induction ks with
  | nil => exact fun t => ⟨[], t, rfl, rfl, fun _ h => nomatch h⟩
  | cons k ks ih =>
    intro t
    obtain ⟨o, t1, hget, hd⟩ := hI.getObs_declared a k t ha hpos henc hammo
    obtain ⟨rest, t2, hrest, hkeys, hitems⟩ := ih t1
    refine ⟨itemsOf k o :: rest, t2, by simp only [obsOuts, hget, hrest], ?_⟩
    have hu := getObs_unsupported_iff hget
    rw [List.flatten_cons, List.filter_cons]
    cases hs : supports w a k with
    | false =>
      rw [hu.mpr hs]
      exact ⟨hkeys, fun p hp => (hitems p hp).imp_right fun ⟨k', hk', h⟩ => ⟨k', List.mem_cons_of_mem _ hk', h⟩⟩
    | true =>
      have hne : o ≠ .unsupported := fun e => by rw [hu.mp e] at hs; cases hs
      rw [itemsOf_of_ne k hne]
      refine ⟨congrArg (keyOf k :: ·) hkeys, fun p hp => ?_⟩
      rcases List.mem_cons.mp hp with rfl | hp
      · exact ⟨hne, k, List.mem_cons_self, rfl, hs, hd⟩
      · exact (hitems p hp).imp_right fun ⟨k', hk', h⟩ => ⟨k', List.mem_cons_of_mem _ hk', h⟩

theorem outs_obsInSpace {w : World} {a : Aid} {ks : List Observers.Kind} {t t' : Tape}
    {outs : List (List (String × Observers.Obs))} (hI : Observers.ObsInv w) (ha : a < w.n)
    (hpos : w.inGrid (w.stOf a).pos = true) (henc : ∀ b < w.n, 0 < w.encOf b) (hammo : 0 ≤ (w.cfgOf a).initAmmo)
    (hout : obsOuts w a ks t = .ok (outs, t')) : obsInSpace w a ks (mergeObs outs) = true := by
  obtain ⟨outs', t'', hout', hkeys, hitems⟩ := obsOuts_spec hI ha hpos henc hammo ks t
  cases hout.symm.trans hout'
  simp only [obsInSpace, Bool.and_eq_true, beq_iff_eq, List.all_eq_true, List.any_eq_true, bne_iff_ne, ne_eq]
  refine ⟨by rw [keys_mergeObs, hkeys]; rfl, fun p hp => ?_⟩
  obtain ⟨hne, k, hk, hkey, hs, hd⟩ := hitems p (mem_mergeObs outs p hp)
  exact ⟨hne, k, hk, ⟨hkey, hs⟩, hd⟩

/-- stated for `ObsInv` so that `WInv` and the weaker invariants of `ReachTheTargetSim` and `PacmanSim` all give it -/
theorem getObs_total {cfg : Cfg} {s : St} {a : Aid} {ks : List Observers.Kind} (hobs : cfg.observers = some ks)
    (hs : s.rewards.isSome = true) (hI : Observers.ObsInv s.w) (ha : a < s.w.n)
    (hpos : s.w.inGrid (s.w.stOf a).pos = true) (henc : ∀ b < s.w.n, 0 < s.w.encOf b)
    (hammo : 0 ≤ (s.w.cfgOf a).initAmmo) :
    ∃ o s', getObs cfg s a = .ok (o, s') ∧ obsInSpace s.w a ks o = true := by
  obtain ⟨r, hr⟩ := Option.isSome_iff_exists.mp hs
  obtain ⟨outs, t', hout, _⟩ := obsOuts_spec hI ha hpos henc hammo ks s.tape
  exact ⟨mergeObs outs, { s with tape := t' }, by simp only [getObs, hr, hobs, ha, if_true, hout],
    outs_obsInSpace hI ha hpos henc hammo hout⟩

theorem obsInSpace_items {w : World} {a : Aid} {ks : List Observers.Kind} {o : List (String × Observers.Obs)}
    (h : obsInSpace w a ks o = true) : ∀ p ∈ o, ∃ k ∈ ks, keyOf k = p.1 ∧ Observers.declared w a k p.2 = true := by
  simp only [obsInSpace, Bool.and_eq_true, beq_iff_eq, List.all_eq_true, List.any_eq_true] at h
  intro p hp
  obtain ⟨k, hk, ⟨hkey, _⟩, hd⟩ := (h.2 p hp).2
  exact ⟨k, hk, hkey, hd⟩

end Ex
end Abmarl
