import Abmarl.Spec.Trainer
import Abmarl.Lemmas.ManagersInv
import Abmarl.Lemmas.Dict
/-!
# Lemmas behind C16: record dictionaries and the episode loop invariant

The trainer is a client of the managers: the proofs use `accepted_step`, `runOp_reset_res` and `reset_sound`,
never the managers' code.
A record dictionary is a Python dict of lists; appending to an agent's list is an assignment to its key
(`appendTo_eq_dictSet`), so what a run of appends does to `lookup` and to the keys comes from
`lookup_dictSet` and `mem_keys_dictSet`.
-/
namespace Abmarl
variable {σ α ω ι : Type}

theorem appendTo_eq_dictSet {β : Type} (k : Aid) (v : β) :
    ∀ d : List (Aid × List β), appendTo d k v = dictSet d k ((d.lookup k).getD [] ++ [v])
  | [] => rfl
  | (k', l) :: rest => by
    rw [appendTo, dictSet, lookup_cons_ite, appendTo_eq_dictSet k v rest]
    split
    · next h => rw [if_pos h.symm]; rfl
    · next h => rw [if_neg fun e => h e.symm]

theorem pick_cons {β : Type} (p : Aid × β) (l : List (Aid × β)) (a : Aid) :
    pick (p :: l) a = (if p.1 = a then [p.2] else []) ++ pick l a := by
  unfold pick
  by_cases h : p.1 = a
  · simp [h]
  · have : (p.1 == a) = false := by simpa using h
    simp [this, h]

theorem recOf_getD {β : Type} (x : List β) : (recOf x).getD [] = x := by cases x <;> rfl

theorem recOf_concat {β : Type} (x : List β) (v : β) : recOf (x ++ [v]) = some (x ++ [v]) := by
  cases x <;> rfl

theorem recOf_eq_some {β : Type} {l l' : List β} (h : recOf l = some l') : l' = l := by
  unfold recOf at h
  split at h <;> cases h
  rfl

theorem recOf_map_length {β : Type} (l : List β) :
    (recOf l).map List.length = if l.length = 0 then none else some l.length := by
  cases l <;> rfl

theorem lookup_appendAll_recOf {β : Type} (kvs : List (Aid × β)) (a : Aid) :
    ∀ (d : List (Aid × List β)) (x : List β), d.lookup a = recOf x →
      (appendAll d kvs).lookup a = recOf (x ++ pick kvs a) := by
  induction kvs with
  | nil => intro d x h; simpa [appendAll, pick] using h
  | cons p ps ih =>
    intro d x h
    rw [pick_cons, ← List.append_assoc]
    refine ih (appendTo d p.1 p.2) _ ?_
    rw [appendTo_eq_dictSet, lookup_dictSet]
    by_cases hpa : a = p.1
    · rw [if_pos hpa, if_pos hpa.symm, ← hpa, h, recOf_getD, recOf_concat]
    · rw [if_neg hpa, if_neg (fun e => hpa e.symm), List.append_nil, h]

theorem keys_appendAll {β : Type} {P : Aid → Prop} (kvs : List (Aid × β)) (hk : ∀ a ∈ keys kvs, P a) :
    ∀ (d : List (Aid × List β)), (∀ a ∈ keys d, P a) → ∀ a ∈ keys (appendAll d kvs), P a := by
  induction kvs with
  | nil => intro d hd; exact hd
  | cons p ps ih =>
    intro d hd
    refine ih (fun a ha => hk a (List.mem_cons_of_mem _ ha)) (appendTo d p.1 p.2) fun a ha => ?_
    rw [appendTo_eq_dictSet] at ha
    rcases (mem_keys_dictSet _ _ _ _).mp ha with rfl | ha
    · exact hk _ (List.mem_cons_self ..)
    · exact hd a ha

theorem pick_of_nodup {β : Type} (l : List (Aid × β)) (hnd : (keys l).Nodup) (a : Aid) :
    pick l a = (l.lookup a).toList := by
  unfold pick
  rw [filter_key_of_nodup hnd]
  cases l.lookup a <;> rfl

theorem pick_length_keys {β γ : Type} (l : List (Aid × β)) (l' : List (Aid × γ)) (h : keys l = keys l')
    (a : Aid) : (pick l a).length = (pick l' a).length := by
  have e1 : ∀ {δ : Type} (x : List (Aid × δ)), (pick x a).length = ((keys x).filter (· == a)).length := by
    intro δ x
    simp only [pick, keys, List.length_map, List.filter_map, Function.comp_def]
  rw [e1, e1, h]

theorem expObs_snoc (tr : List (Entry α ω ι)) (e : Entry α ω ι) (a : Aid) :
    expObs (tr ++ [e]) a = expObs tr a ++ eObs e a := by simp [expObs, List.flatMap_append]
theorem expRew_snoc (tr : List (Entry α ω ι)) (e : Entry α ω ι) (a : Aid) :
    expRew (tr ++ [e]) a = expRew tr a ++ eRew e a := by simp [expRew, List.flatMap_append]
theorem expDone_snoc (tr : List (Entry α ω ι)) (e : Entry α ω ι) (a : Aid) :
    expDone (tr ++ [e]) a = expDone tr a ++ eDone e a := by simp [expDone, List.flatMap_append]
theorem expAct_snoc (tr : List (Entry α ω ι)) (e : Entry α ω ι) (a : Aid) :
    expAct (tr ++ [e]) a = expAct tr a ++ eAct e a := by simp [expAct, List.flatMap_append]
theorem expAll_snoc (tr : List (Entry α ω ι)) (e : Entry α ω ι) :
    expAll (tr ++ [e]) = expAll tr ++ eAll e := by simp [expAll, List.flatMap_append]

/-- the relation between consecutive manager calls and the policy queries in between -/
def AsksOK (pmap : Aid → Nat) (tr : List (Entry α ω ι)) (qss : List (List (Query α ω))) : Prop :=
  ∀ j prev qs cur, tr[j]? = some prev → qss[j]? = some qs → tr[j + 1]? = some cur →
    qs.map (fun q => (q.agent, q.obs)) = liveOfEntry prev ∧ (∀ q ∈ qs, q.policy = pmap q.agent) ∧
    stepActs cur = qs.map (fun q => (q.agent, q.action))

theorem asksOK_snoc {pmap : Aid → Nat} {tr : List (Entry α ω ι)} {qss : List (List (Query α ω))}
    (h : AsksOK pmap tr qss) (hl : qss.length + 1 = tr.length) (last e : Entry α ω ι)
    (qs : List (Query α ω)) (hlast : tr.getLast? = some last)
    (hnew : qs.map (fun q => (q.agent, q.obs)) = liveOfEntry last ∧ (∀ q ∈ qs, q.policy = pmap q.agent) ∧
      stepActs e = qs.map (fun q => (q.agent, q.action))) :
    AsksOK pmap (tr ++ [e]) (qss ++ [qs]) := by
  intro j prev qs' cur h1 h2 h3
  have hj : j < qss.length + 1 := by simpa using (List.getElem?_eq_some_iff.mp h2).1
  by_cases hlt : j < qss.length
  · rw [List.getElem?_append_left (by omega)] at h1 h3
    rw [List.getElem?_append_left hlt] at h2
    exact h j prev qs' cur h1 h2 h3
  · -- the new iteration: `prev` is the last entry so far, `cur` the new one
    obtain rfl : j = qss.length := by omega
    rw [List.getElem?_append_left (by omega), ← Nat.add_sub_cancel (n := qss.length) (m := 1), hl,
      ← List.getLast?_eq_getElem?, hlast] at h1
    rw [List.getElem?_concat_length] at h2
    rw [hl, List.getElem?_concat_length] at h3
    cases h1; cases h2; cases h3
    exact hnew

/-- what holds of the record dictionaries at every point of `generate_episode` -/
structure RecOK (n : Nat) (pmap : Aid → Nat) (r : EpRec α ω ι) : Prop where
  noErr : r.err = none
  shape : ∃ e0 es, r.trace = e0 :: es ∧ isResetE e0 = true ∧ ∀ e ∈ es, (stepOut? e).isSome = true
  qlen : r.queries.length + 1 = r.trace.length
  asks : AsksOK pmap r.trace r.queries
  recO : ∀ a, r.observations.lookup a = recOf (expObs r.trace a)
  recR : ∀ a, r.rewards.lookup a = recOf (expRew r.trace a)
  recD : ∀ a, r.dones.lookup a = recOf (expDone r.trace a)
  recA : ∀ a, r.actions.lookup a = recOf (expAct r.trace a)
  allD : r.allDones = expAll r.trace
  keysLt : ∀ a ∈ keys r.observations ++ keys r.rewards ++ keys r.dones ++ keys r.actions, a < n
  lens : ∀ a, (expRew r.trace a).length = (expDone r.trace a).length

/-- the loop invariant of `episodeLoop`, `j` iterations to go -/
structure LoopInv (S : SimIface σ α ω ι) (k : MKind) (n horizon : Nat) (pmap : Aid → Nat)
    (m : MState σ) (g : GSt) (obs : List (Aid × ω)) (r : EpRec α ω ι) (j : Nat) : Prop where
  recs : RecOK n pmap r
  inv : Inv S k m g
  started : g.started = true
  notOver : g.over = false
  budget : r.trace.length - 1 + j = horizon
  allFalse : ∀ b ∈ expAll r.trace, b = false
  doneShape : ∀ a, (a ∈ g.R → ∃ l, expDone r.trace a = l ++ [true] ∧ ∀ b ∈ l, b = false) ∧
                   (a ∉ g.R → ∀ b ∈ expDone r.trace a, b = false)
  obsLast : ∃ e, r.trace.getLast? = some e ∧ obs = liveOfEntry e
  obsOK : ∀ p ∈ obs, p.1 ∉ g.R ∧ (k = .dynamic ∨ S.learning p.1 = true) ∧ p.1 < n

/-- what holds of the returned episode -/
structure EpOK (n horizon : Nat) (pmap : Aid → Nat) (r : EpRec α ω ι) : Prop where
  recs : RecOK n pmap r
  stepsLe : r.trace.length - 1 ≤ horizon
  prefixFalse : ∀ b ∈ (expAll r.trace).dropLast, b = false
  stopReason : r.trace.length - 1 = horizon ∨ (expAll r.trace).getLast? = some true
  doneOne : ∀ a, ∀ b ∈ (expDone r.trace a).dropLast, b = false

theorem dropLast_all_false_of_shape {l : List Bool}
    (h : (∃ l', l = l' ++ [true] ∧ ∀ b ∈ l', b = false) ∨ (∀ b ∈ l, b = false)) :
    ∀ b ∈ l.dropLast, b = false := by
  rcases h with ⟨l', rfl, h'⟩ | h
  · simpa using h'
  · intro b hb; exact h b ((List.dropLast_subset _ hb))

/-- the shape of an agent's done record: all `false`, closed by one `true` exactly when the agent has been
reported done -/
theorem doneShape_snoc {R : List Aid} {d : List (Aid × Bool)} (hkd : (keys d).Nodup)
    (hnotR : ∀ a ∈ keys d, a ∉ R) {a : Aid} {l : List Bool}
    (h : (a ∈ R → ∃ l', l = l' ++ [true] ∧ ∀ b ∈ l', b = false) ∧ (a ∉ R → ∀ b ∈ l, b = false)) :
    (a ∈ R ++ newlyDone d → ∃ l', l ++ pick d a = l' ++ [true] ∧ ∀ b ∈ l', b = false) ∧
    (a ∉ R ++ newlyDone d → ∀ b ∈ l ++ pick d a, b = false) := by
  rw [List.mem_append, mem_newlyDone_iff hkd, pick_of_nodup d hkd a]
  by_cases haR : a ∈ R
  · -- already reported done: not reported again
    rw [lookup_none_of_not_mem_keys d a (fun hk => hnotR a hk haR)]
    exact ⟨fun _ => by rw [Option.toList, List.append_nil]; exact h.1 haR, fun hn => absurd (Or.inl haR) hn⟩
  · have hold := h.2 haR
    cases hl : d.lookup a with
    | none => exact ⟨fun hR => by simp [haR] at hR, fun _ => by simpa using hold⟩
    | some v =>
      cases v with
      | true => exact ⟨fun _ => ⟨l, rfl, hold⟩, fun hn => absurd (Or.inr rfl) hn⟩
      | false =>
        refine ⟨fun hR => by simp [haR] at hR, fun _ b hb => ?_⟩
        rcases List.mem_append.mp hb with hb | hb
        · exact hold b hb
        · simpa using hb

/-- for both exits of the loop (budget spent, `__all__` reported) -/
theorem EpOK.of_shape {n horizon : Nat} {pmap : Aid → Nat} {r : EpRec α ω ι} {R : List Aid}
    (recs : RecOK n pmap r) (stepsLe : r.trace.length - 1 ≤ horizon)
    (prefixFalse : ∀ b ∈ (expAll r.trace).dropLast, b = false)
    (stopReason : r.trace.length - 1 = horizon ∨ (expAll r.trace).getLast? = some true)
    (hshape : ∀ a, (a ∈ R → ∃ l, expDone r.trace a = l ++ [true] ∧ ∀ b ∈ l, b = false) ∧
                   (a ∉ R → ∀ b ∈ expDone r.trace a, b = false)) : EpOK n horizon pmap r :=
  { recs, stepsLe, prefixFalse, stopReason
    doneOne := fun a => dropLast_all_false_of_shape <| by
      by_cases ha : a ∈ R
      · exact Or.inl ((hshape a).1 ha)
      · exact Or.inr ((hshape a).2 ha) }

theorem askAll_obs (P : Policies α ω) (obs : List (Aid × ω)) :
    (askAll P obs).map (fun q => (q.agent, q.obs)) = obs := by
  simp [askAll, Function.comp_def]

theorem askAll_keys (P : Policies α ω) (obs : List (Aid × ω)) :
    keys ((askAll P obs).map fun q => (q.agent, q.action)) = keys obs := by
  simp [askAll, keys, Function.comp_def]

theorem episodeLoop_ok [DecidableEq α] {S : SimIface σ α ω ι} {k : MKind} (hW : WF S k)
    (P : Policies α ω) (horizon : Nat) :
    ∀ (j : Nat) (obs : List (Aid × ω)) (m : MState σ) (g : GSt) (r : EpRec α ω ι),
      LoopInv S k S.n horizon P.pmap m g obs r j →
      EpOK S.n horizon P.pmap (episodeLoop S k P j obs m r) := by
  intro j
  induction j with
  | zero =>
    intro obs m g r h
    have := h.budget
    rw [episodeLoop]
    exact EpOK.of_shape h.recs (by omega) (fun b hb => h.allFalse b (List.dropLast_subset _ hb))
      (Or.inl (by omega)) h.doneShape
  | succ j ih =>
    intro obs m g r h
    obtain ⟨qs, hqs⟩ : ∃ qs, qs = askAll P obs := ⟨_, rfl⟩
    obtain ⟨acts, hacts⟩ : ∃ acts, acts = qs.map (fun q => (q.agent, q.action)) := ⟨_, rfl⟩
    have hkeysacts : keys acts = keys obs := by rw [hacts, hqs]; exact askAll_keys P obs
    have hobsk : ∀ x ∈ keys obs, x ∉ g.R ∧ (k = .dynamic ∨ S.learning x = true) ∧ x < S.n := by
      intro x hx
      obtain ⟨q, hq, rfl⟩ := List.mem_map.mp hx
      exact h.obsOK q hq
    -- the actions are for agents that may act, so the step is accepted
    obtain ⟨step, out, hstep, hop, hout, u, hnext⟩ := accepted_step hW h.inv h.started h.notOver acts
      (fun p hp => have := hobsk p.1 (hkeysacts ▸ List.mem_map.mpr ⟨p, hp, rfl⟩)
        ⟨(participating_mem p.1).mpr ⟨this.2.2, this.2.1⟩, this.1⟩)
    obtain ⟨e0, es, htr, he0, hes⟩ := h.recs.shape
    obtain ⟨last, hlast, hobs⟩ := h.obsLast
    obtain ⟨r2, hr2⟩ : ∃ r2 : EpRec α ω ι, r2 =
        { r with trace := r.trace ++ [step.1], queries := r.queries ++ [qs],
                 observations := appendAll r.observations out.obs,
                 rewards := appendAll r.rewards out.rewards,
                 actions := appendAll r.actions acts,
                 dones := appendAll r.dones out.dones,
                 allDones := r.allDones ++ [out.allDone] } := ⟨_, rfl⟩
    have eO : ∀ a, eObs step.1 a = pick out.obs a := by intro a; simp [eObs, hout]
    have eR : ∀ a, eRew step.1 a = pick out.rewards a := by intro a; simp [eRew, hout]
    have eD : ∀ a, eDone step.1 a = pick out.dones a := by intro a; simp [eDone, hout]
    have eA : ∀ a, eAct step.1 a = pick acts a := by intro a; simp [eAct, hout, stepActs, hop]
    have eAl : eAll step.1 = [out.allDone] := by simp [eAll, hout]
    have hpol : ∀ q ∈ qs, q.policy = P.pmap q.agent := by
      intro q hq
      rw [hqs] at hq
      simp only [askAll, List.mem_map] at hq
      obtain ⟨p, _, rfl⟩ := hq
      rfl
    have hasks : AsksOK P.pmap (r.trace ++ [step.1]) (r.queries ++ [qs]) :=
      asksOK_snoc h.recs.asks h.recs.qlen last step.1 qs hlast
        ⟨by rw [hqs, askAll_obs, hobs], hpol, by simp [stepActs, hop, hacts]⟩
    have hrec2 : RecOK S.n P.pmap r2 := by
      rw [hr2]
      refine {
        noErr := h.recs.noErr
        shape := ⟨e0, es ++ [step.1], by simp [htr], he0, ?_⟩
        qlen := by simp [h.recs.qlen]
        asks := hasks
        recO := fun a => by
          simp only [expObs_snoc, eO]; exact lookup_appendAll_recOf _ _ _ _ (h.recs.recO a)
        recR := fun a => by
          simp only [expRew_snoc, eR]; exact lookup_appendAll_recOf _ _ _ _ (h.recs.recR a)
        recD := fun a => by
          simp only [expDone_snoc, eD]; exact lookup_appendAll_recOf _ _ _ _ (h.recs.recD a)
        recA := fun a => by
          simp only [expAct_snoc, eA]; exact lookup_appendAll_recOf _ _ _ _ (h.recs.recA a)
        allD := by simp only [expAll_snoc, eAl, h.recs.allD]
        keysLt := ?_
        lens := fun a => by
          simp only [expRew_snoc, expDone_snoc, eR, eD, List.length_append, h.recs.lens a]
          rw [pick_length_keys out.rewards out.dones (by rw [u.keysR, u.keysD]) a] }
      · intro e he
        rcases List.mem_append.mp he with he | he
        · exact hes e he
        · simp only [List.mem_singleton] at he; subst he; simp [stepOut?, hop, hout]
      · have hold := h.recs.keysLt
        simp only [List.mem_append, or_imp, forall_and] at hold ⊢
        exact ⟨⟨⟨keys_appendAll _ u.lt _ hold.1.1.1, keys_appendAll _ (u.keysR ▸ u.lt) _ hold.1.1.2⟩,
          keys_appendAll _ (u.keysD ▸ u.lt) _ hold.1.2⟩,
          keys_appendAll _ (fun a ha => (hobsk a (hkeysacts ▸ ha)).2.2) _ hold.2⟩
    obtain ⟨hgR, -, -⟩ := gNext_stepOk (g := g) hout
    have hkd : (keys out.dones).Nodup := by rw [u.keysD]; exact u.nodup
    have hshape' : ∀ a, (a ∈ (gNext g step.1).R →
          ∃ l, expDone (r.trace ++ [step.1]) a = l ++ [true] ∧ ∀ b ∈ l, b = false) ∧
        (a ∉ (gNext g step.1).R → ∀ b ∈ expDone (r.trace ++ [step.1]) a, b = false) := by
      intro a
      rw [hgR, expDone_snoc, eD]
      exact doneShape_snoc hkd (fun a ha => u.notR a (u.keysD ▸ ha)) (h.doneShape a)
    have hloop : episodeLoop S k P (j + 1) obs m r =
        if out.allDone then r2 else episodeLoop S k P j (liveOfEntry step.1) step.2 r2 := by
      rw [episodeLoop]
      simp only [← hqs, ← hacts, ← hstep, hout]
      rw [hr2]
      simp [liveOfEntry, hout]
    rw [hloop]
    have hbud := h.budget
    have hlen1 : 1 ≤ r.trace.length := by rw [htr]; simp
    have htl : r2.trace = r.trace ++ [step.1] := by rw [hr2]
    cases hAD : out.allDone with
    | true =>
      simp only [if_true]
      refine EpOK.of_shape hrec2 (by rw [htl]; simp; omega) ?_
        (Or.inr (by rw [htl, expAll_snoc, eAl, hAD]; simp)) (htl ▸ hshape')
      rw [htl, expAll_snoc, eAl, List.dropLast_concat]
      exact h.allFalse
    | false =>
      simp only [Bool.false_eq_true, if_false]
      apply ih (liveOfEntry step.1) step.2 (gNext g step.1) r2
      obtain ⟨-, hinv', hst', hov'⟩ := hnext hAD
      refine { recs := hrec2, inv := hinv', started := hst', notOver := hov', budget := ?_,
               allFalse := ?_, doneShape := by rw [htl]; exact hshape', obsLast := ?_, obsOK := ?_ }
      · rw [htl]; simp; omega
      · rw [htl, expAll_snoc, eAl, hAD]
        intro b hb
        rcases List.mem_append.mp hb with hb | hb
        · exact h.allFalse b hb
        · simpa using hb
      · exact ⟨step.1, by rw [htl]; simp, rfl⟩
      · intro p hp
        simp only [liveOfEntry, hout, List.mem_filter, Bool.not_eq_true'] at hp
        obtain ⟨hpo, hpd⟩ := hp
        have hpk : p.1 ∈ keys out.obs := List.mem_map.mpr ⟨p, hpo, rfl⟩
        obtain ⟨hlt, hlearn⟩ := keys_learning_of_part u p.1 hpk
        exact ⟨hgR ▸ u.live_after hpk hpd, hlearn, hlt⟩

theorem generateEpisode_ok [DecidableEq α] {S : SimIface σ α ω ι} {k : MKind} (hW : WF S k)
    (P : Policies α ω) (horizon : Nat) (m : MState σ) :
    EpOK S.n horizon P.pmap (generateEpisode S k P horizon m) := by
  obtain ⟨h01, _, hinv'⟩ := reset_sound (α := α) hW m {}
  obtain ⟨obs, hobs, hkeys⟩ := runOp_reset_res (α := α) hW m
  obtain ⟨rs, hrs⟩ : ∃ rs, rs = runOp (α := α) S k m .reset := ⟨_, rfl⟩
  rw [← hrs] at h01 hinv' hobs
  have hop : rs.1.op = .reset := by rw [hrs]; exact runOp_op S k m _
  have h01' : (keys obs).Nodup ∧ ∀ a ∈ keys obs, a < S.n := by
    simpa [c01Entry, hop, hobs, List.all_eq_true] using h01
  have hgen : generateEpisode S k P horizon m =
      episodeLoop S k P horizon obs rs.2
        { observations := obs.map (fun p => (p.1, [p.2])), trace := [rs.1] } := by
    simp only [generateEpisode, ← hrs, hobs]
  rw [hgen]
  obtain ⟨hgR, hgO, hgS⟩ := gNext_resetOk (g := {}) hobs
  have eO : ∀ a, eObs rs.1 a = pick obs a := by intro a; simp [eObs, hobs]
  apply episodeLoop_ok hW P horizon horizon obs rs.2 (gNext {} rs.1)
  refine { recs := ?_, inv := hinv' hgS hgO, started := hgS, notOver := hgO, budget := by simp,
           allFalse := by simp [expAll, eAll, hobs], doneShape := ?_, obsLast := ⟨rs.1, by simp, ?_⟩,
           obsOK := ?_ }
  · refine { noErr := rfl, shape := ⟨rs.1, [], rfl, by simp [isResetE, hop, hobs], by simp⟩,
             qlen := by simp, asks := ?_, recO := ?_, recR := ?_, recD := ?_, recA := ?_,
             allD := by simp [expAll, eAll, hobs], keysLt := ?_, lens := by simp [expRew, expDone, eRew, eDone, hobs] }
    · intro j prev qs cur _ _ h3
      simp at h3
    · intro a
      simp only [expObs, List.flatMap_cons, List.flatMap_nil, List.append_nil, eO]
      rw [lookup_map_val (fun _ v => [v]), pick_of_nodup obs h01'.1 a]
      cases obs.lookup a <;> simp [recOf]
    · intro a; simp [expRew, eRew, hobs, recOf]
    · intro a; simp [expDone, eDone, hobs, recOf]
    · intro a; simp [expAct, eAct, hobs, recOf]
    · intro a ha
      simp only [keys, List.map_map, List.map_nil, List.append_nil, List.mem_map, Function.comp] at ha
      obtain ⟨p, hp, rfl⟩ := ha
      exact h01'.2 p.1 (List.mem_map.mpr ⟨p, hp, rfl⟩)
  · intro a
    rw [hgR]
    constructor
    · intro h; cases h
    · intro _ b hb
      simp [expDone, eDone, hobs] at hb
  · simp [liveOfEntry, hobs]
  · intro p hp
    have hpk : p.1 ∈ keys obs := List.mem_map.mpr ⟨p, hp, rfl⟩
    rw [hgR]
    refine ⟨by simp, ?_, h01'.2 p.1 hpk⟩
    -- the all-step and turn-based managers report learning agents only
    rw [hkeys] at hpk
    cases k with
    | dynamic => exact Or.inl rfl
    | allStep => exact Or.inr ((mem_learners S p.1).mp hpk).2
    | turnBased => exact Or.inr ((mem_learners S p.1).mp (List.mem_of_mem_take hpk)).2

end Abmarl
