import Abmarl.Spec.Adapters
import Abmarl.Lemmas.ManagersInv
/-!
# Lemmas behind C15 (OpenSpiel adapter)

`OSInv` ties the adapter's state to the ghost state folded over its outputs; `osReset_sound` and
`osStep_full` show that a restart and a well-formed step satisfy `c15Call` and keep `OSInv`.
The adapter is a client of the managers: what a manager call guarantees is taken from `reset_sound`,
`reset_reports_learners` and `accepted_step` (the reading `C01StepOK` of the trace specification), not
from the managers' code.
-/
namespace Abmarl
variable {σ α ω ι : Type}

theorem appendObs_spec {S : SimIface σ α ω ι} (hS : Lawful S) :
    ∀ (l : List Aid) (obs : List (Aid × ω)) (s : σ),
      (∀ p ∈ obs, p ∈ (appendObs S l obs s).1) ∧
      (∀ a, a ∈ keys (appendObs S l obs s).1 ↔ a ∈ keys obs ∨ a ∈ l) ∧
      (∀ b, S.pending (appendObs S l obs s).2 b = S.pending s b) := by
  intro l
  induction l with
  | nil => intro obs s; exact ⟨fun _ h => h, by simp [appendObs], fun _ => rfl⟩
  | cons a as ih =>
    intro obs s
    unfold appendObs
    split
    next h =>
      obtain ⟨h1, h2, h4⟩ := ih obs s
      refine ⟨h1, fun x => ?_, h4⟩
      rw [h2 x]
      by_cases hx : x = a
      · subst hx; simp [show x ∈ keys obs from h]
      · simp [hx]
    next h =>
      obtain ⟨h1, h2, h4⟩ := ih (obs ++ [(a, (S.obs s a).1)]) (S.obs s a).2
      refine ⟨fun p hp => h1 p (List.mem_append_left _ hp), fun x => ?_, fun b => by rw [h4 b, hS.obs_pending]⟩
      rw [h2 x]
      simp [keys, or_assoc]

theorem appendReward_spec (l : List Aid) (rew : List (Aid × Int)) :
    (∀ p ∈ rew, p ∈ appendReward l rew) ∧
    (∀ p ∈ appendReward l rew, p ∈ rew ∨ p.2 = 0) ∧
    (∀ a, a ∈ keys (appendReward l rew) ↔ a ∈ keys rew ∨ a ∈ l) := by
  refine ⟨fun p hp => List.mem_append_left _ hp, ?_, ?_⟩
  · intro p hp
    rcases List.mem_append.mp hp with h | h
    · exact Or.inl h
    · right
      obtain ⟨a, _, rfl⟩ := List.mem_map.mp h
      rfl
  · intro a
    simp only [appendReward, keys, List.map_append, List.map_map, List.mem_append, List.mem_map,
      List.mem_filter, Function.comp, Bool.not_eq_true', decide_eq_false_iff_not]
    constructor
    · rintro (h | ⟨x, ⟨hx, _⟩, rfl⟩)
      · exact Or.inl h
      · exact Or.inr hx
    · rintro (h | h)
      · exact Or.inl h
      · by_cases hk : ∃ p ∈ rew, p.1 = a
        · exact Or.inl hk
        · right
          exact ⟨a, ⟨h, fun ⟨p, hp, hpa⟩ => hk ⟨p, hp, hpa⟩⟩, rfl⟩

/-- `K`: the keys after `_append_obs` / `_append_reward`; `K0`: those of the manager's output; `L`: the
learning agents -/
theorem sameSet_of_appended {K K0 L : List Aid} (h : ∀ x, x ∈ K ↔ x ∈ K0 ∨ x ∈ L) (h0 : ∀ x ∈ K0, x ∈ L) :
    sameSet K L = true :=
  sameSet_iff.mpr fun x => (h x).trans ⟨fun hx => hx.elim (h0 x) id, Or.inr⟩

theorem Inv.of_sim {S : SimIface σ α ω ι} {k : MKind} {m : MState σ} {g : GSt} (h : Inv S k m g)
    (s' : σ) (hp : ∀ b, S.pending s' b = S.pending m.sim b) : Inv S k { m with sim := s' } g :=
  { ds := h.ds
    pend := by
      rw [h.pend]
      apply List.map_congr_left
      intro b _
      exact (hp b).symm
    live := h.live
    ptr := h.ptr }

/-- `live`, between a restart and LAST: the manager's `Inv`; in turn-based play the current player is a learning
agent not reported done; and some learning agent is not reported done, so that in simultaneous play the filtered
action dictionary is not empty (`osDict_filter_spec`: no fake step) -/
structure OSInv (S : SimIface σ α ω ι) (k : MKind) (st : OSState σ) (gh : OSGhost) : Prop where
  sr : gh.shouldReset = st.shouldReset
  cur : gh.current = st.current
  live : st.shouldReset = false →
    Inv S k st.m gh.g ∧ gh.g.started = true ∧ gh.g.over = false ∧
    (k = .turnBased → st.current ∈ S.learners ∧ st.current ∉ gh.g.R) ∧
    (∃ a ∈ S.learners, a ∉ gh.g.R)

theorem isLearner_iff_mem {S : SimIface σ α ω ι} (a : Aid) :
    isLearner S.n S.learning a = true ↔ a ∈ S.learners := by
  rw [mem_learners]
  simp [isLearner]

theorem osReset_sound [DecidableEq α] [DecidableEq ω] {S : SimIface σ α ω ι} {k : MKind} (hW : WF S k)
    (hk : k ≠ .dynamic) (hl : S.learners ≠ []) (st : OSState σ) (gh : OSGhost)
    (call : Option (List α)) (hbr : (call.isNone || gh.shouldReset) = true) :
    c15Call k S.n S.learning gh call (osReset S k st).1 = true ∧
    OSInv S k (osReset S k st).2 (osGhostNext gh (osReset S k st).1) := by
  have hS := hW.lawful
  obtain ⟨_, _, hinv'⟩ := reset_sound (α := α) hW st.m gh.g
  obtain ⟨obs, p, hobs, hp, hkeys, _⟩ := reset_reports_learners (α := α) hW hk hl st.m
  obtain ⟨rs, hrs⟩ : ∃ rs, rs = runOp (α := α) S k st.m .reset := ⟨_, rfl⟩
  rw [← hrs] at hinv' hobs
  have hop : rs.1.op = .reset := by rw [hrs]; exact runOp_op S k st.m _
  have hpl : p.1 ∈ S.learners :=
    hkeys p.1 (List.mem_map.mpr ⟨p, List.mem_of_mem_head? hp, rfl⟩)
  obtain ⟨ao, hao⟩ : ∃ ao, ao = appendObs S S.learners obs rs.2.sim := ⟨_, rfl⟩
  obtain ⟨hpre, haok, haop⟩ := appendObs_spec hS S.learners obs rs.2.sim
  rw [← hao] at hpre haok haop
  have hE : osReset (α := α) S k st =
      (⟨.ok { infoState := ao.1, legal := S.learners, current := p.1, rewards := none, stepType := .first },
        [rs.1]⟩,
       { m := { rs.2 with sim := ao.2 }, shouldReset := false, current := p.1 }) := by
    simp only [osReset, ← hrs, hobs, hp, ← hao]
  rw [hE]
  obtain ⟨hgR, hgO, hgS⟩ := gNext_resetOk (g := gh.g) hobs
  constructor
  · simp only [c15Call, hbr, if_true, Bool.and_eq_true]
    refine ⟨⟨⟨⟨?_, ?_⟩, trivial⟩, ?_⟩, ?_⟩
    · exact sameSet_of_appended haok hkeys
    · simp [SimIface.learners, SimIface.agents]
    · simp only [hop, hobs, Bool.and_eq_true, decide_eq_true_eq, List.all_eq_true]
      refine ⟨⟨⟨trivial, rfl⟩, ?_⟩, by rw [hp]; rfl⟩
      exact hpre
    · simp only [foldG, List.foldl_cons, List.foldl_nil, hgR, Bool.or_eq_true, Bool.and_eq_true,
        decide_eq_true_eq]
      right
      exact ⟨(isLearner_iff_mem _).mpr hpl, by simp⟩
  · refine ⟨by simp [osGhostNext], by simp [osGhostNext], ?_⟩
    intro _
    simp only [osGhostNext, foldG, List.foldl_cons, List.foldl_nil]
    refine ⟨Inv.of_sim (hinv' hgS hgO) ao.2 haop, hgS, hgO, fun _ => ⟨hpl, by rw [hgR]; simp⟩, ?_⟩
    obtain ⟨a, ha⟩ := List.exists_mem_of_ne_nil _ hl
    exact ⟨a, ha, by rw [hgR]; simp⟩

theorem osReset_noFwdDone (S : SimIface σ α ω ι) (k : MKind) (st : OSState σ) (g : GSt) :
    noFwdDone g (osReset (α := α) S k st).1.mgrCalls = true := by
  have hm : (osReset (α := α) S k st).1.mgrCalls = [(runOp (α := α) S k st.m .reset).1] := by
    simp only [osReset]
    split
    · split <;> rfl
    · rfl
    · rfl
  simp [hm, noFwdDone, runOp_op]

theorem pickCurrent_spec (obs : List (Aid × ω)) (dones : List (Aid × Bool)) (hne : obs ≠ []) :
    ∃ cur, pickCurrent obs dones = some cur ∧ cur ∈ keys obs ∧
      ((∃ p ∈ obs, (dones.lookup p.1).getD false = false) → (dones.lookup cur).getD false = false) := by
  unfold pickCurrent
  rw [List.head?_filter]
  cases hf : obs.find? (fun p => !((dones.lookup p.1).getD false)) with
  | some p =>
    exact ⟨p.1, rfl, List.mem_map.mpr ⟨p, List.mem_of_find?_eq_some hf, rfl⟩,
      fun _ => by simpa using List.find?_some hf⟩
  | none =>
    obtain ⟨x, xs, rfl⟩ := List.exists_cons_of_ne_nil hne
    refine ⟨x.1, rfl, by simp [keys], ?_⟩
    rintro ⟨p, hp, hpd⟩
    simpa [hpd] using List.find?_eq_none.mp hf p hp

theorem participating_eq_learners {S : SimIface σ α ω ι} {k : MKind} (hk : k ≠ .dynamic) :
    participating k S.n S.learning = S.learners := by
  cases k with
  | dynamic => exact absurd rfl hk
  | allStep => rfl
  | turnBased => rfl

/-- `ds`: the manager's `done_agents`; `R`: the agents reported done.  The last conjunct is the clause of
`c15Call` on the actions forwarded, written as it stands there (`generalizing := false` keeps `hc` out of
the match). -/
theorem osDict_filter_spec [DecidableEq α] {S : SimIface σ α ω ι} {k : MKind} {cur : Aid} {acts : List α}
    {ds R : List Aid} (hc : callOK k S.learners.length (some acts) = true)
    (hds : ∀ a ∈ S.learners, (a ∈ ds ↔ a ∈ R))
    (hturn : k = .turnBased → cur ∈ S.learners ∧ cur ∉ R) (hex : ∃ a ∈ S.learners, a ∉ R) :
    ∃ dict sent, osDict S k cur acts = .ok dict ∧ sent = dict.filter (fun p => !(decide (p.1 ∈ ds))) ∧
      sent ≠ [] ∧ (∀ p ∈ sent, p.1 ∈ S.learners ∧ p.1 ∉ R) ∧
      (if k = .turnBased then
         (match (generalizing := false) acts, sent with
          | a :: _, [p] => decide (p = (cur, a))
          | _, _ => false)
       else decide (sent = (S.learners.zip acts).filter (fun p => decide (p.1 ∉ R)))) = true := by
  by_cases hkt : k = .turnBased
  · obtain ⟨hcl, hcR⟩ := hturn hkt
    have hcd : cur ∉ ds := fun h => hcR ((hds cur hcl).mp h)
    cases acts with
    | nil => simp [callOK, hkt] at hc
    | cons a rest =>
      exact ⟨[(cur, a)], [(cur, a)], by simp [osDict, hkt], by simp [hcd], by simp,
        fun p hp => by rw [List.mem_singleton.mp hp]; exact ⟨hcl, hcR⟩, by simp [hkt]⟩
  · have hkt' : (k == MKind.turnBased) = false := by simpa using hkt
    have hlen : acts.length = S.learners.length := by simpa [callOK, hkt'] using hc
    refine ⟨S.learners.zip acts, (S.learners.zip acts).filter (fun p => decide (p.1 ∉ R)),
      by simp [osDict, hkt, hlen], List.filter_congr fun p hp => ?_, ?_, fun p hp => ?_, by simp [hkt]⟩
    · have := hds p.1 (List.of_mem_zip hp).1
      simp [this]
    · -- the action of a learning agent not yet reported done survives the filter
      obtain ⟨a, ha, haR⟩ := hex
      have : a ∈ (S.learners.zip acts).map Prod.fst := by
        rw [List.map_fst_zip (by omega)]; exact ha
      obtain ⟨p, hp, rfl⟩ := List.mem_map.mp this
      exact List.ne_nil_of_mem (List.mem_filter.mpr ⟨hp, by simpa using haR⟩)
    · obtain ⟨hp1, hp2⟩ := List.mem_filter.mp hp
      exact ⟨(List.of_mem_zip hp1).1, by simpa using hp2⟩

/-- the third conjunct is the clause `specC15X` adds: about the actions forwarded `c15Call` alone says too
little in turn-based play -/
theorem osStep_full [DecidableEq α] [DecidableEq ω] {S : SimIface σ α ω ι} {k : MKind} (hW : WF S k)
    (hk : k ≠ .dynamic) (hl : S.learners ≠ []) (st : OSState σ) (gh : OSGhost)
    (hI : OSInv S k st gh) (acts : List α) (hc : callOK k S.learners.length (some acts) = true) :
    c15Call k S.n S.learning gh (some acts) (osStep S k st acts).1 = true ∧
    OSInv S k (osStep S k st acts).2 (osGhostNext gh (osStep S k st acts).1) ∧
    noFwdDone gh.g (osStep S k st acts).1.mgrCalls = true := by
  have hS := hW.lawful
  by_cases hsr : st.shouldReset = true
  · have hE : osStep S k st acts = osReset S k st := by simp [osStep, hsr]
    rw [hE]
    obtain ⟨h1, h2⟩ := osReset_sound hW hk hl st gh (some acts) (by simp [hI.sr, hsr])
    exact ⟨h1, h2, osReset_noFwdDone S k st gh.g⟩
  have hsr' : st.shouldReset = false := Bool.eq_false_iff.mpr hsr
  have hghsr : gh.shouldReset = false := by rw [hI.sr]; exact hsr'
  obtain ⟨hInv, hst, hov, hturn, hex⟩ := hI.live hsr'
  have hpart := participating_eq_learners (S := S) hk
  obtain ⟨dict, dict', hdict, hdict', hne, hdk, hfwd⟩ := osDict_filter_spec (cur := st.current) hc
    (fun a ha => hInv.mem_doneSet_learner ha) hturn hex
  obtain ⟨r, out, hr, hop, hout, u, hnext⟩ :=
    accepted_step hW hInv hst hov dict' (fun p hp => hpart ▸ hdk p hp)
  have hkeysL : ∀ a ∈ keys out.obs, a ∈ S.learners := fun a ha => hpart ▸ u.part a ha
  obtain ⟨hgR, -, -⟩ := gNext_stepOk (g := gh.g) hout
  have hobsne : out.obs ≠ [] := by
    obtain ⟨a, ha⟩ := u.reported_ne_nil (fun hAD => (hnext hAD).1 hk) (hpart ▸ hex)
    exact fun he => by simp [he, keys] at ha
  obtain ⟨cur, hcur, hcurk, hcurd⟩ := pickCurrent_spec out.obs out.dones hobsne
  obtain ⟨stype, hstype⟩ : ∃ stype, stype = (if out.allDone then StepType.last else StepType.mid) := ⟨_, rfl⟩
  obtain ⟨ao, hao⟩ : ∃ ao, ao = appendObs S S.learners out.obs r.2.sim := ⟨_, rfl⟩
  obtain ⟨hpre, haok, haop⟩ := appendObs_spec hS S.learners out.obs r.2.sim
  rw [← hao] at hpre haok haop
  have hE : osStep S k st acts =
      (⟨.ok { infoState := ao.1, legal := S.learners, current := cur,
              rewards := some (appendReward S.learners out.rewards), stepType := stype }, [r.1]⟩,
       { m := { r.2 with sim := ao.2 }, shouldReset := out.allDone, current := cur }) := by
    have hemp : dict'.isEmpty = false := by
      cases hd : dict' with
      | nil => exact absurd hd hne
      | cons x xs => rfl
    simp only [osStep, hsr', Bool.false_eq_true, if_false, hdict, ← hdict', hemp, ← hr, hout, hcur,
      ← hao, ← hstype]
  rw [hE]
  obtain ⟨hrw1, hrw2, hrwk⟩ := appendReward_spec S.learners out.rewards
  -- somebody reported is not done, so the current player named (the first such) is not done
  have hcurlive : out.allDone = false → cur ∈ S.learners ∧ cur ∉ (gNext gh.g r.1).R := by
    intro hAD
    obtain ⟨q, hq, hqd⟩ := (hnext hAD).1 hk
    obtain ⟨q', hq', hq'e⟩ := List.mem_map.mp (u.keysD ▸ List.mem_map.mpr ⟨q, hq, rfl⟩ : q.1 ∈ keys out.obs)
    have hlk := lookup_of_mem_nodup out.dones (show (keys out.dones).Nodup from u.keysD ▸ u.nodup) q.1 q.2 hq
    exact ⟨hkeysL cur hcurk, hgR ▸ u.live_after hcurk (hcurd ⟨q', hq', by rw [hq'e, hlk, hqd]; rfl⟩)⟩
  refine ⟨?_, ⟨?_, by simp [osGhostNext], ?_⟩, ?_⟩
  · simp only [c15Call, hghsr, Option.isNone_some, Bool.or_self, Bool.false_eq_true, if_false, Bool.and_eq_true]
    refine ⟨⟨⟨⟨sameSet_of_appended haok hkeysL, ?_⟩, sameSet_of_appended hrwk (u.keysR ▸ hkeysL)⟩, ?_⟩, ?_⟩
    · simp [SimIface.learners, SimIface.agents]
    · simp only [hop, hout, Bool.and_eq_true, decide_eq_true_eq, List.all_eq_true, Bool.or_eq_true,
        beq_iff_eq]
      refine ⟨⟨⟨?_, hstype⟩, ?_⟩, ?_, ?_⟩
      · rw [hI.cur]; exact hfwd
      · exact hpre
      · exact hrw1
      · intro q hq
        rcases hrw2 q hq with h | h
        · exact Or.inl h
        · exact Or.inr h
    · simp only [foldG, List.foldl_cons, List.foldl_nil, Bool.or_eq_true, Bool.not_eq_true',
        decide_eq_true_eq, Bool.and_eq_true]
      by_cases hkt : k = .turnBased
      · cases hAD : out.allDone with
        | true => left; right; rw [hstype, hAD]; rfl
        | false =>
          right
          obtain ⟨h1, h2⟩ := hcurlive hAD
          exact ⟨(isLearner_iff_mem _).mpr h1, decide_eq_true h2⟩
      · left; left; simpa using hkt
  · simp only [osGhostNext, hstype]
    cases out.allDone <;> simp
  · intro hAD
    have hAD' : out.allDone = false := hAD
    obtain ⟨-, hinv', hst', hov'⟩ := hnext hAD'
    simp only [osGhostNext, foldG, List.foldl_cons, List.foldl_nil]
    obtain ⟨a, ha, han⟩ := u.someone_left hAD'
    exact ⟨Inv.of_sim hinv' ao.2 haop, hst', hov', fun _ => hcurlive hAD', a, hpart ▸ ha, hgR ▸ han⟩
  · simp only [noFwdDone, hop, Bool.and_true, List.all_eq_true, decide_eq_true_eq]
    exact fun p hp => (hdk p hp).2

theorem osStep_sound [DecidableEq α] [DecidableEq ω] {S : SimIface σ α ω ι} {k : MKind} (hW : WF S k)
    (hk : k ≠ .dynamic) (hl : S.learners ≠ []) (st : OSState σ) (gh : OSGhost)
    (hI : OSInv S k st gh) (acts : List α) (hc : callOK k S.learners.length (some acts) = true) :
    c15Call k S.n S.learning gh (some acts) (osStep S k st acts).1 = true ∧
    OSInv S k (osStep S k st acts).2 (osGhostNext gh (osStep S k st acts).1) :=
  let ⟨h1, h2, _⟩ := osStep_full hW hk hl st gh hI acts hc
  ⟨h1, h2⟩

end Abmarl
