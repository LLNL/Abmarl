import Abmarl.Model.Vitals
import Abmarl.Lemmas.Grid
import Mathlib.Tactic.NormNum
import Mathlib.Tactic.Positivity
/-!
# What each of the three vitals state components writes, agent by agent; it touches nothing else

Each of the three resets walks the listing and rewrites the state of the agent it visits from that agent's configuration,
its state and the tape.  `passFrom` is that walk for an arbitrary rewriting `step`; what it does to the world is proved
once (`passFrom_spec`) and the three resets are instances (`healthReset_does`, `ammoReset_does`, `orientReset_does`).
`CfgOK`, the configuration hypothesis of the C03 / C08 theorems, is defined here.
-/
namespace Abmarl
namespace World

theorem clamp_id {h : Rat} (h0 : 0 < h) (h1 : h ≤ 1) : min (max h 0) 1 = h := by
  rw [max_eq_left (le_of_lt h0), min_eq_left h1]

/-- the regular stream of the oracle maps a tape value `v` to `(v mod 1023 + 1)/1024` (DESIGN.md §3.1) -/
theorem uniform01_pos (t : Tape) : 0 < (Oracle.uniform01 t).1 ∧ (Oracle.uniform01 t).1 ≤ 1 := by
  simp only [Oracle.uniform01, Oracle.pop]
  constructor
  · rw [Rat.mkRat_eq_div]; positivity
  · rw [Rat.mkRat_eq_div, div_le_one (by norm_num)]
    have : t.headD 0 % 1023 < 1023 := Nat.mod_lt _ (by norm_num)
    exact_mod_cast (by omega : t.headD 0 % 1023 + 1 ≤ 1024)

/-- configuration facts the constructors guarantee (C19): initial health in (0,1], initial orientation at most 4 (the
clause admits 0, the falsy value for which the reset draws) -/
structure CfgOK (w : World) : Prop where
  health : ∀ a h, (w.cfgOf a).initHealth = some h → 0 < h ∧ h ≤ 1
  orient : ∀ a o, (w.cfgOf a).initOrient = some o → o ≤ 4

def passFrom (step : AgentCfg → AgentSt → Tape → AgentSt × Tape) : List Aid → World → Tape → World × Tape
  | [], w, t => (w, t)
  | a :: as, w, t =>
    passFrom step as (w.setSt a (step (w.cfgOf a) (w.stOf a) t).1) (step (w.cfgOf a) (w.stOf a) t).2

/-- `t'` is the tape as it is when `b` is visited.  It stays existential: what the `*_does` lemmas say of the value written
holds for every tape. -/
theorem passFrom_spec {step : AgentCfg → AgentSt → Tape → AgentSt × Tape}
    (hpos : ∀ c s t, (step c s t).1.pos = s.pos) (l : List Aid) :
    ∀ (w : World) (t : Tape), l.Nodup →
      VFrame w (passFrom step l w t).1 ∧
      (∀ b, b ∉ l → (passFrom step l w t).1.stOf b = w.stOf b) ∧
      (∀ b ∈ l, b < w.st.length →
        ∃ t', (passFrom step l w t).1.stOf b = (step (w.cfgOf b) (w.stOf b) t').1) := by
  induction l with
  | nil => intro w t _; exact ⟨VFrame.refl w, fun _ _ => rfl, fun b hb => by cases hb⟩
  | cons a as ih =>
    intro w t hnd
    have hnd' := List.nodup_cons.mp hnd
    have hF1 : VFrame w (w.setSt a (step (w.cfgOf a) (w.stOf a) t).1) := VFrame.of_setSt w a _ (hpos _ _ _)
    obtain ⟨i1, i2, i3⟩ :=
      ih (w.setSt a (step (w.cfgOf a) (w.stOf a) t).1) (step (w.cfgOf a) (w.stOf a) t).2 hnd'.2
    refine ⟨hF1.trans i1, ?_, ?_⟩
    · intro b hb
      rw [passFrom, i2 b (fun h => hb (List.mem_cons_of_mem _ h)),
        stOf_setSt_ne _ _ fun h : b = a => hb (h ▸ List.mem_cons_self)]
    · intro b hb hbl
      rcases List.mem_cons.mp hb with rfl | hb'
      · -- the state of `b` is written once: `b` does not occur again
        exact ⟨t, by rw [passFrom, i2 b hnd'.1, stOf_setSt, if_pos ⟨rfl, hbl⟩]⟩
      · rw [passFrom]
        have := i3 b hb' (by rw [hF1.len]; exact hbl)
        rw [stOf_setSt_ne _ _ fun h : b = a => hnd'.1 (h ▸ hb'), (SFrame.of_vframe hF1).sameG.cfgOf] at this
        exact this

theorem passFrom_range {step : AgentCfg → AgentSt → Tape → AgentSt × Tape}
    (hpos : ∀ c s t, (step c s t).1.pos = s.pos) (w : World) (t : Tape)
    (hlen : w.st.length = w.cfg.length) :
    VFrame w (passFrom step (List.range w.n) w t).1 ∧
    ∀ b < w.n, ∃ t', (passFrom step (List.range w.n) w t).1.stOf b = (step (w.cfgOf b) (w.stOf b) t').1 := by
  obtain ⟨p1, -, p3⟩ := passFrom_spec hpos (List.range w.n) w t List.nodup_range
  exact ⟨p1, fun b hb => p3 b (List.mem_range.mpr hb) (hlen ▸ hb)⟩

/-- what `HealthState.reset` writes for one agent: the declared or drawn value through the `health`
setter (`closed`: drawn from the out-of-domain oracle stream of finding K4) -/
def healthStep (closed : Bool) (c : AgentCfg) (s : AgentSt) (t : Tape) : AgentSt × Tape :=
  match c.initHealth with
  | some h => ({ s with health := min (max h 0) 1, active := decide (0 < min (max h 0) 1) }, t)
  | none =>
    let d := if closed then Oracle.uniform01Closed t else Oracle.uniform01 t
    ({ s with health := min (max d.1 0) 1, active := decide (0 < min (max d.1 0) 1) }, d.2)

theorem healthResetFrom_eq (closed : Bool) (l : List Aid) :
    ∀ w t, healthResetFrom closed l w t = passFrom (healthStep closed) l w t := by
  induction l with
  | nil => intro w t; rfl
  | cons a as ih =>
    intro w t
    simp only [healthResetFrom, passFrom, healthStep]
    cases (w.cfgOf a).initHealth <;> simp only [ih, setHealth]

theorem healthStep_pos (closed : Bool) (c : AgentCfg) (s : AgentSt) (t : Tape) :
    (healthStep closed c s t).1.pos = s.pos := by
  unfold healthStep
  cases c.initHealth <;> rfl

theorem healthStep_val {c : AgentCfg} (hc : ∀ h, c.initHealth = some h → 0 < h ∧ h ≤ 1) (s : AgentSt) (t : Tape) :
    ∃ h : Rat, 0 < h ∧ h ≤ 1 ∧ (healthStep false c s t).1 = { s with health := h, active := true } ∧
      ∀ h0, c.initHealth = some h0 → h = h0 := by
  unfold healthStep
  cases hi : c.initHealth with
  | some h =>
    obtain ⟨h0, h1⟩ := hc h hi
    exact ⟨h, h0, h1, by simp only [clamp_id h0 h1, h0, decide_true], fun x hx => by cases hx; rfl⟩
  | none =>
    obtain ⟨h0, h1⟩ := uniform01_pos t
    exact ⟨_, h0, h1, by simp only [Bool.false_eq_true, if_false, clamp_id h0 h1, h0, decide_true],
      fun x hx => by cases hx⟩

theorem healthReset_does {w : World} (t : Tape) (hc : CfgOK w) (hlen : w.st.length = w.cfg.length) :
    VFrame w (w.healthReset t).1 ∧ ∀ b < w.n, ∃ h : Rat, 0 < h ∧ h ≤ 1 ∧
      (w.healthReset t).1.stOf b = { w.stOf b with health := h, active := true } ∧
      ∀ h0, (w.cfgOf b).initHealth = some h0 → h = h0 := by
  rw [healthReset, healthResetFrom_eq]
  obtain ⟨hF, hst⟩ := passFrom_range (healthStep_pos false) w t hlen
  refine ⟨hF, fun b hb => ?_⟩
  obtain ⟨t', e⟩ := hst b hb
  rw [e]
  exact healthStep_val (hc.health b) (w.stOf b) t'

/-- what `AmmoState.reset` writes for one agent (through the `ammo` setter) -/
def ammoStep (c : AgentCfg) (s : AgentSt) (t : Tape) : AgentSt × Tape :=
  (if c.hasAmmo then { s with ammo := if c.initAmmo < 0 then 0 else c.initAmmo } else s, t)

theorem ammoResetFrom_eq (l : List Aid) : ∀ w t, ammoResetFrom l w = (passFrom ammoStep l w t).1 := by
  induction l with
  | nil => intro w t; rfl
  | cons a as ih =>
    intro w t
    simp only [ammoResetFrom, passFrom, ammoStep]
    cases (w.cfgOf a).hasAmmo
    · simp only [Bool.false_eq_true, if_false, setSt_self, ih _ t]
    · simp only [if_true, setAmmo, ih _ t]

theorem ammoStep_pos (c : AgentCfg) (s : AgentSt) (t : Tape) : (ammoStep c s t).1.pos = s.pos := by
  unfold ammoStep
  cases c.hasAmmo <;> rfl

theorem ammoStep_val (c : AgentCfg) (s : AgentSt) (t : Tape) :
    (ammoStep c s t).1 = if c.hasAmmo then { s with ammo := max 0 c.initAmmo } else s := by
  have hval : (if c.initAmmo < 0 then (0 : Int) else c.initAmmo) = max 0 c.initAmmo := by
    by_cases h : c.initAmmo < 0
    · rw [if_pos h]; omega
    · rw [if_neg h]; omega
  simp only [ammoStep, hval]

theorem ammoReset_does {w : World} (hlen : w.st.length = w.cfg.length) :
    VFrame w w.ammoReset ∧ ∀ b < w.n, w.ammoReset.stOf b =
      if (w.cfgOf b).hasAmmo then { w.stOf b with ammo := max 0 (w.cfgOf b).initAmmo } else w.stOf b := by
  rw [ammoReset, ammoResetFrom_eq _ _ []]
  obtain ⟨hF, hst⟩ := passFrom_range ammoStep_pos w [] hlen
  refine ⟨hF, fun b hb => ?_⟩
  obtain ⟨t', e⟩ := hst b hb
  rw [e, ammoStep_val]

theorem randint_direction (t : Tape) : 1 ≤ (Oracle.randint 1 5 t).1.toNat ∧ (Oracle.randint 1 5 t).1.toNat ≤ 4 := by
  simp only [Oracle.randint, Oracle.pop]
  omega

/-- what `OrientationState.reset` writes for one agent: a declared, truthy orientation or a drawn one -/
def orientStep (c : AgentCfg) (s : AgentSt) (t : Tape) : AgentSt × Tape :=
  if c.hasOrient then
    match c.initOrient with
    | some (o + 1) => ({ s with orient := o + 1 }, t)
    | _ => ({ s with orient := (Oracle.randint 1 5 t).1.toNat }, (Oracle.randint 1 5 t).2)
  else (s, t)

theorem orientResetFrom_eq (l : List Aid) : ∀ w t, orientResetFrom l w t = passFrom orientStep l w t := by
  induction l with
  | nil => intro w t; rfl
  | cons a as ih =>
    intro w t
    simp only [orientResetFrom, passFrom, orientStep]
    cases (w.cfgOf a).hasOrient
    · simp only [Bool.false_eq_true, if_false, setSt_self, ih]
    · simp only [if_true]
      cases (w.cfgOf a).initOrient with
      | none => simp only [ih]
      | some o => cases o <;> simp only [ih]

theorem orientStep_pos (c : AgentCfg) (s : AgentSt) (t : Tape) : (orientStep c s t).1.pos = s.pos := by
  unfold orientStep
  split
  · split <;> rfl
  · rfl

theorem orientStep_val {c : AgentCfg} (hc : ∀ o, c.initOrient = some o → o ≤ 4) (s : AgentSt) (t : Tape) :
    (c.hasOrient = true → ∃ x, 1 ≤ x ∧ x ≤ 4 ∧ (orientStep c s t).1 = { s with orient := x } ∧
      ∀ y, c.initOrient = some (y + 1) → x = y + 1) ∧
    (c.hasOrient = false → (orientStep c s t).1 = s) := by
  unfold orientStep
  constructor
  · intro hO
    rw [if_pos hO]
    cases hi : c.initOrient with
    | none => exact ⟨_, (randint_direction t).1, (randint_direction t).2, rfl, fun y hy => by cases hy⟩
    | some o =>
      cases o with
      | zero => exact ⟨_, (randint_direction t).1, (randint_direction t).2, rfl, fun y hy => by cases hy⟩
      | succ o => exact ⟨o + 1, by omega, hc _ hi, rfl, fun y hy => by cases hy; rfl⟩
  · intro hO
    rw [hO]; rfl

theorem orientReset_does {w : World} (t : Tape) (hc : CfgOK w) (hlen : w.st.length = w.cfg.length) :
    VFrame w (w.orientReset t).1 ∧ ∀ b < w.n,
      ((w.cfgOf b).hasOrient = true → ∃ x, 1 ≤ x ∧ x ≤ 4 ∧
        (w.orientReset t).1.stOf b = { w.stOf b with orient := x } ∧
        ∀ y, (w.cfgOf b).initOrient = some (y + 1) → x = y + 1) ∧
      ((w.cfgOf b).hasOrient = false → (w.orientReset t).1.stOf b = w.stOf b) := by
  rw [orientReset, orientResetFrom_eq]
  obtain ⟨hF, hst⟩ := passFrom_range orientStep_pos w t hlen
  refine ⟨hF, fun b hb => ?_⟩
  obtain ⟨t', e⟩ := hst b hb
  rw [e]
  exact orientStep_val (hc.orient b) (w.stOf b) t'

end World
end Abmarl
