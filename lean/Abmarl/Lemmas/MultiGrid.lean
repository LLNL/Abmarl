import Abmarl.Spec.MultiGrid
import Abmarl.Lemmas.ExamplesHist
/-!
# The `reset` of `MultiAgentGridSim` and of `BroadcastSim`: one placement state

`MAG.CompOK`: the placement states the theorems cover.  Such a `reset` is a covered reset of a packaged example
(`CompOK.resetOK`), so it establishes the same invariant (`CompOK.establishes`, from `Ex.comps_establish`).
-/
namespace Abmarl
open World

namespace MAG

/-- `Ex.ResetOK` mentions the configuration only in its clause "`TeamBattleSim` / `PredatorPreyResourcesSim`
reset a `HealthState`"; any other class makes that clause void, `.multiMaze` is one, and its `Ex.Inv` is `Ex.XInvA` -/
def rcfg : Ex.Cfg := { which := .multiMaze, learning := [], comps := [], observers := none, dones := none }

/-- the placement state is covered: `PositionState` / a placement state with well-formed options -/
structure CompOK (w0 : World) (c : StateComp) : Prop where
  pos : ∃ kind o, c = .position kind o
  wf : ∀ kind o, c = .position kind o → wfPlacement kind o w0 = true

theorem compOK_of_b {w0 : World} {c : StateComp} (h : compOKb w0 c = true) : CompOK w0 c := by
  simp only [compOKb, Bool.and_eq_true] at h
  cases c with
  | position kind o => exact ⟨⟨kind, o, rfl⟩, fun k o' he => by cases he; exact h.2⟩
  | _ => cases h.1

theorem CompOK.resetOK {w0 : World} {c : StateComp} (h : CompOK w0 c) : Ex.ResetOK rcfg w0 [c] := by
  obtain ⟨kind, o, rfl⟩ := h.pos
  refine ⟨⟨kind, o, List.mem_singleton.mpr rfl⟩, ?_, ?_, ?_⟩
  · intro hm; cases List.mem_singleton.mp hm
  · intro k o' hm; exact h.wf k o' (List.mem_singleton.mp hm).symm
  · rintro (hc | hc) <;> cases hc

theorem CompOK.establishes {w0 w w' : World} (hcfg : CfgOK w0) (hfresh : w0.vitalsAlive = true) {c : StateComp}
    (hc : CompOK w0 c) {t t' : Tape} (hw : Ex.XInvA w0 w ∨ w = w0) (h : applyComps [c] w t = .ok (w', t')) :
    Ex.XInvA w0 w' :=
  Ex.comps_establish hcfg hfresh hc.resetOK hw h

theorem aliveb_of_healthC {w : World} (h : HealthC w) : aliveb w = true := by
  simp only [aliveb, List.all_eq_true, allAgents, List.mem_range]
  intro a ha
  exact (h a ha).2.2

end MAG
end Abmarl
