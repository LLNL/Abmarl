import Abmarl.Lemmas.Builders
/-!
# Lemmas for C18: the grid builder and the placement at reset

`fromGrid_gridOfAgents`: scanning the grid that holds the layout's agents, cell by cell in
row-major order, meets them in reading order again (`gridFlat_layout`: one induction on the
entries, the grid loop flattened).  `placeInitial_ok`: a successful placement returns the earlier
placements, then in listing order one pair (id, position) for every agent that has an initial
position; a successful reset returns what `placeInitial` returned (`resetPositions_ok`).
`placeInitial_succeeds`, `resetPositions_succeeds`: agents that claim distinct cells of the grid
can always be placed.
-/
namespace Abmarl
namespace Builders

theorem layoutAgents_ipos_inj {reg : Registry} {cols : Nat} {cells : List Nat} {a b : Agent}
    (ha : a ∈ layoutAgents reg cols cells) (hb : b ∈ layoutAgents reg cols cells)
    (h : a.ipos = b.ipos) : a = b := by
  obtain ⟨j, ch, enc, hj, hl, rfl⟩ := mem_layoutAgents.mp ha
  obtain ⟨j', ch', enc', hj', hl', rfl⟩ := mem_layoutAgents.mp hb
  -- the same cell, so the same entry, character and encoding
  cases pos_inj (Option.some.inj h)
  cases hj.symm.trans hj'
  cases hl.symm.trans hl'
  rfl

/-- "agent `a` is to be placed on the cell with flat index `i`" -/
def atCell (cols i : Nat) (a : Agent) : Bool := decide (a.ipos = some (i / cols, i % cols))

/-- on the grid that holds `L` the position check passes at every cell, whatever `L` is: a cell holds those
agents of `L` whose initial position it is -/
theorem gridCellStep_gridOfAgents (rows cols : Nat) (L d : List Agent) {i : Nat} (hi : i < rows * cols) :
    gridCellStep d ((gridOfAgents rows cols L).getD i none) (i / cols) (i % cols) =
      .ok ((L.filter (atCell cols i)).foldl dictSet d) := by
  simp [gridOfAgents, gridCellStep, List.getD_eq_getElem?_getD, List.getElem?_range hi]
  rfl

theorem gridLoop_flat (rows cols : Nat) (g : GridCells) (d : List Agent) :
    gridLoop rows cols g d =
      forRangeE (fun d i => gridCellStep d (g.getD i none) (i / cols) (i % cols)) (rows * cols) 0 d := by
  unfold gridLoop
  rw [forRangeE_nested_flat (fun d r c => gridCellStep d (g.getD (r * cols + c) none) r c) cols rows 0 d]
  simp only [Nat.div_add_mod', Nat.zero_mul]

theorem headAgent_cell {reg : Registry} {cols : Nat} {pre : List Nat} {ch i : Nat} {a : Agent}
    (ha : a ∈ headAgent reg cols pre ch) : atCell cols i a = true ↔ i = pre.length := by
  unfold headAgent at ha
  split at ha
  · cases ha
  · rw [List.mem_singleton.mp ha]
    simp only [atCell, Option.some.injEq, decide_eq_true_eq]
    exact ⟨fun e => (pos_inj e).symm, fun e => e ▸ rfl⟩

theorem layoutFrom_cell {reg : Registry} {cols i : Nat} {a : Agent} :
    ∀ {suf pre : List Nat}, a ∈ layoutFrom reg cols pre suf → atCell cols i a = true → pre.length ≤ i
  | [], _, h, _ => by cases h
  | ch :: rest, pre, h, hc => by
    rw [layoutFrom, List.mem_append] at h
    rcases h with h | h
    · exact Nat.le_of_eq ((headAgent_cell h).mp hc).symm
    · have := layoutFrom_cell h hc
      rw [List.length_append] at this
      omega

/-- On the grid that holds `A ++ layoutFrom pre suf`, where everybody of `A` stands on a cell before
`pre.length`, the flat loop over the cells of `suf` assigns the agents of `suf` in reading order: the cell of
an entry holds that entry's agent (if any) and nothing else, since later entries stand on later cells. -/
theorem gridFlat_layout (rows cols : Nat) (reg : Registry) :
    ∀ (suf pre : List Nat) (A d : List Agent), pre.length + suf.length ≤ rows * cols →
      (∀ a ∈ A, ∀ i, atCell cols i a = true → i < pre.length) →
      forRangeE (fun d i => gridCellStep d
          ((gridOfAgents rows cols (A ++ layoutFrom reg cols pre suf)).getD i none) (i / cols) (i % cols))
        suf.length pre.length d = .ok ((layoutFrom reg cols pre suf).foldl dictSet d) := by
  intro suf
  induction suf with
  | nil => intro pre A d _ _; rfl
  | cons ch rest ih =>
    intro pre A d hlen hA
    simp only [List.length_cons] at hlen
    have hcell : (A ++ layoutFrom reg cols pre (ch :: rest)).filter (atCell cols pre.length) =
        headAgent reg cols pre ch := by
      rw [layoutFrom, List.filter_append, List.filter_append,
        List.filter_eq_nil_iff.mpr fun a ha h => Nat.lt_irrefl _ (hA a ha _ h),
        List.filter_eq_self.mpr fun a ha => (headAgent_cell ha).mpr rfl,
        List.filter_eq_nil_iff.mpr fun a ha h => Nat.not_succ_le_self _ (by simpa using layoutFrom_cell ha h),
        List.nil_append, List.append_nil]
    have ih' := ih (pre ++ [ch]) (A ++ headAgent reg cols pre ch) ((headAgent reg cols pre ch).foldl dictSet d)
    simp only [List.length_append, List.length_cons, List.length_nil, Nat.zero_add, List.append_assoc] at ih'
    rw [List.length_cons, forRangeE, gridCellStep_gridOfAgents rows cols _ d (by omega), hcell, layoutFrom,
      List.foldl_append]
    refine ih' (by omega) fun a ha i hi => ?_
    rcases List.mem_append.mp ha with ha | ha
    · exact Nat.lt_succ_of_lt (hA a ha i hi)
    · exact Nat.lt_succ_of_le (Nat.le_of_eq ((headAgent_cell ha).mp hi))

theorem fromGrid_gridOfAgents (rows cols : Nat) (cells : List Nat) (reg : Registry)
    (extras : List Agent) (hlen : cells.length = rows * cols) :
    fromGrid rows cols (gridOfAgents rows cols (layoutAgents reg cols cells)) extras =
      buildSim rows cols ((layoutAgents reg cols cells).foldl dictSet extras) := by
  unfold fromGrid
  have := gridFlat_layout rows cols reg cells [] [] extras (by simp [hlen]) (by simp)
  simp only [List.nil_append, List.length_nil, hlen] at this
  rw [gridLoop_flat, layoutAgents_eq, this]

theorem placeInitial_ok (rows cols : Nat) :
    ∀ (agents : List Agent) (placed placed' : List (AId × Pos)),
      placeInitial rows cols agents placed = .ok placed' →
      placed' = placed ++ agents.filterMap fun a => a.ipos.map (a.id, ·) := by
  intro agents
  induction agents with
  | nil =>
    intro placed placed' h
    simpa [placeInitial] using h.symm
  | cons a rest ih =>
    intro placed placed' h
    rw [placeInitial] at h
    cases hp : a.ipos with
    | none =>
      rw [hp] at h
      rw [List.filterMap_cons, hp]
      exact ih _ _ h
    | some p0 =>
      simp only [hp] at h
      split at h
      · cases h
      · split at h
        · cases h
        · rw [List.filterMap_cons, hp, ih _ _ h, List.append_assoc]
          rfl

theorem resetPositions_ok {sim : Sim} {placed : List (AId × Pos)} (h : resetPositions sim = .ok placed) :
    placeInitial sim.rows sim.cols sim.agents [] = .ok placed := by
  unfold resetPositions at h
  split at h
  · cases h
  · split at h
    · cases h
    · split at h
      · cases h
      · rename_i hpl _
        exact Except.ok.inj h ▸ hpl

/-- placing agents that all have an initial position inside the grid succeeds when the cells already taken
and the cells still to be claimed are all different -/
theorem placeInitial_succeeds (rows cols : Nat) :
    ∀ (agents : List Agent) (placed : List (AId × Pos)),
      (∀ a ∈ agents, ∃ p, a.ipos = some p ∧ p.1 < rows ∧ p.2 < cols) →
      (placed.map (fun q => some q.2) ++ agents.map (·.ipos)).Nodup →
      ∃ placed', placeInitial rows cols agents placed = .ok placed'
  | [], placed, _, _ => ⟨placed, rfl⟩
  | a :: rest, placed, hin, hnd => by
    obtain ⟨p, hp, hr, hc⟩ := hin a (by simp)
    rw [List.map_cons, hp] at hnd
    have hfree : (placed.any fun q => decide (q.2 = p)) = false := by
      rw [List.any_eq_false]
      intro q hq e
      exact (List.nodup_append.mp hnd).2.2 _ (List.mem_map_of_mem hq) _ List.mem_cons_self
        (by rw [of_decide_eq_true e])
    rw [placeInitial]
    simp only [hp, hfree]
    rw [if_neg (by omega)]
    refine placeInitial_succeeds rows cols rest _ (fun b hb => hin b (by simp [hb])) ?_
    simpa using hnd

theorem resetPositions_succeeds {sim : Sim} (hne : sim.agents ≠ [])
    (hin : ∀ a ∈ sim.agents, ∃ p, a.ipos = some p ∧ p.1 < sim.rows ∧ p.2 < sim.cols)
    (hnd : (sim.agents.map (·.ipos)).Nodup) : ∃ placed, resetPositions sim = .ok placed := by
  obtain ⟨placed, hpl⟩ := placeInitial_succeeds sim.rows sim.cols sim.agents [] hin (by simpa using hnd)
  have hvar : sim.agents.filter (fun a => a.ipos.isNone) = [] :=
    List.filter_eq_nil_iff.mpr fun a ha => by obtain ⟨p, hp, _⟩ := hin a ha; simp [hp]
  refine ⟨placed, ?_⟩
  unfold resetPositions
  rw [List.isEmpty_eq_false_iff.mpr hne, hpl]
  simp [hvar]

end Builders
end Abmarl
