import Abmarl.Spec.Wrappers
import Abmarl.Lemmas.Flatten
import Abmarl.Lemmas.ListAux
/-!
# For C06: the SAR functor, `unflatten` is total on arrays of the right length,
the `unwrapped` chain, `unravel` on the movers' Box, the stub's observations
-/
namespace Abmarl

/-! ## one call of the wrapped simulation = the decoded call on the inner simulation -/

section sar
variable {σ α α' ω ω' ι : Type}

theorem sarCall_eq (S : SimIface σ α ω ι) (dec : Aid → α' → Except Err α) (enc : Aid → ω → ω')
    (s : σ) (c : WCall α') :
    sarCall S dec enc s c =
      (encRet enc (simCallE S s (decodeCall dec c)).1, (simCallE S s (decodeCall dec c)).2.1,
        (simCallE S s (decodeCall dec c)).2.2) := by
  cases c with
  | step acts =>
    simp only [sarCall, decodeCall]
    cases decodeAll dec acts with
    | ok d => rfl
    | error e => rfl
  | _ => rfl

/-- the trace of a wrapped run seen from outside: values through `enc`, ghosts unchanged -/
def encTrace (enc : Aid → ω → ω') (tr : List (SRet ω ι × Option (List (Aid × α)))) :
    List (SRet ω' ι × Option (List (Aid × α))) :=
  tr.map fun e => (encRet enc e.1, e.2)

/-- decode a whole history (fails at the first undecodable action) -/
def decodeCalls (dec : Aid → α' → Except Err α) : List (WCall α') → Except Err (List (WCall α))
  | [] => .ok []
  | c :: cs =>
    match decodeCall dec c with
    | .error e => .error e
    | .ok d =>
      match decodeCalls dec cs with
      | .error e => .error e
      | .ok ds => .ok (d :: ds)

theorem decodeCalls_cons_ok {dec : Aid → α' → Except Err α} {c : WCall α'} {cs : List (WCall α')}
    {ds : List (WCall α)} (h : decodeCalls dec (c :: cs) = .ok ds) :
    ∃ d ds', decodeCall dec c = .ok d ∧ decodeCalls dec cs = .ok ds' ∧ ds = d :: ds' := by
  simp only [decodeCalls] at h
  split at h
  · cases h
  · split at h
    · cases h
    · exact ⟨_, _, ‹_›, ‹_›, (Except.ok.inj h).symm⟩

theorem runWith_simCallE_ok (S : SimIface σ α ω ι) (dec : Aid → α' → Except Err α) :
    ∀ (cs : List (WCall α')) (ds : List (WCall α)) (s : σ), decodeCalls dec cs = .ok ds →
      runWith (simCallE S) s (cs.map (decodeCall dec)) = runWith (simCall S) s ds
  | [], ds, s, h => by
    simp only [decodeCalls, Except.ok.injEq] at h
    subst h; rfl
  | c :: cs, ds, s, h => by
    obtain ⟨d, ds', hc, hcs, rfl⟩ := decodeCalls_cons_ok h
    simp only [List.map_cons, runWith, hc, simCallE, runWith_simCallE_ok S dec cs ds' _ hcs]

theorem decodeAll_ok (dec : Aid → α' → Except Err α) : ∀ (acts : List (Aid × α')),
    (∀ p ∈ acts, ∃ y, dec p.1 p.2 = .ok y) → ∃ d, decodeAll dec acts = .ok d
  | [], _ => ⟨[], rfl⟩
  | p :: rest, h => by
    obtain ⟨y, hy⟩ := h p (by simp)
    obtain ⟨d, hd⟩ := decodeAll_ok dec rest fun x hx => h x (by simp [hx])
    exact ⟨(p.1, y) :: d, by simp only [decodeAll, hy, hd]⟩

theorem decodeCalls_ok (dec : Aid → α' → Except Err α) : ∀ (cs : List (WCall α')),
    (∀ acts, WCall.step acts ∈ cs → ∀ p ∈ acts, ∃ y, dec p.1 p.2 = .ok y) →
    ∃ ds, decodeCalls dec cs = .ok ds
  | [], _ => ⟨[], rfl⟩
  | c :: cs, h => by
    obtain ⟨ds, hds⟩ := decodeCalls_ok dec cs fun acts hm => h acts (by simp [hm])
    have hc : ∃ d, decodeCall dec c = .ok d := by
      cases c with
      | step acts =>
        obtain ⟨d, hd⟩ := decodeAll_ok dec acts (h acts (by simp))
        exact ⟨.step d, by simp only [decodeCall, hd]⟩
      | _ => exact ⟨_, rfl⟩
    obtain ⟨d, hd⟩ := hc
    exact ⟨d :: ds, by simp only [decodeCalls, hd, hds]⟩

theorem decodeCall_obs {dec : Aid → α' → Except Err α} {c : WCall α'} {a : Aid}
    (h : decodeCall dec c = .ok (.obs a)) : c = .obs a := by
  cases c with
  | obs b => simp only [decodeCall, Except.ok.injEq, WCall.obs.injEq] at h; rw [h]
  | step acts => simp only [decodeCall] at h; split at h <;> cases h
  | _ => cases h

theorem simCall_ghost (S : SimIface σ α ω ι) (s : σ) (c : WCall α) : (simCall S s c).2.2 = c.stepArgs := by
  cases c <;> rfl

theorem runWith_simCall_ghosts (S : SimIface σ α ω ι) :
    ∀ (ds : List (WCall α)) (s : σ),
      (runWith (simCall S) s ds).1.map (·.2) = ds.map WCall.stepArgs
  | [], _ => rfl
  | d :: ds, s => by
    simp only [runWith, List.map_cons, simCall_ghost, runWith_simCall_ghosts S ds]

theorem twinCall_eq_predictW (S : SimIface σ α ω ι) (dec : Aid → α' → Except Err α) (enc : Aid → ω → ω')
    (memW : Aid → ω' → Bool) (dump : σ → List Int) (s : σ) (c : WCall α') :
    twinCall S dec enc memW dump (s, s) c =
      (predictW dec enc memW c (simCallE S s (decodeCall dec c)).1
          (dump (simCallE S s (decodeCall dec c)).2.1),
       ((simCallE S s (decodeCall dec c)).2.1, (simCallE S s (decodeCall dec c)).2.1)) := by
  simp only [twinCall, sarCall_eq, predictW]
  cases hd : decodeCall dec c with
  | error er => rfl
  | ok d => simp only [simCallE, simCall_ghost]

/-! ### the total `SimIface` (`sarSim`) agrees with the faithful, raising wrapper (`sarCall`) -/

theorem simCall_sarSim (S : SimIface σ α ω ι) (dec : Aid → α' → Except Err α) (enc : Aid → ω → ω')
    (s : σ) (c : WCall α') (d : WCall α) (h : decodeCall dec c = .ok d) :
    (simCall (sarSim S dec enc) s c).1 = (sarCall S dec enc s c).1 ∧
    (simCall (sarSim S dec enc) s c).2.1 = (sarCall S dec enc s c).2.1 := by
  cases c with
  | step acts =>
    simp only [decodeCall] at h
    cases hd : decodeAll dec acts with
    | ok d' => simp only [simCall, sarCall, sarSim, sarStep, hd, and_self]
    | error e => simp [hd] at h
  | _ => exact ⟨rfl, rfl⟩

theorem encRet_id {ω ι : Type} (r : SRet ω ι) : encRet (fun (_ : Aid) (o : ω) => o) r = r := by
  cases r <;> rfl

theorem SRet.beq_iff [BEq ω] [BEq ι] [LawfulBEq ω] [LawfulBEq ι] (x y : SRet ω ι) :
    SRet.beq x y = true ↔ x = y := by
  cases x <;> cases y <;> simp [SRet.beq]

theorem SRet.beq_refl [BEq ω] [BEq ι] [LawfulBEq ω] [LawfulBEq ι] (x : SRet ω ι) : SRet.beq x x = true :=
  (SRet.beq_iff x x).mpr rfl

theorem answers_simCall (S : SimIface σ α ω ι) (s : σ) (d : WCall α) : d.answers (simCall S s d).1 = true := by
  cases d <;> simp [WCall.answers, simCall]

end sar

mutual
/-- no well-formedness is needed: `unflatten` only looks at the length of the array -/
theorem unflatten_of_length : ∀ (s : Space) (x : List Num), x.length = flatdim s →
    ∃ p, unflatten s x = some p
  | .discrete n st, x, hl => by
    simp only [flatdim] at hl
    cases x with
    | nil => simp at hl
    | cons v vs => exact ⟨_, rfl⟩
  | .multiBinary n, x, _ => ⟨_, rfl⟩
  | .multiDiscrete nvec, x, _ => ⟨_, rfl⟩
  | .box shape lo hi wide, x, hl => ⟨_, by rw [unflatten]; exact if_pos hl⟩
  | .fbox shape lo hi, x, hl => ⟨_, by rw [unflatten]; exact if_pos hl⟩
  | .ubox shape, x, hl => ⟨_, by rw [unflatten]; exact if_pos hl⟩
  | .dict keys ss, x, hl => by
    obtain ⟨ps, hps⟩ := unflattenL_split ss x hl
    exact ⟨_, by rw [unflatten, hps]; rfl⟩
  | .tuple ss, x, hl => by
    obtain ⟨ps, hps⟩ := unflattenL_split ss x hl
    exact ⟨_, by rw [unflatten, hps]; rfl⟩
/-- along the recursion of `split`: each chunk it cuts has the length of the child it goes to -/
theorem unflattenL_split : ∀ (ss : List Space) (x : List Num), x.length = sum (flatdimL ss) →
    ∃ ps, unflattenL ss (split (flatdimL ss) x) = some ps
  | [], _, _ => ⟨[], rfl⟩
  | [s], x, hl => by
    simp only [flatdimL, sum, Nat.add_zero] at hl
    obtain ⟨p, hp⟩ := unflatten_of_length s x hl
    exact ⟨[p], by simp only [flatdimL, split, unflattenL, hp]⟩
  | s :: s' :: ss, x, hl => by
    simp only [flatdimL, sum] at hl
    obtain ⟨p, hp⟩ := unflatten_of_length s (x.take (flatdim s)) (by rw [List.length_take]; omega)
    obtain ⟨ps, hps⟩ := unflattenL_split (s' :: ss) (x.drop (flatdim s))
      (by simp only [List.length_drop, flatdimL, sum]; omega)
    simp only [flatdimL] at hps
    exact ⟨p :: ps, by simp only [flatdimL, split, unflattenL, hp, hps]⟩
end

theorem unflatten_total : ∀ (s : Space) (x : List Num), wfF s = true → x.length = flatdim s →
    ∃ p, unflatten s x = some p :=
  fun s x _ hl => unflatten_of_length s x hl

theorem unflattenL_total : ∀ (ss : List Space) (cs : List (List Num)), wfFL ss = true →
    cs.map List.length = flatdimL ss → ∃ ps, unflattenL ss cs = some ps
  | [], _, _, _ => ⟨[], rfl⟩
  | _ :: _, [], _, h => nomatch h
  | s :: ss, c :: cs, hw, h => by
    simp only [wfFL, Bool.and_eq_true] at hw
    simp only [List.map_cons, flatdimL, List.cons.injEq] at h
    obtain ⟨p, hp⟩ := unflatten_of_length s c h.1
    obtain ⟨ps, hps⟩ := unflattenL_total ss cs hw.2 h.2
    exact ⟨p :: ps, by simp only [unflattenL, hp, hps]⟩

theorem unwrapped_wrapAll : ∀ (stack : List Layer) (b : Nat), stack ≠ [] →
    (wrapAll stack (.base b)).unwrapped? = some (.base b)
  | [], _, h => absurd rfl h
  | [l], b, _ => rfl
  | l :: l' :: ls, b, _ => by
    have ih := unwrapped_wrapAll (l' :: ls) b (by simp)
    simp only [wrapAll] at ih ⊢
    rw [SimObj.unwrapped?, ih]

theorem posOf_base : ∀ (stack : List Layer) (b : Nat),
    posOf (.base b) (wrapAll stack (.base b)).chain = stack.length
  | [], b => by simp [wrapAll, SimObj.chain, posOf]
  | l :: ls, b => by
    have ih := posOf_base ls b
    simp only [wrapAll, SimObj.chain, posOf, ih, List.length_cons]
    have hne : ¬ (SimObj.wrap l (wrapAll ls (.base b)) = .base b) := by intro h; cases h
    simp only [hne, if_false]
    have : ¬ ((ls.length : Int) < 0) := by omega
    simp only [this, if_false]
    omega

theorem unwrappedIdxAux_wrapAll (ch : List SimObj) : ∀ (stack : List Layer) (b : Nat),
    unwrappedIdxAux ch (wrapAll stack (.base b)) = List.replicate stack.length (posOf (.base b) ch)
  | [], b => rfl
  | l :: ls, b => by
    have h := unwrapped_wrapAll (l :: ls) b (by simp)
    simp only [wrapAll] at h
    simp only [wrapAll, unwrappedIdxAux, h, unwrappedIdxAux_wrapAll ch ls b, List.length_cons,
      List.replicate_succ]

/-- `unravel` on the `MoveActor`'s `Box(-R, R, (2,), int)` -/
theorem unravel_moveBox (R k : Nat) (hk : k < (2 * R + 1) * (2 * R + 1)) :
    unravel (.box [2] [-(R : Int), -(R : Int)] [(R : Int), (R : Int)] true) k =
      some (.arr [.int (((k / (2 * R + 1) : Nat) : Int) - R), .int (((k % (2 * R + 1) : Nat) : Int) - R)]) := by
  have hr : ((R : Int) + 1 - -(R : Int)).toNat = 2 * R + 1 := by omega
  simp only [unravel, radices, hr, decode, prod, Nat.mul_one, hk, if_true, Option.map_some, decodeAux,
    Nat.div_one, addLow]
  rfl

theorem spaceObs_mem (sc : SpaceScript) (st : StubSt) (a : Aid) (h : sc.obsPts.getD a [] ≠ []) :
    spaceObs sc st a ∈ sc.obsPts.getD a [] := by
  have hpos : 0 < (sc.obsPts.getD a []).length := List.length_pos_iff.mpr h
  exact getD_mem _ _ _ (Nat.mod_lt _ hpos)

end Abmarl
