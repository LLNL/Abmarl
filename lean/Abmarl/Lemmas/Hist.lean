import Abmarl.Model.Examples
/-!
# What a loop keeps, what a history keeps

**Loops.**  `Ex.foldE` is the `for` loop whose body may raise: the loop rule (`foldE_inv`), a loop none of whose passes
raises returns (`foldE_ok`), a loop whose body appends computes a `flatMap` (`foldE_append`; `foldE_map_append` when it
appends to every list of a dict of lists).

**Histories.**  Every packaged simulation has its own runner `run` (one call `f` after the other, ending with
the first entry that `stop` flags), its own judge `spec` (one entry after the other through `judge`, each
seeing what the previous entry left: `next`) and its own `zip` of calls and entries.  They are separate
recursive definitions of the same shape, so the two inductions are done once here, over the unfolding
equations of the three functions (each holds by `rfl` or by cases on the result).
-/
namespace Abmarl
namespace Ex

theorem foldE_cons_ok {σ β : Type} {f : σ → β → Except GErr σ} {s s' : σ} {x : β} {xs : List β} :
    foldE f s (x :: xs) = .ok s' ↔ ∃ s1, f s x = .ok s1 ∧ foldE f s1 xs = .ok s' := by
  simp only [foldE]
  cases f s x with
  | error e => exact ⟨fun h => (by cases h), fun ⟨_, h, _⟩ => (by cases h)⟩
  | ok s1 => exact ⟨fun h => ⟨s1, rfl, h⟩, fun ⟨_, h1, h⟩ => (by cases h1; exact h)⟩

/-- The loop rule.  The invariant speaks of the items still to come as well as of the state, because one on the
state alone cannot say "`x` will still be visited" or "what is left to run is …". -/
theorem foldE_inv {σ β : Type} {f : σ → β → Except GErr σ} {I : σ → List β → Prop}
    (hf : ∀ s x xs s', I s (x :: xs) → f s x = .ok s' → I s' xs) :
    ∀ (l : List β) (s s' : σ), I s l → foldE f s l = .ok s' → I s' []
  | [], s, s', h0, h => by cases h; exact h0
  | x :: xs, s, s', h0, h =>
    have ⟨s1, h1, h⟩ := foldE_cons_ok.mp h
    foldE_inv hf xs s1 s' (hf s x xs s1 h0 h1) h

theorem foldE_pres {σ β : Type} (f : σ → β → Except GErr σ) (P : σ → Prop)
    (hstep : ∀ s x s', P s → f s x = .ok s' → P s') (l : List β) (s s' : σ) : P s → foldE f s l = .ok s' → P s' :=
  foldE_inv (I := fun s _ => P s) (fun s x _ s' => hstep s x s') l s s'

theorem foldE_ok {σ β : Type} (f : σ → β → Except GErr σ) (P : σ → Prop) (Q : β → Prop)
    (hstep : ∀ (p : σ) (x : β), P p → Q x → ∃ p', f p x = .ok p' ∧ P p') :
    ∀ (l : List β) (p : σ), P p → (∀ x ∈ l, Q x) → ∃ p', foldE f p l = .ok p' ∧ P p' := by
  intro l
  induction l with
  | nil => intro p hP _; exact ⟨p, rfl, hP⟩
  | cons x xs ih =>
    intro p hP hQ
    obtain ⟨p1, h1, hP1⟩ := hstep p x hP (hQ x List.mem_cons_self)
    obtain ⟨p2, h2, hP2⟩ := ih p1 hP1 (fun y hy => hQ y (List.mem_cons_of_mem _ hy))
    exact ⟨p2, by simp only [foldE, h1, h2], hP2⟩

theorem foldE_append {β γ : Type} (f : List γ → β → Except GErr (List γ)) (g : β → List γ)
    (hf : ∀ acc x, f acc x = .ok (acc ++ g x)) :
    ∀ (l : List β) (acc : List γ), foldE f acc l = .ok (acc ++ l.flatMap g) := by
  intro l
  induction l with
  | nil => intro acc; simp [foldE]
  | cons x xs ih =>
    intro acc
    simp only [foldE, hf, ih, List.flatMap_cons, List.append_assoc]

theorem foldE_map_append {κ υ β : Type} (f : List (κ × List υ) → β → Except GErr (List (κ × List υ)))
    (g : β → κ → List υ) (K : List κ) (Q : β → Prop)
    (hf : ∀ r x, r.map (·.1) = K → Q x → f r x = .ok (r.map fun p => (p.1, p.2 ++ g x p.1))) :
    ∀ (l : List β) (r : List (κ × List υ)), r.map (·.1) = K → (∀ x ∈ l, Q x) →
      foldE f r l = .ok (r.map fun p => (p.1, p.2 ++ l.flatMap fun x => g x p.1)) := by
  intro l
  induction l with
  | nil => intro r _ _; simp [foldE]
  | cons x xs ih =>
    intro r hK hQ
    have hK' : (r.map fun p => (p.1, p.2 ++ g x p.1)).map (·.1) = K := by
      rw [List.map_map]
      exact hK
    simp only [foldE, hf r x hK (hQ x List.mem_cons_self),
      ih _ hK' (fun y hy => hQ y (List.mem_cons_of_mem _ hy)), List.map_map, Function.comp_def,
      List.flatMap_cons, List.append_assoc]

end Ex

theorem hist_inv {σ Op E : Type} {f : σ → Op → E × σ} {stop : Op → E → Bool}
    {run : σ → List Op → List E × σ}
    (run_cons : ∀ s op ops, run s (op :: ops) =
      if stop op (f s op).1 then ([(f s op).1], (f s op).2)
      else ((f s op).1 :: (run (f s op).2 ops).1, (run (f s op).2 ops).2))
    (run_nil : ∀ s, run s [] = ([], s))
    {P : σ → Prop} {Q : Op → Prop} (step : ∀ s op, Q op → P s → P (f s op).2) :
    ∀ ops s, (∀ op ∈ ops, Q op) → P s → P (run s ops).2 := by
  intro ops
  induction ops with
  | nil => intro s _ h; rw [run_nil]; exact h
  | cons op ops ih =>
    intro s hQ h
    have h1 := step s op (hQ op List.mem_cons_self) h
    rw [run_cons]
    split
    · exact h1
    · exact ih _ (fun o ho => hQ o (List.mem_cons_of_mem _ ho)) h1

/-- the trace of the model passes the judge: every call from a state of the invariant `P` yields an entry
the judge accepts (`hjudge`, with `V j s`: `j` is what the judge has seen of `s`) and, unless the history
ends there, the judge goes on with what it has seen of the state the call left (`hnext`) -/
theorem hist_spec {σ Op E J : Type} {f : σ → Op → E × σ} {stop : Op → E → Bool}
    {run : σ → List Op → List E × σ} {spec : J → List (Op × E) → Bool}
    {zip : List Op → List E → List (Op × E)} {judge : J → Op → E → Bool} {next : E → J}
    {V : J → σ → Prop} {P : σ → Prop} {Q : Op → Prop}
    (run_cons : ∀ s op ops, run s (op :: ops) =
      if stop op (f s op).1 then ([(f s op).1], (f s op).2)
      else ((f s op).1 :: (run (f s op).2 ops).1, (run (f s op).2 ops).2))
    (run_nil : ∀ s, run s [] = ([], s))
    (zip_cons : ∀ op ops e es, zip (op :: ops) (e :: es) = (op, e) :: zip ops es)
    (zip_nil : ∀ ops, zip ops [] = [])
    (spec_cons : ∀ j op e rest, spec j ((op, e) :: rest) =
      (judge j op e && if stop op e then rest.isEmpty else spec (next e) rest))
    (spec_nil : ∀ j, spec j [] = true)
    (step : ∀ s op, Q op → P s → P (f s op).2)
    (hjudge : ∀ j s op, Q op → P s → V j s → judge j op (f s op).1 = true)
    (hnext : ∀ s op, Q op → P s → stop op (f s op).1 = false → V (next (f s op).1) (f s op).2) :
    ∀ ops s j, (∀ op ∈ ops, Q op) → P s → V j s → spec j (zip ops (run s ops).1) = true := by
  intro ops
  induction ops with
  | nil => intro s j _ _ _; rw [run_nil, zip_nil, spec_nil]
  | cons op ops ih =>
    intro s j hQ hP hV
    have hop := hQ op List.mem_cons_self
    have hj := hjudge j s op hop hP hV
    rw [run_cons]
    cases hs : stop op (f s op).1 with
    | true => simp only [if_true, zip_cons, zip_nil, spec_cons, hj, hs, List.isEmpty_nil, Bool.and_self]
    | false =>
      simp only [Bool.false_eq_true, if_false, zip_cons, spec_cons, hj, hs, Bool.true_and]
      exact ih _ _ (fun o ho => hQ o (List.mem_cons_of_mem _ ho)) (step s op hop hP) (hnext s op hop hP hs)

end Abmarl
