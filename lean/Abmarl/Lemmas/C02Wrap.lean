import Abmarl.Spec.Membership
import Abmarl.Lemmas.Flatten
import Mathlib.Data.Rat.Floor
/-!
# Helper lemmas for C02 (wrapper part): each wrapper layer keeps membership
-/
namespace Abmarl

/-- the children of a Dict point given as `(key, value)` pairs, against those of the Dict space over the same keys -/
theorem memL_dict {β : Type} (sp : Nat → Space) (g : β → Pt) :
    ∀ l : List (Nat × β), (∀ q ∈ l, mem (sp q.1) (g q.2) = true) →
      memL ((l.map (·.1)).map sp) (l.map fun q => g q.2) = true
  | [], _ => rfl
  | q :: l, h => by
    simp only [List.map_cons, memL, Bool.and_eq_true]
    exact ⟨h q List.mem_cons_self, memL_dict sp g l fun y hy => h y (List.mem_cons_of_mem _ hy)⟩

theorem mem_bitPt (b : Bool) : mem (.discrete 2 0) (bitPt b) = true := by
  cases b <;> decide

theorem mem_bitArr (b : Bool) : mem (.multiBinary 1) (bitArr b) = true := by
  cases b <;> decide

theorem ratCeil_le (l : Rat) (v : Int) : ratCeil l ≤ v ↔ l ≤ (v : Rat) := by
  rw [ratCeil, neg_le, Rat.le_floor_iff, Int.cast_neg, neg_le_neg_iff]

theorem memBoxI_ceil_floor : ∀ (lo hi : List Rat) (a : List Num),
    memBoxI (lo.map ratCeil) (hi.map Rat.floor) a = (a.all Num.isInt && memBoxQ lo hi a)
  | [], hi, a => by cases hi <;> cases a <;> simp [memBoxI, memBoxQ]
  | _ :: _, [], a => by cases a <;> simp [memBoxI, memBoxQ]
  | _ :: _, _ :: _, [] => by simp [memBoxI, memBoxQ]
  | _ :: _, _ :: _, .flt _ :: _ => by simp [memBoxI, memBoxQ, Num.isInt]
  | l :: ls, h :: hs, .int i :: vs => by
    simp only [List.map_cons, memBoxI, memBoxQ, List.all_cons, Num.isInt, Num.val, Bool.true_and,
      memBoxI_ceil_floor ls hs vs, ratCeil_le, Rat.le_floor_iff, Bool.and_left_comm]
    -- equal up to the instances deciding `≤` on `Rat`: core's in the model, Mathlib's here
    congr

theorem toSpace_mem (b : FlatBox) (a : List Num) : mem b.toSpace (.arr a) = memFlat b a := by
  unfold FlatBox.toSpace memFlat
  by_cases hk : b.kind = .f
  · simp [hk, mem]
  · simp only [hk, if_false, mem, decide_false, Bool.false_or]
    exact memBoxI_ceil_floor b.lo b.hi a

theorem ravel_sound : MLayer.ravel.Sound (fun s => WF04 s = true) := by
  intro s p hW hm
  obtain ⟨k, hk, hlt, _⟩ := (ravel_codec (WF04_wf hW)).fwd p hm
  refine ⟨.discrete (card s) 0, .scalar (.int (k : Int)), ?_, ?_, ?_⟩
  · simp only [MLayer.ravel, ravelSpace, (ravel_ok s (WF04_wf hW)).pos, if_true]
  · simp only [MLayer.ravel, hk, Option.map_some]
  · simp only [mem, Bool.and_eq_true, decide_eq_true_eq]
    omega

theorem flatten_sound : MLayer.flatten.Sound (fun s => WF05 s = true) := by
  intro s p hW hm
  obtain ⟨a, h1, hok⟩ := flatten_ok s p hW hm
  obtain ⟨fb, h2, h3⟩ := hok.memFlat hW
  refine ⟨fb.toSpace, .arr a, by simp [MLayer.flatten, h2], by simp [MLayer.flatten, h1], ?_⟩
  rw [toSpace_mem]; exact h3

theorem commPt_mem (kb ko : Nat) (oth : List Nat) (buffer : List (Nat × Bool)) (s : Space) (p : Pt)
    (hkeys : buffer.map (·.1) = oth) (hm : mem s p = true) :
    mem (commSpace kb ko oth s) (commPt kb ko buffer p) = true := by
  subst hkeys
  simp only [commSpace, commPt, mem, memL, decide_true, Bool.true_and, Bool.and_true, Bool.and_eq_true]
  exact ⟨memL_dict (fun _ => .discrete 2 0) bitPt buffer fun q _ => mem_bitPt q.2, hm⟩

theorem comm_sound (kb ko : Nat) (oth : List Nat) (buffer : List (Nat × Bool))
    (hkeys : buffer.map (·.1) = oth) : (MLayer.comm kb ko oth buffer).Sound (fun _ => True) := by
  intro s p _ hm
  exact ⟨_, _, rfl, rfl, commPt_mem kb ko oth buffer s p hkeys hm⟩

/-- mask and observations as any two dictionaries over the covered agents -/
theorem superPt_mem_of_dicts (km : Nat) (sp : Nat → Space) (cov : List Nat) (mask : List (Nat × Bool))
    (obs : List (Nat × Pt)) (hm : mask.map (·.1) = cov) (ho : obs.map (·.1) = cov)
    (h : ∀ q ∈ obs, mem (sp q.1) q.2 = true) :
    mem (superSpace km cov sp) (superPt km mask obs) = true := by
  have h1 := memL_dict (fun _ => .multiBinary 1) bitArr mask fun q _ => mem_bitArr q.2
  have h2 := memL_dict sp id obs h
  rw [hm] at h1
  rw [ho] at h2
  simp only [superSpace, superPt, mem, memL, hm, ho, decide_true, Bool.true_and, Bool.and_eq_true]
  exact ⟨h1, h2⟩

theorem superPt_mem (km : Nat) (sp : Nat → Space) (items : List (Nat × Bool × Pt))
    (h : ∀ i ∈ items, mem (sp i.1) i.2.2 = true) :
    mem (superSpace km (items.map (·.1)) sp)
      (superPt km (items.map fun i => (i.1, i.2.1)) (items.map fun i => (i.1, i.2.2))) = true :=
  superPt_mem_of_dicts km sp _ _ _ (List.map_map ..) (List.map_map ..) (List.forall_mem_map.mpr h)

section super
variable {σ α ι : Type}

theorem supObs1_mem (S : SimIface σ α Pt ι) (cfg : SuperCfg Pt) (sp : Aid → Space) (I : σ → Prop)
    (hobs : ∀ s c, I s → mem (sp c) (S.obs s c).1 = true ∧ I (S.obs s c).2)
    (hnull : ∀ c o, cfg.usableNull c = some o → mem (sp c) o = true)
    (st : SupSt σ) (c : Aid) (hI : I st.sim) :
    (supObs1 S cfg st c).1.agent = c ∧ mem (sp c) (supObs1 S cfg st c).1.obs = true ∧
      I (supObs1 S cfg st c).2.sim := by
  unfold supObs1
  split
  · split
    · split
      next o hu => exact ⟨rfl, hnull c o hu, hI⟩
      next => exact ⟨rfl, hobs _ c hI⟩
    · exact ⟨rfl, hobs _ c hI⟩
  · exact ⟨rfl, hobs _ c hI⟩

theorem supObsLoop_mem (S : SimIface σ α Pt ι) (cfg : SuperCfg Pt) (sp : Aid → Space) (I : σ → Prop)
    (hobs : ∀ s c, I s → mem (sp c) (S.obs s c).1 = true ∧ I (S.obs s c).2)
    (hnull : ∀ c o, cfg.usableNull c = some o → mem (sp c) o = true) :
    ∀ (cov : List Aid) (st : SupSt σ), I st.sim →
      (supObsLoop S cfg cov st).1.map (·.agent) = cov ∧
      (∀ i ∈ (supObsLoop S cfg cov st).1, mem (sp i.agent) i.obs = true) ∧
      I (supObsLoop S cfg cov st).2.sim := by
  intro cov
  induction cov with
  | nil => intro st hI; simp [supObsLoop, hI]
  | cons c cs ih =>
    intro st hI
    obtain ⟨h1, h2, h3⟩ := supObs1_mem S cfg sp I hobs hnull st c hI
    obtain ⟨g1, g2, g3⟩ := ih (supObs1 S cfg st c).2 h3
    simp only [supObsLoop, List.map_cons, List.mem_cons]
    refine ⟨by rw [h1, g1], ?_, g3⟩
    rintro i (rfl | hi)
    · rw [h1]; exact h2
    · exact g2 i hi

end super

theorem stack_sound : ∀ (Ls : List (MLayer × (Space → Prop))) (s : Space) (p : Pt),
    (∀ Ld ∈ Ls, Ld.1.Sound Ld.2) → stackDom Ls s → mem s p = true →
    ∃ s' p', stackRun (Ls.map (·.1)) s p = some (s', p') ∧ mem s' p' = true := by
  intro Ls
  induction Ls with
  | nil => intro s p _ _ hm; exact ⟨s, p, rfl, hm⟩
  | cons Ld Ls ih =>
    intro s p hS hD hm
    obtain ⟨L, dom⟩ := Ld
    obtain ⟨hdom, hrest⟩ := hD
    obtain ⟨s1, p1, hs1, hp1, hm1⟩ := hS (L, dom) List.mem_cons_self s p hdom hm
    obtain ⟨s', p', hrun, hm'⟩ := ih s1 p1 (fun Ld hLd => hS Ld (List.mem_cons_of_mem _ hLd))
      (hrest s1 hs1) hm1
    refine ⟨s', p', ?_, hm'⟩
    -- `hs1`, `hp1` still speak of `(L, dom).1`; with the projection reduced they rewrite the unfolded `stackRun`
    simp only [] at hs1 hp1
    simp only [List.map_cons, stackRun]
    rw [hs1, hp1]
    exact hrun

end Abmarl
