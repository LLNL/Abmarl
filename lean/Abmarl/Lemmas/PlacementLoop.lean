import Abmarl.Lemmas.PlacementInv
/-!
# C13 — the placement loops and the specification's `replay` run in lockstep; each kind of step is sound

The specification judges every agent on the OUTCOME of the reset (`stepOK … w' …`), the reset decides on the
world it has.  The two are brought together once: `stepOK_iff` splits the judge's test into what it reads off the
outcome about the agent's cell and `Choice`, which reads no stored position; `place_step` is the one accepted
placement (`placeAt` returns `placedSt`, `PInv` and `Keys` hold on, and `replay` over any later world, `Ext`, gets one
agent further if the cell satisfies `Choice`).  A loop body therefore only names its cell and shows `Choice` on the
state it has (`PlacedOr`, `StepSound`); `loop_replay` carries `PJ` through a loop and assembles `replay`.

Then the two loop bodies, under `RCtx` (what they use of one reset): `mem_avail` says what an availability list holds
in the specification's terms, so a cell taken from it is well chosen (`free_place_sound`) and an empty list
justifies `noCell` (`free_none_justified`); `fixed_stepSound` / `free_stepSound` are `StepSound` for `stepFixed` /
`stepFree`, with `Sealed` as the clause on who stands alone.
-/
namespace Abmarl
open World

/-- `w'` is a later world of the same reset as `w`, e.g. its outcome -/
structure Ext (w w' : World) : Prop extends SameG w w' where
  keep : ∀ i a, a ∈ w.cells.getD i [] → a ∈ w'.cells.getD i [] ∧ w'.stOf a = w.stOf a

theorem Ext.refl (w : World) : Ext w w := ⟨⟨rfl, rfl, rfl, rfl⟩, fun _ _ h => ⟨h, rfl⟩⟩

theorem Ext.trans {a b c : World} (h1 : Ext a b) (h2 : Ext b c) : Ext a c :=
  ⟨h1.toSameG.trans h2.toSameG, fun i x hx =>
    ⟨(h2.keep i x (h1.keep i x hx).1).1, (h2.keep i x (h1.keep i x hx).1).2.trans (h1.keep i x hx).2⟩⟩

theorem ext_placed {w : World} {a : Aid} {p : Pos} (hk : w.idx p < w.cells.length)
    (hun : Unplaced w a) : Ext w (placedWorld w a p) := by
  refine ⟨⟨rfl, rfl, rfl, rfl⟩, fun i b hb => ?_⟩
  exact ⟨(mem_cells_placed hk i b).mpr (Or.inl hb), stOf_placed_ne p (fun e => hun i (e ▸ hb))⟩

theorem unplaced_placed {w : World} {a b : Aid} {p : Pos} (hk : w.idx p < w.cells.length)
    (hb : Unplaced w b) (hba : b ≠ a) : Unplaced (placedWorld w a p) b := by
  intro i hm
  rcases (mem_cells_placed hk i b).mp hm with h | ⟨_, h⟩
  · exact hb i h
  · exact hba h

theorem placedIn_iff {w : World} {a : Aid} : placedIn w a = true ↔ ∃ i, a ∈ w.cells.getD i [] := by
  simp only [placedIn, List.any_eq_true, List.contains_iff_mem]
  constructor
  · rintro ⟨c, hc, hac⟩
    obtain ⟨i, hi, rfl⟩ := List.getElem_of_mem hc
    exact ⟨i, by rw [List.getD_eq_getElem?_getD, List.getElem?_eq_getElem hi]; exact hac⟩
  · rintro ⟨i, h⟩
    have hi := mem_getD_lt h
    rw [List.getD_eq_getElem?_getD, List.getElem?_eq_getElem hi] at h
    exact ⟨w.cells[i], List.getElem_mem hi, h⟩

theorem placedIn_false {w : World} {a : Aid} (h : Unplaced w a) : placedIn w a = false := by
  rw [← Bool.not_eq_true, placedIn_iff]
  exact fun ⟨i, hi⟩ => h i hi

theorem not_unplaced_of_placedIn {w : World} {a : Aid} (h : placedIn w a = true) : ¬ Unplaced w a := by
  intro hu; rw [placedIn_false hu] at h; cases h

theorem Ext.placed_at {w w' : World} {a : Aid} {p : Pos} (hk : w.idx p < w.cells.length)
    (ha : a < w.st.length) (hE : Ext (placedWorld w a p) w') :
    placedIn w' a = true ∧ (w'.stOf a).pos = p := by
  have hmem : a ∈ (placedWorld w a p).cells.getD (w.idx p) [] :=
    (mem_cells_placed hk _ _).mpr (Or.inr ⟨rfl, rfl⟩)
  refine ⟨placedIn_iff.mpr ⟨_, (hE.keep _ _ hmem).1⟩, ?_⟩
  rw [(hE.keep _ _ hmem).2, stOf_placed_same p ha]

theorem putCell_eq {w w' : World} {a : Aid} {p : Pos} (hk : w.idx p < w.cells.length)
    (ha : a < w.st.length) (hE : Ext (placedWorld w a p) w') :
    putCell w' w.cells a = (placedWorld w a p).cells := by
  unfold putCell
  rw [(hE.placed_at hk ha).2, hE.idx]
  rfl

theorem joinOK_query (w : World) (a : Aid) (p : Pos) :
    joinOK w w.cells (w.encOf a) (w.idx p) = w.query a p := by
  rw [query_eq]; rfl

/-- The order in which `_place_variable_position_agent` of `TargetBarriersFreePlacementState` and
`MazePlacementState` prefers cells when it takes the last entry of a sorted list: for encoding `e`, cell `p` is at
least as good as cell `c` — with `cluster_barriers` a barrier goes as near to the target's cell `tp` as it can, a
scattered free agent (`scatter_free_agents`) as far from it. -/
def Better (o : PlaceOpts) (e : Int) (tp p c : Pos) : Prop :=
  if (o.barrier.contains e && o.cluster) = true then sqDist p tp ≤ sqDist c tp else sqDist c tp ≤ sqDist p tp

theorem Better.refl (o : PlaceOpts) (e : Int) (tp p : Pos) : Better o e tp p p := by
  unfold Better
  split <;> exact Int.le_refl _

/-- What `stepOK` asks of the cell `p` on which `a` is put, beyond that it is a cell of the grid which `a` may
join: `p` is the agent's `initial_position` if it has one (`_place_initial_position_agent`); otherwise, unless `a`
is the target that the reset of a target / maze state places itself, what `_place_variable_position_agent`
promises: with `no_overlap_at_reset` the cell is empty, it is a wall / passage cell as the encoding is barrier /
free (`MazePlacementState`), and where the last entry of a sorted list is taken no available cell is better.
A proposition about the static part of `w`, the cell table `cells` of the moment, `p` and the target's cell `tp`:
no position stored in a world is read. -/
def Choice (kind : PKind) (o : PlaceOpts) (w : World) (mz : List Nat) (cells : List (List Aid)) (a : Aid)
    (p tp : Pos) : Prop :=
  (∀ q, (w.cfgOf a).initPos = some q → p = q) ∧
  ((w.cfgOf a).initPos = none → isTargetRole kind o a = false →
    (o.noOverlap = true → cells.getD (w.idx p) [] = []) ∧
    baseOK kind o mz (w.encOf a) (w.idx p) = true ∧
    (kind ≠ .position → o.useLast (w.encOf a) = true → ∀ c, c < w.rows * w.cols →
      baseOK kind o mz (w.encOf a) c = true → availRule w o.noOverlap cells (w.encOf a) c = true →
      Better o (w.encOf a) tp p (w.unravel c)))

theorem Choice.congr {kind : PKind} {o : PlaceOpts} {w w' : World} {mz : List Nat} {cells : List (List Aid)}
    {a : Aid} {p tp : Pos} (hG : SameG w w') (h : Choice kind o w mz cells a p tp) :
    Choice kind o w' mz cells a p tp := by
  unfold Choice at h ⊢
  rwa [hG.cfgOf, hG.encOf, hG.idx, hG.rows, hG.cols, funext (hG.availRule _ _ _), funext hG.unravel]

theorem stepOK_iff {kind : PKind} {o : PlaceOpts} {w' : World} {mz : List Nat} {cells : List (List Aid)}
    {a : Aid} :
    stepOK kind o w' mz cells a = true ↔
      (w'.inGrid (w'.stOf a).pos = true ∧ joinOK w' cells (w'.encOf a) (w'.idx (w'.stOf a).pos) = true ∧
        (cells.any fun c => c.contains a) = false) ∧
      Choice kind o w' mz cells a (w'.stOf a).pos (w'.stOf o.target).pos := by
  unfold stepOK Choice Better
  simp only [Bool.and_eq_true, Bool.not_eq_true', and_assoc]
  refine and_congr_right fun _ => and_congr_right fun _ => and_congr_right fun _ => ?_
  cases (w'.cfgOf a).initPos with
  | some q => simp
  | none =>
    cases isTargetRole kind o a with
    | true => simp
    | false => simp [allCells, List.isEmpty_iff, ← Bool.not_eq_true, Decidable.or_iff_not_imp_left, and_assoc]

def Keys (w0 : World) (s : PSt) : Prop := ∀ a, a < w0.n → w0.encOf a ∈ s.av.map Prod.fst

theorem Keys.lookup {w0 : World} {s : PSt} (h : Keys w0 s) {a : Aid} (ha : a < w0.n) :
    ∃ l, s.av.lookup (w0.encOf a) = some l := lookup_of_mem_keys _ _ (h a ha)

def TPlaced (kind : PKind) (o : PlaceOpts) (start : Pos) (s : PSt) : Prop :=
  kind ≠ .position → (∃ i, o.target ∈ s.w.cells.getD i []) ∧ (s.w.stOf o.target).pos = start

theorem TPlaced.ext {kind : PKind} {o : PlaceOpts} {start : Pos} {s : PSt} {w' : World}
    (h : TPlaced kind o start s) (hE : Ext s.w w') (hkind : kind ≠ .position) :
    (∃ i, o.target ∈ w'.cells.getD i []) ∧ (w'.stOf o.target).pos = start := by
  obtain ⟨⟨i, hi⟩, hpos⟩ := h hkind
  exact ⟨⟨i, (hE.keep i _ hi).1⟩, by rw [(hE.keep i _ hi).2]; exact hpos⟩

theorem TPlaced.placed {kind : PKind} {o : PlaceOpts} {start : Pos} {s s' : PSt} {a : Aid} {p : Pos}
    (h : TPlaced kind o start s) (hk : s.w.idx p < s.w.cells.length) (hua : Unplaced s.w a)
    (hw : s'.w = placedWorld s.w a p) : TPlaced kind o start s' :=
  fun hkind => hw ▸ h.ext (ext_placed hk hua) hkind

theorem place_step {kind : PKind} {o : PlaceOpts} {mz : List Nat} {w0 : World} {base : Int → List Nat} {s : PSt}
    {a : Aid} {p : Pos} (hsym : w0.wOverlapSym = true) (hbase : ∀ e, (base e).Nodup)
    (hI : PInv w0 o.noOverlap base s) (hK : Keys w0 s) (ha : a < w0.n) (hua : Unplaced s.w a)
    (hin : s.w.inGrid p = true) (hq : s.w.query a p = true) :
    placeAt o.noOverlap s a p = .ok (placedSt o.noOverlap s a p) ∧
    PInv w0 o.noOverlap base (placedSt o.noOverlap s a p) ∧ Keys w0 (placedSt o.noOverlap s a p) ∧
    ∀ tail w' err, Ext (placedWorld s.w a p) w' → Choice kind o w0 mz s.w.cells a p (w'.stOf o.target).pos →
      replay kind o w' mz err tail (placedWorld s.w a p).cells = true →
      replay kind o w' mz err (a :: tail) s.w.cells = true := by
  have hk := hI.idx_lt hin
  refine ⟨placeAt_eq hin hq (hua _), hI.placed hsym hbase ha hua hin hq, fun b hb => ?_,
    fun tail w' err hE hCh hrep => ?_⟩
  · rw [placedSt_keys]
    exact hK b hb
  · obtain ⟨hpl, hpos⟩ := hE.placed_at hk (hI.lt_st ha)
    have hG : SameG s.w w' := ((ext_placed hk hua).trans hE).toSameG
    -- what the judge reads off `w'` about `a` is what the reset saw on `s.w`
    have hok : stepOK kind o w' mz s.w.cells a = true := by
      rw [stepOK_iff, hpos, hG.inGrid, hG.joinOK, hG.encOf, hG.idx, joinOK_query]
      exact ⟨⟨hin, hq, placedIn_false hua⟩, hCh.congr (hI.sameG.trans hG)⟩
    rw [replay, if_pos hpl, hok, putCell_eq hk (hI.lt_st ha) hE, hrep]
    rfl

/-- What holds between two calls of `grid.place` in the `reset` of a placement state (`PositionState`,
`TargetBarriersFreePlacementState`, `MazePlacementState`): the invariant `PInv`; `ravelled_positions_available` has
a list for the encoding of every agent; in a target / maze state the target stands on `_target_start` /
`_maze_start` (`start`); and a clause `S` on who stands alone, which is the one thing that differs between the
loop over the agents with an `initial_position` and the loop over the others (`Sealed`, of the target only / of anybody). -/
structure PJ (kind : PKind) (o : PlaceOpts) (w0 : World) (base : Int → List Nat) (start : Pos)
    (S : World → Prop) (s : PSt) : Prop where
  inv : PInv w0 o.noOverlap base s
  keys : Keys w0 s
  tgt : TPlaced kind o start s
  alone : S s.w

/-- What an iteration of a loop of `reset` for an agent `a` that it handles may come to, from state `s`: either
`grid.place(a, p)` and `_update_available_positions(a)` (`placeAt`, after the oracle tape has moved on to `t'`) on a
cell `p` of the grid that `a` may join, well chosen (`Choice` on the state the step has; for every cell when there
is no target) and keeping `S`; or an exception — the `assert` of `_place_initial_position_agent`, the
`RuntimeError` of `_place_variable_position_agent` — whose reason the specification accepts. -/
def PlacedOr (kind : PKind) (o : PlaceOpts) (mz : List Nat) (w0 : World) (start : Pos) (S : World → Prop)
    (s : PSt) (a : Aid) (r : Except GErr PSt) : Prop :=
  (∃ p t', r = placeAt o.noOverlap { s with t := t' } a p ∧ s.w.inGrid p = true ∧
      s.w.query a p = true ∧ S (placedWorld s.w a p) ∧
      ∀ tp, (kind ≠ .position → tp = start) → Choice kind o w0 mz s.w.cells a p tp) ∨
  (∃ e, r = .error e ∧ errJustified kind o s.w mz s.w.cells a (some e) = true)

/-- what one iteration must provide; `P` says which agents the loop handles (it passes over the others) -/
def StepSound (kind : PKind) (o : PlaceOpts) (mz : List Nat) (w0 : World) (base : Int → List Nat) (start : Pos)
    (S : World → Prop) (P : Aid → Bool) (step : PSt → Aid → Except GErr PSt) : Prop :=
  (∀ s a, PInv w0 o.noOverlap base s → P a = false → step s a = .ok s) ∧
  (∀ s a, PJ kind o w0 base start S s → P a = true → a < w0.n → Unplaced s.w a →
    PlacedOr kind o mz w0 start S s a (step s a))

/-- `tail`: what `replay` accepts from the loop's end, so that the loops compose back to front -/
theorem loop_replay {kind : PKind} {o : PlaceOpts} {mz : List Nat} {w0 : World}
    {base : Int → List Nat} {start : Pos} {S : World → Prop} {P : Aid → Bool}
    {step : PSt → Aid → Except GErr PSt} (hsym : w0.wOverlapSym = true) (hbase : ∀ e, (base e).Nodup)
    (hS : StepSound kind o mz w0 base start S P step) :
    ∀ (rest : List Aid) (s : PSt), PJ kind o w0 base start S s → (rest.filter P).Nodup →
      (∀ a ∈ rest, P a = true → a < w0.n ∧ Unplaced s.w a) →
      PJ kind o w0 base start S (runLoop step rest s).2 ∧ Ext s.w (runLoop step rest s).2.w ∧
      (∀ tail w' err,
        (match (runLoop step rest s).1 with
         | some e => w' = (runLoop step rest s).2.w ∧ err = some e
         | none => Ext (runLoop step rest s).2.w w' ∧
                   replay kind o w' mz err tail (runLoop step rest s).2.w.cells = true) →
        replay kind o w' mz err (rest.filter P ++ tail) s.w.cells = true) := by
  intro rest
  induction rest with
  | nil =>
    intro s hJ _ _
    exact ⟨hJ, Ext.refl _, fun tail w' err h => h.2⟩
  | cons a rest ih =>
    intro s hJ hnd hun
    by_cases hP : P a = true
    · have hfilt : (a :: rest).filter P = a :: rest.filter P := by simp [hP]
      rw [hfilt] at hnd
      obtain ⟨ha, hua⟩ := hun a List.mem_cons_self hP
      rcases hS.2 s a hJ hP ha hua with ⟨p, t', hst, hin, hq, hS', hCh⟩ | ⟨e, hst, hej⟩
      · have hk := hJ.inv.idx_lt hin
        obtain ⟨h1, hI', hK', hstep⟩ := place_step (kind := kind) (mz := mz) (s := { s with t := t' })
          hsym hbase (hJ.inv.withTape t') hJ.keys ha hua hin hq
        have hJ' : PJ kind o w0 base start S (placedSt o.noOverlap { s with t := t' } a p) :=
          ⟨hI', hK', hJ.tgt.placed hk hua rfl, hS'⟩
        have hrun : runLoop step (a :: rest) s =
            runLoop step rest (placedSt o.noOverlap { s with t := t' } a p) := by
          simp [runLoop, hst, h1]
        have hun' : ∀ b ∈ rest, P b = true → b < w0.n ∧ Unplaced (placedWorld s.w a p) b := by
          intro b hb hPb
          obtain ⟨hb1, hb2⟩ := hun b (List.mem_cons_of_mem _ hb) hPb
          refine ⟨hb1, unplaced_placed hk hb2 ?_⟩
          rintro rfl
          exact (List.nodup_cons.mp hnd).1 (List.mem_filter.mpr ⟨hb, hPb⟩)
        obtain ⟨r1, r3, r6⟩ := ih _ hJ' (List.nodup_cons.mp hnd).2 hun'
        rw [hrun]
        refine ⟨r1, (ext_placed hk hua).trans r3, fun tail w' err h => ?_⟩
        have hE' : Ext (placedWorld s.w a p) w' := by
          cases hr : (runLoop step rest (placedSt o.noOverlap { s with t := t' } a p)).1 with
          | some e => rw [hr] at h; rw [h.1]; exact r3
          | none => rw [hr] at h; exact r3.trans h.1
        rw [hfilt, List.cons_append]
        -- the target's cell on the outcome is the `start` it had when the step chose
        exact hstep _ w' err hE' (hCh _ fun hkind => (hJ'.tgt.ext hE' hkind).2) (r6 tail w' err h)
      · have hrun : runLoop step (a :: rest) s = (some e, s) := by simp [runLoop, hst]
        rw [hrun]
        refine ⟨hJ, Ext.refl _, ?_⟩
        rintro tail w' err ⟨rfl, rfl⟩
        rw [hfilt, List.cons_append, replay, placedIn_false hua]
        simp [hej]
    · have hP' : P a = false := by simpa using hP
      have hfilt : (a :: rest).filter P = rest.filter P := by simp [hP']
      have hrun : runLoop step (a :: rest) s = runLoop step rest s := by
        simp [runLoop, hS.1 s a hJ.inv hP']
      rw [hfilt] at hnd ⊢
      rw [hrun]
      exact ih s hJ hnd (fun b hb hPb => hun b (List.mem_cons_of_mem _ hb) hPb)

/-- the update rule of the availability lists is the specification's availability rule on the current
cell table (the update asks the table the other way round: the table is symmetric) -/
theorem okCell_eq_availRule {w : World} (hsym : w.wOverlapSym = true) (no : Bool) (e : Int) (c : Nat) :
    okCell w no e c = availRule w no w.cells e c := by
  unfold okCell availRule joinOK
  cases no with
  | true => cases w.cells.getD c [] <;> rfl
  | false =>
    simp only [Bool.not_false, Bool.true_and, Bool.false_eq_true, if_false]
    exact List.all_congr rfl fun b => by rw [ovHas_eq, pairOK_symm hsym]

theorem availRule_joinOK {w : World} {no : Bool} {cells : List (List Aid)} {e : Int} {c : Nat}
    (h : availRule w no cells e c = true) : joinOK w cells e c = true := by
  cases no with
  | false => exact h
  | true =>
    unfold joinOK
    rw [List.isEmpty_iff.mp h]
    rfl

/-- the facts about one reset that the step lemmas use; `start` is the target's cell (target/maze states:
the distances are taken from it), `clash` the hypothesis that excludes finding C13-K1 -/
structure RCtx (kind : PKind) (o : PlaceOpts) (w0 : World) (base : Int → List Nat) (mz : List Nat)
    (start : Pos) : Prop where
  sym : w0.wOverlapSym = true
  baseNodup : ∀ e, (base e).Nodup
  baseMem : ∀ a, a < w0.n → ∀ c, c ∈ base (w0.encOf a) ↔
    (c < w0.rows * w0.cols ∧ baseOK kind o mz (w0.encOf a) c = true)
  fixedIn : ∀ a, a < w0.n → ∀ q, (w0.cfgOf a).initPos = some q → w0.inGrid q = true
  /-- a list that clustered / scattered placement reads from its end gets better towards its end -/
  sorted : ∀ e, kind ≠ .position → o.useLast e = true →
    (base e).Pairwise fun c k => Better o e start (w0.unravel k) (w0.unravel c)
  clash : o.noOverlap = true → kind ≠ .position → (w0.cfgOf o.target).initPos = none →
    ∀ b, b < w0.n → b ≠ o.target → isFixed w0 b = true → w0.pairOK (w0.encOf b) (w0.encOf o.target) = false

/-- Who without an `initial_position` is in the grid: only agents of `T`, and with `no_overlap_at_reset` each of them
is alone on its cell.  While the agents with an `initial_position` are placed `T` is "the target that the reset of a
target / maze state has placed itself"; afterwards it is anybody. -/
def Sealed (T : Aid → Bool) (o : PlaceOpts) (w0 w : World) : Prop :=
  ∀ i a, a ∈ w.cells.getD i [] → (w0.cfgOf a).initPos = none →
    T a = true ∧ (o.noOverlap = true → w.cells.getD i [] = [a])

theorem Sealed.placed {T : Aid → Bool} {o : PlaceOpts} {w0 w : World} {a : Aid} {p : Pos} (hS : Sealed T o w0 w)
    (hk : w.idx p < w.cells.length)
    (hold : o.noOverlap = true → ∀ b ∈ w.cell p, (w0.cfgOf b).initPos ≠ none)
    (hnew : (w0.cfgOf a).initPos = none → T a = true ∧ (o.noOverlap = true → w.cell p = [])) :
    Sealed T o w0 (placedWorld w a p) := by
  intro i b hb hbinit
  rcases (mem_cells_placed hk i b).mp hb with hb | ⟨rfl, rfl⟩
  · refine ⟨(hS i b hb hbinit).1, fun hn => ?_⟩
    rw [cells_placed_ne _ _ _ i fun e => hold hn b (by rw [cell, ← e]; exact hb) hbinit]
    exact (hS i b hb hbinit).2 hn
  · refine ⟨(hnew hbinit).1, fun hn => ?_⟩
    rw [cells_placed_same _ _ _ hk, (hnew hbinit).2 hn]
    rfl

/-- the agents the first loop places (those with an initial position) and the agents the second loop places;
the target of a target/maze state is placed by the state itself -/
def PF (kind : PKind) (o : PlaceOpts) (w0 : World) (a : Aid) : Bool := !isTargetRole kind o a && isFixed w0 a
def PV (kind : PKind) (o : PlaceOpts) (w0 : World) (a : Aid) : Bool := !isTargetRole kind o a && !isFixed w0 a

theorem PF_iff {kind : PKind} {o : PlaceOpts} {w0 : World} {a : Aid} :
    PF kind o w0 a = true ↔ isTargetRole kind o a = false ∧ ∃ q, (w0.cfgOf a).initPos = some q := by
  simp [PF, isFixed, Option.isSome_iff_exists]

theorem PV_iff {kind : PKind} {o : PlaceOpts} {w0 : World} {a : Aid} :
    PV kind o w0 a = true ↔ isTargetRole kind o a = false ∧ (w0.cfgOf a).initPos = none := by
  simp [PV, isFixed]

/-- what the placement states' loops branch on is the specification's `isTargetRole` -/
theorem stepFixed_eq (kind : PKind) (o : PlaceOpts) (s : PSt) (a : Aid) :
    stepFixed kind o s a =
      if isTargetRole kind o a then .ok s
      else match (s.w.cfgOf a).initPos with
        | some p => placeAt o.noOverlap s a p
        | none => .ok s := rfl

theorem stepFree_eq (kind : PKind) (o : PlaceOpts) (s : PSt) (a : Aid) :
    stepFree kind o s a =
      if isTargetRole kind o a then .ok s
      else match (s.w.cfgOf a).initPos with
        | some _ => .ok s
        | none => if kind == .position then placeVarRandom o.noOverlap s a else placeVarTB o s a := rfl

theorem isTargetRole_iff {kind : PKind} {o : PlaceOpts} {a : Aid} :
    isTargetRole kind o a = true ↔ kind ≠ .position ∧ a = o.target := by
  simp [isTargetRole]

theorem isTargetRole_false_ne {kind : PKind} {o : PlaceOpts} {a : Aid}
    (h : isTargetRole kind o a = false) (hk : kind ≠ .position) : a ≠ o.target :=
  fun e => Bool.false_ne_true (h.symm.trans (isTargetRole_iff.mpr ⟨hk, e⟩))

section
variable {kind : PKind} {o : PlaceOpts} {w0 : World} {base : Int → List Nat} {mz : List Nat} {start : Pos}
  (hC : RCtx kind o w0 base mz start) {s : PSt} {a : Aid} (hI : PInv w0 o.noOverlap base s)
include hC hI

theorem mem_avail (ha : a < w0.n) {l : List Nat} (hl : s.av.lookup (w0.encOf a) = some l) (c : Nat) :
    c ∈ l ↔ (c < w0.rows * w0.cols ∧ baseOK kind o mz (w0.encOf a) c = true) ∧
      availRule w0 o.noOverlap s.w.cells (w0.encOf a) c = true := by
  rw [show l = _ from hI.avail _ (mem_of_lookup _ _ _ hl), List.mem_filter, okCell_eq_availRule (hI.sym hC.sym),
    hC.baseMem a ha, hI.sameG.availRule]

theorem free_place_sound (ha : a < w0.n) (hS : Sealed (fun _ => true) o w0 s.w)
    (hinit : (w0.cfgOf a).initPos = none)
    {k : Nat} {l : List Nat} (hl : s.av.lookup (w0.encOf a) = some l) (hk : k ∈ l)
    (hlast : kind ≠ .position → o.useLast (w0.encOf a) = true → l.getLast? = some k) :
    s.w.inGrid (s.w.unravel k) = true ∧ s.w.query a (s.w.unravel k) = true ∧
    Sealed (fun _ => true) o w0 (placedWorld s.w a (s.w.unravel k)) ∧
    ∀ tp, (kind ≠ .position → tp = start) → Choice kind o w0 mz s.w.cells a (s.w.unravel k) tp := by
  have hG := hI.sameG
  obtain ⟨⟨hklt, hkbase⟩, hkav⟩ := (mem_avail hC hI ha hl k).mp hk
  have hklt' : k < s.w.rows * s.w.cols := by rw [hI.rows, hI.cols]; exact hklt
  have hin := unravel_inGrid hklt'
  have hidx : s.w.idx (s.w.unravel k) = k := idx_unravel s.w k
  have hcellk : o.noOverlap = true → s.w.cell (s.w.unravel k) = [] := by
    intro hn; rw [hn] at hkav; rw [cell, hidx]; exact List.isEmpty_iff.mp hkav
  refine ⟨hin, ?_, hS.placed (hI.idx_lt hin) (fun hn b hb => ?_) fun _ => ⟨rfl, hcellk⟩,
    fun tp htp => ⟨fun q hq => ?_, fun _ _ => ?_⟩⟩
  · rw [← joinOK_query, hidx, hG.encOf, hG.joinOK]
    exact availRule_joinOK hkav
  · rw [hcellk hn] at hb
    cases hb
  · rw [hinit] at hq
    cases hq
  · rw [← hG.idx, hidx]
    refine ⟨fun hn => hidx ▸ hcellk hn, hkbase, fun hkind hul c hc hcb hca => ?_⟩
    -- `c` is in the list, which is sorted as its base list is, and `k` is its last element
    have hcl : c ∈ l := (mem_avail hC hI ha hl c).mpr ⟨⟨hc, hcb⟩, hca⟩
    have hsorted : l.Pairwise fun c k => Better o (w0.encOf a) start (w0.unravel k) (w0.unravel c) := by
      rw [show l = _ from hI.avail _ (mem_of_lookup _ _ _ hl)]
      exact (hC.sorted _ hkind hul).filter _
    rw [htp hkind, hG.unravel]
    rcases pairwise_last hsorted (hlast hkind hul) hcl with rfl | h
    · exact Better.refl ..
    · exact h

theorem free_none_justified (ha : a < w0.n) (hinit : (w0.cfgOf a).initPos = none)
    (hnt : isTargetRole kind o a = false) (hl : s.av.lookup (w0.encOf a) = some []) :
    errJustified kind o s.w mz s.w.cells a (some .noCell) = true := by
  have hG := hI.sameG
  have hfix : isFixed s.w a = false := by
    simp only [isFixed, hG.cfgOf, hinit]; rfl
  simp only [errJustified, hnt, hfix, Bool.not_false, Bool.true_and, List.all_eq_true, allCells, hI.rows, hI.cols,
    List.mem_range, hG.encOf, hG.availRule]
  intro c hc
  rw [Bool.not_eq_true', ← Bool.not_eq_true, Bool.and_eq_true]
  exact fun h => List.not_mem_nil ((mem_avail hC hI ha hl c).mpr ⟨⟨hc, h.1⟩, h.2⟩)

end

theorem choice1_spec (l : List Nat) (t : Tape) :
    (l = [] ∧ choice1 l t = (none, t)) ∨ (∃ k, k ∈ l ∧ choice1 l t = (some k, t.tail)) := by
  cases l with
  | nil => left; exact ⟨rfl, rfl⟩
  | cons x xs =>
    right
    refine ⟨(x :: xs).getD (t.headD 0 % (xs.length + 1)) x, ?_, ?_⟩
    · have hlt : t.headD 0 % (xs.length + 1) < (x :: xs).length := by
        simp only [List.length_cons]; exact Nat.mod_lt _ (Nat.succ_pos _)
      rw [List.getD_eq_getElem?_getD, List.getElem?_eq_getElem hlt, Option.getD_some]
      exact List.getElem_mem hlt
    · simp [choice1, Oracle.choiceRepl, Oracle.pop]

/-- `_place_variable_position_agent` of the three states on an agent of the second loop -/
theorem stepFree_cases {kind : PKind} {o : PlaceOpts} {w0 : World} {s : PSt} {a : Aid} {l : List Nat}
    (hG : SameG w0 s.w) (hP : PV kind o w0 a = true) (hl : s.av.lookup (w0.encOf a) = some l) :
    (l = [] ∧ stepFree kind o s a = .error .noCell) ∨
    ∃ k ∈ l, ∃ t', (kind ≠ .position → o.useLast (w0.encOf a) = true → l.getLast? = some k) ∧
      stepFree kind o s a = placeAt o.noOverlap { s with t := t' } a (s.w.unravel k) := by
  obtain ⟨hnt, hinit⟩ := PV_iff.mp hP
  have hrand : (kind ≠ .position → o.useLast (w0.encOf a) = false) →
      (l = [] ∧ placeVarRandom o.noOverlap s a = .error .noCell) ∨
      ∃ k ∈ l, ∃ t', (kind ≠ .position → o.useLast (w0.encOf a) = true → l.getLast? = some k) ∧
        placeVarRandom o.noOverlap s a = placeAt o.noOverlap { s with t := t' } a (s.w.unravel k) := by
    intro hnl
    rcases choice1_spec l s.t with ⟨rfl, hch⟩ | ⟨k, hk, hch⟩
    · exact .inl ⟨rfl, by simp only [placeVarRandom, hG.encOf, hl, hch]⟩
    · exact .inr ⟨k, hk, s.t.tail, fun hk hu => (nomatch (hnl hk).symm.trans hu),
        by simp only [placeVarRandom, hG.encOf, hl, hch]⟩
  rw [stepFree_eq, hnt, hG.cfgOf, hinit]
  simp only [Bool.false_eq_true, if_false]
  by_cases hkind : kind = .position
  · rw [if_pos (by simp [hkind])]
    exact hrand (absurd hkind)
  · rw [if_neg (by simpa using hkind)]
    unfold placeVarTB
    simp only [hG.encOf]
    by_cases hul : o.useLast (w0.encOf a) = true
    · simp only [hul, if_true, hl]
      cases hlast : l.getLast? with
      | none => exact .inl ⟨List.getLast?_eq_none_iff.mp hlast, rfl⟩
      | some k => exact .inr ⟨k, List.mem_of_getLast? hlast, s.t, fun _ _ => rfl, rfl⟩
    · rw [if_neg hul]
      exact hrand fun _ => Bool.eq_false_iff.mpr hul

section
variable {kind : PKind} {o : PlaceOpts} {w0 : World} {base : Int → List Nat} {mz : List Nat} {start : Pos}
  (hC : RCtx kind o w0 base mz start)
include hC

theorem free_stepSound :
    StepSound kind o mz w0 base start (Sealed (fun _ => true) o w0) (PV kind o w0) (stepFree kind o) := by
  constructor
  · intro s a hI hP
    rw [stepFree_eq, (hI.sameG).cfgOf]
    cases ht : isTargetRole kind o a <;> cases hi : (w0.cfgOf a).initPos <;> simp_all [PV, isFixed]
  · intro s a hJ hP ha hua
    obtain ⟨hnt, hinit⟩ := PV_iff.mp hP
    obtain ⟨l, hl⟩ := hJ.keys.lookup ha
    rcases stepFree_cases hJ.inv.sameG hP hl with ⟨rfl, h⟩ | ⟨k, hk, t', hlast, h⟩
    · exact .inr ⟨.noCell, h, free_none_justified hC hJ.inv ha hinit hnt hl⟩
    · exact .inl ⟨s.w.unravel k, t', h, free_place_sound hC hJ.inv ha hJ.alone hinit hl hk hlast⟩

theorem fixed_stepSound :
    StepSound kind o mz w0 base start (Sealed (isTargetRole kind o) o w0) (PF kind o w0)
      (stepFixed kind o) := by
  constructor
  · intro s a hI hP
    rw [stepFixed_eq, (hI.sameG).cfgOf]
    cases ht : isTargetRole kind o a <;> cases hi : (w0.cfgOf a).initPos <;> simp_all [PF, isFixed]
  · intro s a hJ hP ha hua
    have hG := hJ.inv.sameG
    obtain ⟨hnt, q, hinit⟩ := PF_iff.mp hP
    have hin : s.w.inGrid q = true := by rw [hG.inGrid]; exact hC.fixedIn a ha q hinit
    have hinit' : (s.w.cfgOf a).initPos = some q := by rw [hG.cfgOf]; exact hinit
    rw [stepFixed_eq, hnt, hinit']
    simp only [Bool.false_eq_true, if_false]
    cases hq : s.w.query a q with
    | false =>
      refine .inr ⟨.assertion, placeAt_fail hin hq, ?_⟩
      simp [errJustified, hnt, hinit', hin, joinOK_query, hq]
    | true =>
      refine .inl ⟨q, s.t, rfl, hin, hq,
        hJ.alone.placed (hJ.inv.idx_lt hin) (fun hn b hb hbinit => ?_) (fun h => nomatch hinit.symm.trans h),
        fun tp _ => ⟨fun q' h => Option.some.inj (hinit.symm.trans h), fun h => nomatch hinit.symm.trans h⟩⟩
      -- with no-overlap nobody without an initial position stands on `q`: it could only be the target, and `a`
      -- may not overlap with it
      obtain ⟨hkind, rfl⟩ := isTargetRole_iff.mp (hJ.alone _ b hb hbinit).1
      have := hC.clash hn hkind hbinit a ha (isTargetRole_false_ne hnt hkind) (by simp [isFixed, hinit])
      rw [query_eq, List.all_eq_true] at hq
      rw [← hG.pairOK, ← hG.encOf, ← hG.encOf, hq _ hb] at this
      cases this

end
end Abmarl
