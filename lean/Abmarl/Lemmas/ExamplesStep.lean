import Abmarl.Props.C03
import Abmarl.Model.Examples
import Abmarl.Lemmas.Hist
/-!
# One `step` of a packaged example is a history of component calls on one tape

`stepPS_hist`: if `step` of one of the five modelled classes returns, the world and the rest of the tape it leaves are
those of `runGOpsSeq` over the explicit list `stepOps cfg acts` of moves and attacks, the invariant (`SFrame` with the
constructed world, `WInv`, and — for the three classes whose `step` has no `if agent.active:` — "nobody is dead") is
kept, and the reward dict has changed by accruals only (`Accrued`).

Every pass of a loop is inverted once and comes out as a `Pass`: the component call it makes, as an operation of the
history and as a relation between the worlds (`CompCall`), and its accruals.  `CompCall` is to the world what `Accrued`
is to the reward dict: a `step` changes the world by calls of the move actor and the attack actor only, so it keeps
whatever these keep: the invariant (`XInv.call`, `XInvA.call`: no hypothesis on the configuration is needed) and any
property `P` the caller shows them to keep.  `foldE_pass` carries the three along a loop.
-/
namespace Abmarl
open World
namespace Ex

/-- all that a `step` does to the reward dict: `r'` is `r` after some statements `self.rewards[a] += x` (`-=`), none of
which raised.  The `step` methods under /repo/abmarl/examples/sim write `self.rewards` in no other way (`=` stands
in `reset` and `get_reward` only). -/
inductive Accrued : Ledger → Ledger → Prop
  | refl (r : Ledger) : Accrued r r
  | acc {r r1 r' : Ledger} {a : Aid} {x : Int} : accrue r a x = .ok r1 → Accrued r1 r' → Accrued r r'

theorem Accrued.one {r r' : Ledger} {a : Aid} {x : Int} (h : accrue r a x = .ok r') : Accrued r r' :=
  .acc h (.refl r')

theorem Accrued.trans {a b c : Ledger} (h1 : Accrued a b) (h2 : Accrued b c) : Accrued a c := by
  induction h1 with
  | refl => exact h2
  | acc h _ ih => exact .acc h (ih h2)

theorem foldE_frame {β : Type} (f : PS → β → Except GErr PS)
    (hstep : ∀ (p : PS) (x : β) (p' : PS), f p x = .ok p' → p'.w = p.w ∧ p'.t = p.t ∧ Accrued p.r p'.r)
    (l : List β) (p p' : PS) : foldE f p l = .ok p' → p'.w = p.w ∧ p'.t = p.t ∧ Accrued p.r p'.r :=
  foldE_pres f (fun q => q.w = p.w ∧ q.t = p.t ∧ Accrued p.r q.r)
    (fun q x q' h hf => have h' := hstep q x q' hf; ⟨h'.1.trans h.1, h'.2.1.trans h.2.1, h.2.2.trans h'.2.2⟩)
    l p p' ⟨rfl, rfl, .refl _⟩

/-- what every world of a modelled example satisfies: the static part is the constructed one, and the
C03 invariant holds -/
structure XInv (w0 w : World) : Prop where
  frame : SFrame w0 w
  inv : w.WInv = true

/-- for the classes without a component that can kill: nobody is dead -/
structure XInvA (w0 w : World) : Prop extends XInv w0 w where
  alive : HealthC w

theorem inSpace_move_sframe {w0 w : World} (hF : SFrame w0 w) (a : Aid) (d : Pos) :
    (MoveCall.move a d).inSpace w = (MoveCall.move a d).inSpace w0 := by
  simp only [MoveCall.inSpace, hF.sameG.cfgOf]

/-- all that one pass of a loop of `step` does to the world: nothing, a call of the move actor, or — in a class that
has one (`atk`) — a call of an attack actor.  Any agent, any action, any tape: what is known is that the call returned. -/
inductive CompCall (atk : Prop) (w : World) : World → Prop
  | same : CompCall atk w w
  | move {a : Aid} {d : Pos} {res : Option Bool} {w' : World} : w.moveAct a d = .ok (res, w') → CompCall atk w w'
  | attack {acfg : AttackCfg} {a : Aid} {act : AttackAct} {t t' : Tape} {r : Bool × List Aid} {w' : World} : atk →
      processAttack acfg w a act t = .ok (r, w', t') → CompCall atk w w'

theorem CompCall.mono {atk atk' : Prop} {w w' : World} (h : CompCall atk w w') (ha : atk → atk') :
    CompCall atk' w w' := by
  cases h with
  | same => exact .same
  | move hm => exact .move hm
  | attack hb hp => exact .attack (ha hb) hp

/-- for every vitals clause under which an attack may set `active` as it does (`hact`) and a mover may stand on every
cell of the grid (`hpos`) -/
theorem CompCall.invV {atk : Prop} {act : Bool → Rat → Prop} {pos : Pos → Prop} {w w' : World}
    (hact : ∀ h : Rat, act (decide (0 < h)) h) (hpos : ∀ p, w.inGrid p = true → pos p)
    (hI : InvV (Vitals act pos) w) (h : CompCall atk w w') : InvV (Vitals act pos) w' ∧ SFrame w w' := by
  cases h with
  | same => exact ⟨hI, .refl w⟩
  | move hm =>
    exact ⟨(moveAct_step hm).inv hpos hI, (moveAct_step hm).sframe⟩
  | attack _ hp => exact processAttack_inv hact hI hp

theorem moveAct_stOf {w w' : World} {a : Aid} {d : Pos} {res : Option Bool} (h : w.moveAct a d = .ok (res, w'))
    (b : Aid) : ∃ q, w'.stOf b = { w.stOf b with pos := q } := by
  rcases moveAct_ok h with ⟨_, rfl⟩ | ⟨ok, _, hm⟩
  · exact ⟨_, rfl⟩
  · obtain ⟨h1, q, h2⟩ := moveBy_stOf hm b
    by_cases hba : b = a
    · exact ⟨q, hba ▸ h2⟩
    · exact ⟨_, h1 hba⟩

theorem XInv.call {atk : Prop} {w0 w w' : World} (hX : XInv w0 w) (h : CompCall atk w w') : XInv w0 w' :=
  have ⟨hI, hF⟩ := h.invV (fun _ => rfl) (fun _ _ => trivial) ((WInv_iff_InvV w).mp hX.inv)
  ⟨hX.frame.trans hF, (WInv_iff_InvV w').mpr hI⟩

theorem XInvA.call {w0 w w' : World} (hX : XInvA w0 w) (h : CompCall False w w') : XInvA w0 w' := by
  refine ⟨hX.toXInv.call h, fun b hb => ?_⟩
  cases h with
  | same => exact hX.alive b hb
  | move hm =>
    rw [(moveAct_step hm).sframe.sameG.n] at hb
    obtain ⟨q, e⟩ := moveAct_stOf hm b
    rw [e]
    exact hX.alive b hb
  | attack hb _ => exact hb.elim

/-- one pass of a loop of `step`: the component call `g` on the world and the tape, accruals on the reward dict -/
structure Pass (atk : Prop) (g : GOp) (p p' : PS) : Prop where
  hist : runGOpSeq p.w p.t g = .ok (p'.w, p'.t)
  call : CompCall atk p.w p'.w
  acc : Accrued p.r p'.r

theorem foldE_pass {β : Type} {atk : Prop} (f : PS → β → Except GErr PS) (g : β → GOp) (I : World → Prop) (Q : β → Prop)
    (hI : ∀ {w w' : World}, I w → CompCall atk w w' → I w')
    (hstep : ∀ (p : PS) (x : β) (p' : PS), I p.w → Q x → f p x = .ok p' → Pass atk (g x) p p')
    (rest : List GOp) (l : List β) (p p' : PS) (h0 : I p.w) (hQ : ∀ x ∈ l, Q x) (h : foldE f p l = .ok p') :
    runGOpsSeq p.w p.t (l.map g ++ rest) = runGOpsSeq p'.w p'.t rest ∧ I p'.w ∧ Accrued p.r p'.r := by
  -- what is left to run from the state reached is what was to be run from the start
  have ⟨he, h', _, ha⟩ := foldE_inv (I := fun q xs =>
      runGOpsSeq p.w p.t (l.map g ++ rest) = runGOpsSeq q.w q.t (xs.map g ++ rest) ∧
      I q.w ∧ (∀ x ∈ xs, Q x) ∧ Accrued p.r q.r) (fun q x xs q' ⟨he, h1, hQ, ha⟩ hq => by
    have hp := hstep q x q' h1 (hQ x List.mem_cons_self) hq
    refine ⟨he.trans ?_, hI h1 hp.call, fun y hy => hQ y (List.mem_cons_of_mem _ hy), ha.trans hp.acc⟩
    simp only [List.map_cons, List.cons_append, runGOpsSeq, hp.hist]) l p p' ⟨rfl, h0, hQ, .refl _⟩ h
  exact ⟨he, h', ha⟩

theorem accrue_map_ok {r : Ledger} {a : Aid} {v : Int} {w : World} {t : Tape} {p' : PS}
    (h : (accrue r a v).map (fun r' => (⟨w, r', t⟩ : PS)) = .ok p') : p'.w = w ∧ p'.t = t ∧ Accrued r p'.r := by
  obtain ⟨r', hr, he⟩ := map_ok h
  subst he; exact ⟨rfl, rfl, .one hr⟩

theorem kills_accrued {cfg : Cfg} {w : World} {a : Aid} {H : List Aid} {r r' : Ledger}
    (h : foldE (if cfg.which == .predatorPrey then preyKill cfg w a else teamKill cfg w a) r H = .ok r') :
    Accrued r r' := by
  refine foldE_pres _ (Accrued r) (fun r0 v r1 ha h1 => ha.trans ?_) H r r' (.refl r) h
  split at h1
  · unfold preyKill at h1
    split at h1
    · split at h1
      · cases h1
      · rename_i r2 h2
        split at h1
        · exact .acc h2 (.one h1)
        · cases h1; exact .one h2
    · cases h1; exact .refl _
  · unfold teamKill at h1
    split at h1
    · split at h1
      · cases h1
      · rename_i r2 h2
        refine .trans ?_ (.one h1)
        split at h2
        · exact .one h2
        · cases h2; exact .refl _
    · cases h1; exact .refl _

theorem attack1_cases {cfg : Cfg} {p p' : PS} {x : Aid × Act} (h : attack1 cfg p x = .ok p') :
    x.1 < p.w.n ∧ Accrued p.r p'.r ∧
      (((p.w.stOf x.1).active = false ∧ p'.w = p.w ∧ p'.t = p.t) ∨ ((p.w.stOf x.1).active = true ∧
        ∃ r, processAttack cfg.attack p.w x.1 x.2.attack p.t = .ok (r, p'.w, p'.t))) := by
  unfold attack1 at h
  split at h
  · cases h
  · rename_i hn
    refine ⟨Nat.lt_of_not_le hn, ?_⟩
    split at h
    · rename_i hact
      split at h
      · cases h
      · rename_i status H w' t' hp
        have hw : p'.w = w' ∧ p'.t = t' ∧ Accrued p.r p'.r := by
          split at h
          · split at h
            · exact accrue_map_ok h
            · obtain ⟨r', hr, rfl⟩ := map_ok h
              exact ⟨rfl, rfl, kills_accrued hr⟩
          · cases h; exact ⟨rfl, rfl, .refl _⟩
        exact ⟨hw.2.2, .inr ⟨hact, _, by rw [hw.1, hw.2.1]; exact hp⟩⟩
    · cases h; exact ⟨.refl _, .inl ⟨Bool.eq_false_iff.mpr ‹_›, rfl, rfl⟩⟩

theorem attack1_pass {atk : Prop} (hb : atk) {cfg : Cfg} {p p' : PS} {x : Aid × Act} (h : attack1 cfg p x = .ok p') :
    Pass atk (.attack cfg.attack x.1 x.2.attack) p p' := by
  obtain ⟨hlt, ha, ⟨hact, hw, ht⟩ | ⟨hact, r, hp⟩⟩ := attack1_cases h
  · exact ⟨by simp [runGOpSeq, hact, hw, ht], hw ▸ .same, ha⟩
  · exact ⟨by simp [runGOpSeq, hlt, hact, hp, Except.map], .attack hb hp, ha⟩

theorem moveAcc_shape {p p' : PS} {a : Aid} {d : Pos} (h : moveAcc p a d = .ok p') :
    ∃ res, p.w.moveAct a d = .ok (res, p'.w) ∧ p'.t = p.t ∧ Accrued p.r p'.r := by
  unfold moveAcc at h
  split at h
  · cases h
  · rename_i res w' hm
    split at h
    · cases h; exact ⟨res, hm, rfl, .refl _⟩
    · obtain ⟨hw, ht, ha⟩ := accrue_map_ok h
      exact ⟨res, by rw [hw]; exact hm, ht, ha⟩

theorem moveAcc_pass {atk : Prop} {p p' : PS} {a : Aid} {d : Pos} (ha : a < p.w.n)
    (hact : (p.w.stOf a).active = true) (hsp : (MoveCall.move a d).inSpace p.w = true) (h : moveAcc p a d = .ok p') :
    Pass atk (.move (.move a d)) p p' := by
  obtain ⟨res, hm, ht, hr⟩ := moveAcc_shape h
  have hg : (decide ((MoveCall.move a d).agent < p.w.n) && (p.w.stOf (MoveCall.move a d).agent).active &&
      (MoveCall.move a d).inSpace p.w) = true := by
    simp [MoveCall.agent, ha, hact, hsp]
  exact ⟨by simp only [runGOpSeq, hg, if_true, runMoveCall, hm, Except.map, ht], .move hm, hr⟩

theorem moveGuarded1_pass {atk : Prop} {p p' : PS} {x : Aid × Act}
    (hsp : (MoveCall.move x.1 x.2.move).inSpace p.w = true) (h : moveGuarded1 p x = .ok p') :
    Pass atk (.move (.move x.1 x.2.move)) p p' := by
  unfold moveGuarded1 at h
  split at h
  · cases h
  · rename_i hn
    split at h
    · exact moveAcc_pass (Nat.lt_of_not_le hn) ‹_› hsp h
    · rename_i hact
      cases h
      exact ⟨by simp [runGOpSeq, MoveCall.agent, hact], .same, .refl _⟩

theorem entropy1_frame (p : PS) (x : Aid × Act) (p' : PS) (h : entropy1 p x = .ok p') :
    p'.w = p.w ∧ p'.t = p.t ∧ Accrued p.r p'.r := accrue_map_ok h

def MovesInSpace (w0 : World) (acts : List (Aid × Act)) : Prop :=
  ∀ x ∈ acts, (MoveCall.move x.1 x.2.move).inSpace w0 = true

theorem stepBattle_hist {cfg : Cfg} {w0 : World} {p p' : PS} {acts : List (Aid × Act)} {I : World → Prop}
    (hI : ∀ {w w' : World}, I w → CompCall True w w' → I w') (hF : ∀ {w : World}, I w → SFrame w0 w) (h0 : I p.w)
    (hsp : MovesInSpace w0 acts) (h : stepBattle cfg p acts = .ok p') :
    runGOpsSeq p.w p.t
      (acts.map (fun x => GOp.attack cfg.attack x.1 x.2.attack) ++
       acts.map (fun x => GOp.move (.move x.1 x.2.move))) = .ok (p'.w, p'.t) ∧ I p'.w ∧ Accrued p.r p'.r := by
  unfold stepBattle at h
  split at h
  · cases h
  · rename_i p1 h1
    split at h
    · cases h
    · rename_i p2 h2
      obtain ⟨r1, hI1, a1⟩ := foldE_pass (attack1 cfg) (fun x => GOp.attack cfg.attack x.1 x.2.attack) I
        (fun _ => True) hI (fun _ _ _ _ _ hs => attack1_pass trivial hs)
        (acts.map fun x => GOp.move (.move x.1 x.2.move)) acts p p1 h0 (fun _ _ => trivial) h1
      obtain ⟨r2, hI2, a2⟩ := foldE_pass moveGuarded1 (fun x => GOp.move (.move x.1 x.2.move)) I
        (fun x => (MoveCall.move x.1 x.2.move).inSpace w0 = true) hI
        (fun q _ _ hq hx hs => moveGuarded1_pass (by rw [inSpace_move_sframe (hF hq)]; exact hx) hs) [] acts p1 p2 hI1
        hsp h2
      obtain ⟨e1, e2, a3⟩ := foldE_frame entropy1 entropy1_frame acts p2 p' h
      rw [List.append_nil] at r2
      rw [r1, r2, e1, e2]
      exact ⟨rfl, hI2, (a1.trans a2).trans a3⟩

def MovesOK (w0 : World) (acts : List (Aid × Act)) : Prop :=
  ∀ x ∈ acts, x.1 < w0.n ∧ (MoveCall.move x.1 x.2.move).inSpace w0 = true

theorem multi1_shape {cfg : Cfg} {p p' : PS} {x : Aid × Act} (h : multi1 cfg p x = .ok p') :
    ∃ p1, moveAcc p x.1 x.2.move = .ok p1 ∧ p'.w = p1.w ∧ p'.t = p1.t ∧ Accrued p1.r p'.r := by
  unfold multi1 at h
  split at h
  · cases h
  · split at h
    · cases h
    · rename_i p1 hm
      split at h
      · cases h
      · split at h
        · cases h
        · rename_i r1 h1
          obtain ⟨r2, h2, he⟩ := map_ok h
          subst he
          refine ⟨p1, hm, rfl, rfl, .trans ?_ (.one h2)⟩
          split at h1
          · exact .one h1
          · cases h1; exact .refl _

theorem traffic1_shape {cfg : Cfg} {p p' : PS} {x : Aid × Act} (h : traffic1 cfg p x = .ok p') :
    ∃ p1, moveAcc p x.1 x.2.move = .ok p1 ∧ p'.w = p1.w ∧ p'.t = p1.t ∧ Accrued p1.r p'.r := by
  unfold traffic1 at h
  split at h
  · cases h
  · split at h
    · cases h
    · rename_i p1 hm
      split at h
      · cases h
      · exact ⟨p1, hm, accrue_map_ok h⟩
      · cases h; exact ⟨_, hm, rfl, rfl, .refl _⟩

theorem stepMaze_shape {cfg : Cfg} {p p' : PS} {acts : List (Aid × Act)} (h : stepMaze cfg p acts = .ok p') :
    ∃ act p1, acts.lookup cfg.navigator = some act ∧ moveAcc p cfg.navigator act.move = .ok p1 ∧
      p'.w = p1.w ∧ p'.t = p1.t ∧ Accrued p1.r p'.r := by
  unfold stepMaze at h
  split at h
  · cases h
  · rename_i act hl
    split at h
    · cases h
    · rename_i p1 hm
      split at h
      · cases h
      · rename_i r1 h1
        obtain ⟨r2, h2, he⟩ := map_ok h
        subst he
        refine ⟨act, p1, hl, hm, rfl, rfl, .trans ?_ (.one h2)⟩
        split at h1
        · exact .one h1
        · cases h1; exact .refl _

theorem pass_of_move {atk : Prop} {w0 : World} {p p' : PS} {a : Aid} {d : Pos} (hX : XInvA w0 p.w)
    (hx : a < w0.n ∧ (MoveCall.move a d).inSpace w0 = true)
    (h : ∃ p1, moveAcc p a d = .ok p1 ∧ p'.w = p1.w ∧ p'.t = p1.t ∧ Accrued p1.r p'.r) :
    Pass atk (.move (.move a d)) p p' := by
  obtain ⟨p1, hm, hw, ht, ha⟩ := h
  have ha' : a < p.w.n := by rw [hX.frame.sameG.n]; exact hx.1
  have h1 : Pass atk _ p p1 :=
    moveAcc_pass ha' (hX.alive a ha').2.2 (by rw [inSpace_move_sframe hX.frame]; exact hx.2) hm
  exact ⟨by rw [hw, ht]; exact h1.hist, hw ▸ h1.call, h1.acc.trans ha⟩

/-- the hypotheses on the action dict of one `step`, as seen from the constructed world -/
def ActsOK (cfg : Cfg) (w0 : World) (acts : List (Aid × Act)) : Prop :=
  match cfg.which with
  | .teamBattle | .predatorPrey => MovesInSpace w0 acts
  | .mazeNav => cfg.navigator < w0.n ∧
      ∀ act, acts.lookup cfg.navigator = some act → (MoveCall.move cfg.navigator act.move).inSpace w0 = true
  | .multiMaze | .traffic => MovesOK w0 acts

/-- the invariant of the class: the three classes without `if agent.active:` also keep everybody alive -/
def Inv (cfg : Cfg) (w0 w : World) : Prop :=
  match cfg.which with
  | .teamBattle | .predatorPrey => XInv w0 w
  | _ => XInvA w0 w

theorem Inv.xinv {cfg : Cfg} {w0 w : World} (h : Inv cfg w0 w) : XInv w0 w := by
  unfold Inv at h
  cases hc : cfg.which <;> rw [hc] at h <;> first | exact h | exact h.toXInv

/-- **one `step` is a history** (see the head of the file); `P`: any property of worlds that the component calls keep
in worlds of the invariant -/
theorem stepPS_hist {cfg : Cfg} {w0 : World} {p p' : PS} {acts : List (Aid × Act)} {P : World → Prop}
    (hK : ∀ {w w' : World}, XInv w0 w → P w →
      CompCall (cfg.which = .teamBattle ∨ cfg.which = .predatorPrey) w w' → P w')
    (hX : Inv cfg w0 p.w) (hP : P p.w) (hA : ActsOK cfg w0 acts) (h : stepPS cfg p acts = .ok p') :
    runGOpsSeq p.w p.t (stepOps cfg acts) = .ok (p'.w, p'.t) ∧ (Inv cfg w0 p'.w ∧ P p'.w) ∧ Accrued p.r p'.r := by
  have hKA : ∀ {w w' : World}, XInvA w0 w ∧ P w → CompCall False w w' → XInvA w0 w' ∧ P w' :=
    fun hI c => ⟨hI.1.call c, hK hI.1.toXInv hI.2 (c.mono False.elim)⟩
  unfold stepPS at h
  unfold Inv at hX ⊢
  unfold ActsOK at hA
  unfold stepOps
  cases hc : cfg.which <;> rw [hc] at h hX hA <;> simp only at h hX hA ⊢
  · exact stepBattle_hist (I := fun w => XInv w0 w ∧ P w)
      (fun hI c => ⟨hI.1.call c, hK hI.1 hI.2 (c.mono fun _ => .inl hc)⟩) (·.1.frame) ⟨hX, hP⟩ hA h
  · exact stepBattle_hist (I := fun w => XInv w0 w ∧ P w)
      (fun hI c => ⟨hI.1.call c, hK hI.1 hI.2 (c.mono fun _ => .inr hc)⟩) (·.1.frame) ⟨hX, hP⟩ hA h
  · obtain ⟨act, p1, hl, hm⟩ := stepMaze_shape h
    have hs := pass_of_move (atk := False) hX ⟨hA.1, hA.2 act hl⟩ ⟨p1, hm⟩
    rw [hl]
    exact ⟨by simp only [runGOpsSeq, hs.hist], hKA ⟨hX, hP⟩ hs.call, hs.acc⟩
  · have hl := foldE_pass (multi1 cfg) (fun x => GOp.move (.move x.1 x.2.move)) (fun w => XInvA w0 w ∧ P w)
      (fun x => x.1 < w0.n ∧ (MoveCall.move x.1 x.2.move).inSpace w0 = true) hKA
      (fun _ _ _ hI hx h => pass_of_move hI.1 hx (multi1_shape h)) [] acts p p' ⟨hX, hP⟩ hA h
    rw [List.append_nil] at hl
    exact hl
  · have hl := foldE_pass (traffic1 cfg) (fun x => GOp.move (.move x.1 x.2.move)) (fun w => XInvA w0 w ∧ P w)
      (fun x => x.1 < w0.n ∧ (MoveCall.move x.1 x.2.move).inSpace w0 = true) hKA
      (fun _ _ _ hI hx h => pass_of_move hI.1 hx (traffic1_shape h)) [] acts p p' ⟨hX, hP⟩ hA h
    rw [List.append_nil] at hl
    exact hl

end Ex
end Abmarl
