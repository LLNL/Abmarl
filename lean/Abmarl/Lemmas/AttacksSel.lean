import Abmarl.Lemmas.AttacksBook
import Mathlib.Tactic.NormNum
import Mathlib.Algebra.Order.Field.Basic
import Abmarl.Lemmas.Observers
import Mathlib.Data.List.Nodup
/-!
# C11 lemmas: who may be selected, and whom the scan of the window meets

For **every** tape `choiceRepl` yields members, `choiceNoRepl` a sub-selection of the right length (Lemmas/Oracle.lean),
`uniform` a value below 1.  Hence `Picked`, the legal outcomes of `_subset_attackables`, and a scan (`scanCands`) keeps, in
order, candidates that pass the deterministic tests `detOK` of `_basic_criteria`, all of them at accuracy 1.  `SelOK` is
what an actor's `_determine_attack` owes the specification: its clauses survive the ammunition filter (a sub-selection) and
combine with the bookkeeping clause to `AttackSpec` (`AttackSpec_of_SelOK`).

Then the window.  Under `WInv` the candidates the actors read from the cell table of the local grid are the agents the
specification calls eligible by their *positions*: `b` is met in window cell `(i, j)` iff it is a real, active agent at
that offset from the attacker on a cell that is not hidden (`mem_cellCands`, by C10: `Mask.cellAt_maskOf_spec`; for the whole
window of any range `mem_windowCands`, which the broadcast scan of Lemmas/BroadcastDeliv.lean uses as well).  Nobody is met
twice, so lists of candidates can be counted against `eligList` (`length_eq_countP`).
-/
namespace Abmarl
namespace Oracle

theorem choiceRepl_mem {β : Type} (l : List β) (k : Nat) (t : Tape) :
    ∀ x ∈ (choiceRepl l k t).1, x ∈ l := by
  induction k generalizing t with
  | zero => intro x hx; simp [choiceRepl] at hx
  | succ k ih =>
    cases l with
    | nil => intro x hx; simp [choiceRepl] at hx
    | cons y ys =>
      intro x hx
      simp only [choiceRepl, pop] at hx
      rcases List.mem_cons.mp hx with h | h
      · have hlt : t.headD 0 % (ys.length + 1) < (y :: ys).length := Nat.mod_lt _ (Nat.succ_pos _)
        rw [h, ← List.getElem_eq_getD (h := hlt) y]
        exact List.getElem_mem _
      · exact ih _ x h

theorem choiceRepl_length {β : Type} (l : List β) (hl : l ≠ []) (k : Nat) (t : Tape) :
    (choiceRepl l k t).1.length = k := by
  induction k generalizing t with
  | zero => simp [choiceRepl]
  | succ k ih =>
    cases l with
    | nil => exact absurd rfl hl
    | cons y ys => simp only [choiceRepl, pop, List.length_cons, ih]

theorem choiceRepl_nil {β : Type} (k : Nat) (t : Tape) : (choiceRepl ([] : List β) k t).1 = [] := by
  cases k <;> simp [choiceRepl]

/-- numpy's `uniform()` is below 1: with accuracy 1 an attack never fails -/
theorem uniform_lt_one (t : Tape) : (uniform t).1 < 1 := by
  show mkRat ((t.headD 0 % 1024 : Nat) : Int) 1024 < 1
  rw [Rat.mkRat_eq_div, div_lt_one (by norm_num)]
  exact_mod_cast Nat.mod_lt (t.headD 0) (by norm_num : 0 < 1024)

end Oracle

theorem nodup_of_subperm {α : Type} {H L : List α} (h : H.Subperm L) (hL : L.Nodup) : H.Nodup := by
  obtain ⟨l, hp, hs⟩ := h
  exact hp.nodup_iff.mp (hs.nodup hL)

namespace World

theorem expected_le (stacked : Bool) (lim E : Nat) : expected stacked lim E ≤ lim := by
  unfold expected; split
  · split <;> omega
  · omega

theorem expected_zero (stacked : Bool) (E : Nat) : expected stacked 0 E = 0 :=
  Nat.le_zero.mp (expected_le stacked 0 E)

/-- `P` is a legal outcome of `_subset_attackables(S, k)`: members of `S`, as many as `expected` says (`min k |S|`
without stacking; `k` with stacking, none if `S` is empty), and without stacking taken from different positions of `S` -/
structure Picked (stacked : Bool) (S : List Aid) (k : Nat) (P : List Aid) : Prop where
  mem       : ∀ x ∈ P, x ∈ S
  length_eq : P.length = expected stacked k S.length
  subperm   : stacked = false → P.Subperm S

theorem subsetAttackables_picked (stacked : Bool) (S : List Aid) (k : Nat) (t : Tape) :
    Picked stacked S k (subsetAttackables stacked S k t).1 := by
  unfold subsetAttackables
  cases stacked with
  | true =>
    simp only [Bool.not_true, Bool.false_and, Bool.false_eq_true, if_false, if_true]
    refine ⟨Oracle.choiceRepl_mem S k t, ?_, fun h => (by cases h)⟩
    cases S with
    | nil => rw [Oracle.choiceRepl_nil]; rfl
    | cons x xs => rw [Oracle.choiceRepl_length _ (List.cons_ne_nil x xs)]; rfl
  | false =>
    simp only [Bool.not_false, Bool.true_and, Bool.false_eq_true, if_false]
    split
    · rename_i hk
      exact ⟨fun _ h => h, (Nat.min_eq_right (Nat.le_of_lt (of_decide_eq_true hk))).symm, fun _ => List.Subperm.refl S⟩
    · exact ⟨(Oracle.choiceNoRepl_subperm S k t).subset, Oracle.choiceNoRepl_length S k t,
        fun _ => Oracle.choiceNoRepl_subperm S k t⟩

theorem Picked.nil (stacked : Bool) (k : Nat) : Picked stacked [] k [] :=
  ⟨fun _ h => h, by cases stacked <;> simp [expected], fun _ => List.Subperm.refl _⟩

theorem Picked.single {stacked : Bool} {S : List Aid} {v : Aid} (hv : v ∈ S) : Picked stacked S 1 [v] := by
  have : 0 < S.length := List.length_pos_of_mem hv
  refine ⟨fun x hx => List.mem_singleton.mp hx ▸ hv, ?_, fun _ => (List.singleton_sublist.mpr hv).subperm⟩
  cases stacked
  · exact (Nat.min_eq_left this).symm
  · exact (if_neg (Nat.ne_of_gt this)).symm

theorem subsetAttackables_mem (stacked : Bool) (S : List Aid) (k : Nat) (t : Tape) :
    ∀ x ∈ (subsetAttackables stacked S k t).1, x ∈ S :=
  (subsetAttackables_picked stacked S k t).mem

theorem Picked.length_le {stacked : Bool} {S P : List Aid} {k : Nat} (h : Picked stacked S k P) :
    P.length ≤ k := h.length_eq ▸ expected_le ..

theorem Picked.nodup {S P : List Aid} {k : Nat} (h : Picked false S k P) (hS : S.Nodup) : P.Nodup :=
  nodup_of_subperm (h.subperm rfl) hS

/-- the three deterministic tests of `_basic_criteria` -/
def detOK (cfg : AttackCfg) (w : World) (a b : Aid) : Bool :=
  (b != a) && (w.stOf b).active && mayAttack cfg.mapping w a b

theorem eligible_eq (cfg : AttackCfg) (w : World) (a b : Aid) :
    eligible cfg w a b =
      (detOK cfg w a b && Mask.inWin (w.cfgOf a).attackRange (w.offs a b).1 &&
        Mask.inWin (w.cfgOf a).attackRange (w.offs a b).2 &&
        !Mask.hiddenBySpec (w.cfgOf a).attackRange (w.specBlockers a) (w.offs a b).1 (w.offs a b).2) := rfl

theorem basicCriteria_row {cfg : AttackCfg} {w : World} {a : Aid} {s : List Int}
    (hmap : cfg.mapping.lookup (w.encOf a) = some s) (b : Aid) (t : Tape) :
    basicCriteria cfg w a b t =
      .ok (detOK cfg w a b && decide ((Oracle.uniform t).1 ≤ (w.cfgOf a).accuracy),
           if detOK cfg w a b = true then (Oracle.uniform t).2 else t) := by
  unfold basicCriteria detOK mayAttack
  rw [hmap]
  by_cases h1 : b = a
  · simp [h1]
  · by_cases h2 : (w.stOf b).active = true
    · by_cases h3 : w.encOf b ∈ s
      · by_cases h4 : (Oracle.uniform t).1 > (w.cfgOf a).accuracy
        · simp [h1, h2, h3, h4, not_le.mpr h4]
        · simp [h1, h2, h3, h4, not_lt.mp h4]
      · simp [h1, h2, h3]
    · simp [h1, h2]

theorem basicCriteria_no_row {cfg : AttackCfg} {w : World} {a : Aid}
    (hmap : cfg.mapping.lookup (w.encOf a) = none) (b : Aid) (t : Tape) :
    basicCriteria cfg w a b t =
      if b = a ∨ (w.stOf b).active = false then .ok (false, t) else .error .keyError := by
  unfold basicCriteria
  rw [hmap]
  by_cases h1 : b = a
  · simp [h1]
  · cases h2 : (w.stOf b).active <;> simp [h1]

theorem basicCriteria_ok {cfg : AttackCfg} {w : World} {a b : Aid} {t t' : Tape} {ok : Bool}
    (h : basicCriteria cfg w a b t = .ok (ok, t')) :
    (ok = true → detOK cfg w a b = true) ∧ (1 ≤ (w.cfgOf a).accuracy → ok = detOK cfg w a b) := by
  cases hmap : cfg.mapping.lookup (w.encOf a) with
  | none =>
    rw [basicCriteria_no_row hmap] at h
    split at h
    · cases h
      exact ⟨fun h => (by cases h), fun _ => by simp [detOK, mayAttack, hmap]⟩
    · cases h
  | some s =>
    rw [basicCriteria_row hmap] at h
    cases h
    refine ⟨fun h => (Bool.and_eq_true _ _ ▸ h).1, fun hacc => ?_⟩
    rw [decide_eq_true (le_trans (le_of_lt (Oracle.uniform_lt_one t)) hacc), Bool.and_true]

theorem scanCands_ok {cfg : AttackCfg} {w : World} {a : Aid} (C : List Aid) {t t' : Tape} {S : List Aid}
    (h : scanCands cfg w a C t = .ok (S, t')) :
    S.Sublist (C.filter (detOK cfg w a)) ∧ (1 ≤ (w.cfgOf a).accuracy → S = C.filter (detOK cfg w a)) := by
  induction C generalizing t t' S with
  | nil => cases h; exact ⟨List.Sublist.refl _, fun _ => rfl⟩
  | cons b bs ih =>
    unfold scanCands at h
    split at h
    · cases h
    · rename_i ok t1 hb
      obtain ⟨hok, hacc⟩ := basicCriteria_ok hb
      split at h
      · cases h
      · rename_i rest t2 hs
        obtain ⟨hsub, hall⟩ := ih hs
        cases h
        rw [List.filter_cons]
        cases ok with
        | true =>
          rw [if_pos (hok rfl)]
          exact ⟨hsub.cons_cons b, fun h1 => (by rw [hall h1]; rfl)⟩
        | false =>
          refine ⟨?_, fun h1 => ?_⟩
          · show rest.Sublist _
            split
            · exact hsub.cons b
            · exact hsub
          · rw [← hacc h1, hall h1]

theorem scanCands_returns {cfg : AttackCfg} {w : World} {a : Aid} {s : List Int}
    (hmap : cfg.mapping.lookup (w.encOf a) = some s) (C : List Aid) (t : Tape) :
    ∃ S t', scanCands cfg w a C t = .ok (S, t') := by
  induction C generalizing t with
  | nil => exact ⟨[], t, rfl⟩
  | cons b bs ih =>
    obtain ⟨ok, t1, hb⟩ : ∃ ok t', basicCriteria cfg w a b t = .ok (ok, t') := ⟨_, _, basicCriteria_row hmap b t⟩
    obtain ⟨S, t2, hs⟩ := ih t1
    exact ⟨if ok then b :: S else S, t2, by simp only [scanCands, hb, hs]⟩

theorem scanCands_sound {cfg : AttackCfg} {w : World} {a : Aid} {s : List Int}
    (hmap : cfg.mapping.lookup (w.encOf a) = some s) (C : List Aid) (t : Tape) :
    ∃ S t', scanCands cfg w a C t = .ok (S, t') ∧ S.Sublist (C.filter (detOK cfg w a)) ∧
      (1 ≤ (w.cfgOf a).accuracy → S = C.filter (detOK cfg w a)) := by
  obtain ⟨S, t', h⟩ := scanCands_returns hmap C t
  exact ⟨S, t', h, scanCands_ok C h⟩

theorem selLoop_nil (cfg : AttackCfg) (w : World) (a : Aid) (R : Nat) (m : List (List Bool)) (act : List Nat)
    (t : Tape) : selLoop cfg w a R m act [] t = .ok ([], t) := by
  rw [selLoop]

theorem resLoop_nil (cfg : AttackCfg) (w : World) (a : Aid) (R : Nat) (m : List (List Bool)) (acc : List Aid)
    (t : Tape) : resLoop cfg w a R m [] acc t = .ok (acc, t) := by
  rw [resLoop]

/-- the eligible agents, in listing order -/
def eligList (cfg : AttackCfg) (w : World) (a : Aid) : List Aid := w.allAgents.filter (eligible cfg w a)

/-- the total number of hits when nobody is skipped (`T` of `specHowMany`) -/
def totalExpected (cfg : AttackCfg) (w : World) (a : Aid) (act : AttackAct) : Nat :=
  ((attackGroups cfg w a act).map fun g =>
    expected cfg.stacked g.lim ((eligList cfg w a).countP g.mem)).sum

theorem specWho_iff (cfg : AttackCfg) (w : World) (a : Aid) (act : AttackAct) (hits : List Aid) :
    specWho cfg w a act hits = true ↔
      ∀ b ∈ hits, b < w.n ∧ eligible cfg w a b = true ∧
        ∃ g ∈ attackGroups cfg w a act, g.mem b = true ∧ 0 < g.lim := by
  simp only [specWho, List.all_eq_true, Bool.and_eq_true, decide_eq_true_eq, List.any_eq_true, and_assoc]

theorem specHowMany_iff (cfg : AttackCfg) (w : World) (a : Aid) (act : AttackAct) (hits : List Aid) :
    specHowMany cfg w a act hits = true ↔
      (∀ g ∈ attackGroups cfg w a act,
        hits.countP g.mem ≤ g.lim ∧ hits.countP g.mem ≤ (w.cfgOf a).simAttacks ∧
        (1 ≤ (w.cfgOf a).accuracy →
          ((w.cfgOf a).hasAmmo = false ∨ (totalExpected cfg w a act : Int) ≤ (w.stOf a).ammo) →
          hits.countP g.mem = expected cfg.stacked g.lim ((eligList cfg w a).countP g.mem))) ∧
      ((cfg.kind = .binary ∨ cfg.kind = .restricted) → hits.length ≤ (w.cfgOf a).simAttacks) ∧
      (cfg.stacked = false → hits.Nodup) ∧
      (1 ≤ (w.cfgOf a).accuracy →
        hits.length = if (w.cfgOf a).hasAmmo = true then min (w.stOf a).ammo.toNat (totalExpected cfg w a act)
                      else totalExpected cfg w a act) := by
  unfold totalExpected eligList
  simp only [specHowMany, Bool.and_eq_true, List.all_eq_true, decide_eq_true_eq, Bool.or_eq_true,
    Bool.not_eq_true', beq_iff_eq, Bool.and_eq_false_imp, Bool.or_eq_false_iff, decide_eq_false_iff_not, and_assoc]
  refine and_congr (forall₂_congr fun g _ => and_congr_right fun _ => and_congr_right fun _ => ?_)
    (and_congr ?_ (and_congr ?_ imp_iff_not_or.symm))
  · by_cases hacc : 1 ≤ (w.cfgOf a).accuracy <;> cases (w.cfgOf a).hasAmmo <;> simp [hacc, imp_iff_not_or]
  · cases cfg.kind <;> simp
  · cases cfg.stacked <;> simp

/-- what an actor's `_determine_attack` has to guarantee about the list `L` it returns -/
structure SelOK (cfg : AttackCfg) (w : World) (a : Aid) (act : AttackAct) (L : List Aid) : Prop where
  who   : ∀ b ∈ L, b < w.n ∧ eligible cfg w a b = true ∧
            ∃ g ∈ attackGroups cfg w a act, g.mem b = true ∧ 0 < g.lim
  lim   : ∀ g ∈ attackGroups cfg w a act, L.countP g.mem ≤ g.lim ∧ g.lim ≤ (w.cfgOf a).simAttacks
  total : (cfg.kind = .binary ∨ cfg.kind = .restricted) → L.length ≤ (w.cfgOf a).simAttacks
  nodup : cfg.stacked = false → L.Nodup
  exact : 1 ≤ (w.cfgOf a).accuracy → ∀ g ∈ attackGroups cfg w a act,
            L.countP g.mem = expected cfg.stacked g.lim ((eligList cfg w a).countP g.mem)
  len   : 1 ≤ (w.cfgOf a).accuracy → L.length = totalExpected cfg w a act

theorem AttackSpec_of_SelOK {cfg : AttackCfg} {w : World} {a : Aid} {act : AttackAct} {L H : List Aid}
    {w2 : World} (hatt : (w.cfgOf a).attacking = true) (sel : SelOK cfg w a act L) (hsub : H.Subperm L)
    (hlen : H.length = (if (w.cfgOf a).hasAmmo = true then min L.length (w.stOf a).ammo.toNat else L.length))
    (hbook : specBook w a H w2 = true) : AttackSpec cfg w a act H w2 = true := by
  unfold AttackSpec
  rw [if_pos hatt, Bool.and_eq_true, Bool.and_eq_true, specWho_iff, specHowMany_iff]
  refine ⟨⟨fun b hb => sel.who b (hsub.subset hb), ?_, ?_, ?_, ?_⟩, hbook⟩
  · intro g hg
    obtain ⟨hl1, hl2⟩ := sel.lim g hg
    have hc : H.countP g.mem ≤ L.countP g.mem := hsub.countP_le _
    refine ⟨by omega, by omega, fun hacc hen => ?_⟩
    -- the ammunition suffices: nothing was filtered out
    have hHL : H.Perm L := hsub.perm_of_length_le (by
      rw [hlen]
      split
      · rename_i hammo
        have := hen.resolve_left (by rw [hammo]; exact Bool.noConfusion)
        rw [← sel.len hacc] at this
        omega
      · exact Nat.le_refl _)
    rw [hHL.countP_eq]; exact sel.exact hacc g hg
  · exact fun hk => le_trans hsub.length_le (sel.total hk)
  · exact fun hst => nodup_of_subperm hsub (sel.nodup hst)
  · intro hacc
    rw [hlen, sel.len hacc]
    split
    · exact Nat.min_comm _ _
    · rfl

theorem winv_shape {w : World} (hI : w.WInv = true) :
    w.cells.length = w.rows * w.cols ∧ w.st.length = w.cfg.length :=
  ⟨((WInv_iff_InvV w).mp hI).cinv.lenC, ((WInv_iff_InvV w).mp hI).cinv.lenS⟩

theorem mem_cell_iff_pos {w : World} (hI : w.WInv = true) (p : Pos) (b : Aid) :
    (w.inGrid p = true ∧ b ∈ w.cell p) ↔ (b < w.n ∧ (w.stOf b).active = true ∧ (w.stOf b).pos = p) := by
  constructor
  · rintro ⟨hp, hb⟩
    obtain ⟨h1, h3, h4⟩ := ((WInv_iff_InvV w).mp hI).cinv.occ _ b hb
    exact ⟨h1, ((WInv_iff_InvV w).mp hI).active_of_mem hb, idx_inj h3 hp h4⟩
  · rintro ⟨h1, h2, h3⟩
    have := ((WInv_iff_InvV w).mp hI).placed b h1 h2
    rw [h3] at this
    exact this

theorem attackBlockers_eq (w : World) (a : Aid) : w.attackBlockers a = w.specBlockers a := rfl

theorem attackBlockers_eq_blockersOf (w : World) (a : Aid) : w.attackBlockers a = Observers.blockersOf w a := rfl

theorem maskAt_maskOf (R : Nat) (bs : List Mask.Blocker) (i j : Nat) (hi : i < 2*R+1) (hj : j < 2*R+1) :
    maskAt (Mask.maskOf R bs) i j = !Mask.hiddenBySpec R bs ((i : Int) - (R : Int)) ((j : Int) - (R : Int)) := by
  have h := Mask.cellAt_maskOf_spec R bs i j hi hj
  unfold Mask.cellAt at h
  unfold maskAt
  rw [h]

/-- the grid position of window cell `(i, j)`, in the form `localCell` computes it -/
def winPos (w : World) (a : Aid) (R i j : Nat) : Pos :=
  ((w.stOf a).pos.1 - (R : Int) + (i : Int), (w.stOf a).pos.2 - (R : Int) + (j : Int))

theorem localCell_eq (w : World) (a : Aid) (R i j : Nat) :
    w.localCell a R i j =
      if w.inGrid (w.winPos a R i j) then some (w.cell (w.winPos a R i j)) else none := rfl

theorem winPos_eq (w : World) (a : Aid) (R i j : Nat) :
    w.winPos a R i j = Observers.winPos (w.stOf a).pos R i j :=
  Prod.ext win_src win_src

theorem cellCands_eq (w : World) (a : Aid) (R : Nat) (m : List (List Bool)) (i j : Nat) :
    w.cellCands a R m i j =
      if maskAt m i j = true ∧ w.inGrid (w.winPos a R i j) = true then w.cell (w.winPos a R i j) else [] := by
  unfold cellCands
  rw [localCell_eq]
  by_cases h1 : maskAt m i j = true
  · by_cases h2 : w.inGrid (w.winPos a R i j) = true
    · simp [h1, h2]
    · simp [h1, h2]
  · simp [h1]

/-- window cell `(i, j)` is the cell at offset `(i − R, j − R)` from the attacker: the last two clauses say `i = o + R` -/
theorem mem_cellCands {w : World} (hI : w.WInv = true) (a : Aid) (R i j : Nat)
    (hi : i < 2*R+1) (hj : j < 2*R+1) (b : Aid) :
    b ∈ w.cellCands a R (Mask.maskOf R (w.attackBlockers a)) i j ↔
      (b < w.n ∧ (w.stOf b).active = true ∧
        (-(R : Int) ≤ (w.offs a b).1 ∧ (w.offs a b).1 ≤ (R : Int)) ∧
        (-(R : Int) ≤ (w.offs a b).2 ∧ (w.offs a b).2 ≤ (R : Int)) ∧
        Mask.hiddenBySpec R (w.specBlockers a) (w.offs a b).1 (w.offs a b).2 = false) ∧
      ((w.offs a b).1 + (R : Int)).toNat = i ∧ ((w.offs a b).2 + (R : Int)).toNat = j := by
  have hpos : (w.stOf b).pos = w.winPos a R i j ↔
      (w.offs a b).1 = (i : Int) - (R : Int) ∧ (w.offs a b).2 = (j : Int) - (R : Int) :=
    Prod.ext_iff.trans (and_congr win_abs win_abs)
  rw [cellCands_eq, maskAt_maskOf R _ i j hi hj, attackBlockers_eq]
  constructor
  · intro hb
    split at hb
    · rename_i h
      obtain ⟨h1, h2, h3⟩ := (mem_cell_iff_pos hI _ b).mp ⟨h.2, hb⟩
      obtain ⟨e1, e2⟩ := hpos.mp h3
      obtain ⟨b1, t1⟩ := (win_iff hi).mpr e1
      obtain ⟨b2, t2⟩ := (win_iff hj).mpr e2
      rw [← e1, ← e2] at h
      exact ⟨⟨h1, h2, b1, b2, by simpa using h.1⟩, t1, t2⟩
    · cases hb
  · rintro ⟨⟨h1, h2, h3, h4, h5⟩, r1, r2⟩
    have e1 := (win_iff hi).mp ⟨h3, r1⟩
    have e2 := (win_iff hj).mp ⟨h4, r2⟩
    rw [e1, e2] at h5
    have := (mem_cell_iff_pos hI _ b).mpr ⟨h1, h2, hpos.mpr ⟨e1, e2⟩⟩
    rw [if_pos ⟨by simp [h5], this.1⟩]
    exact this.2

theorem nodup_cellCands {w : World} (hI : w.WInv = true) (a : Aid) (R : Nat) (m : List (List Bool))
    (i j : Nat) : (w.cellCands a R m i j).Nodup := by
  rw [cellCands_eq]
  split
  · exact ((WInv_iff_InvV w).mp hI).cinv.nodup _
  · exact List.nodup_nil

theorem mem_windowCells (R : Nat) (ij : Nat × Nat) :
    ij ∈ windowCells R ↔ ij.1 < 2*R+1 ∧ ij.2 < 2*R+1 := by
  obtain ⟨i, j⟩ := ij
  simp [windowCells]

theorem nodup_windowCells (R : Nat) : (windowCells R).Nodup :=
  List.nodup_range.product List.nodup_range

theorem windowIdx_eq (R : Nat) : windowIdx (2*R+1) = windowCells R := rfl

/-- nobody is met twice: a cell lists an agent once, and an agent's offset names one window cell -/
theorem nodup_windowCands {w : World} (hI : w.WInv = true) (a : Aid) (R : Nat) :
    (w.windowCands a R (Mask.maskOf R (w.attackBlockers a))).Nodup := by
  unfold windowCands
  rw [List.nodup_flatMap]
  refine ⟨fun ij _ => nodup_cellCands hI a R _ ij.1 ij.2, ?_⟩
  apply List.Nodup.pairwise_of_forall_ne (nodup_windowCells R)
  intro ij hij ij' hij' hne
  rw [Function.onFun, List.disjoint_left]
  intro b hb hb'
  rw [mem_windowCells] at hij hij'
  obtain ⟨_, r1, r2⟩ := (mem_cellCands hI a R _ _ hij.1 hij.2 b).mp hb
  obtain ⟨_, r1', r2'⟩ := (mem_cellCands hI a R _ _ hij'.1 hij'.2 b).mp hb'
  exact hne (Prod.ext (r1.symm.trans r1') (r2.symm.trans r2'))

/-- membership in window cell `(i, j)` of `a`'s window (the `mem` of the groups of the
cell-directed actors) -/
def cellMem (w : World) (a : Aid) (i j : Nat) : Aid → Bool :=
  fun b => w.winRow a b == i && w.winCol a b == j

theorem cellMem_iff (w : World) (a : Aid) (i j : Nat) (b : Aid) :
    cellMem w a i j b = true ↔ w.winRow a b = i ∧ w.winCol a b = j := by
  simp [cellMem]

theorem eligible_win {cfg : AttackCfg} {w : World} {a b : Aid} (h : eligible cfg w a b = true) :
    w.winRow a b < 2 * (w.cfgOf a).attackRange + 1 ∧ w.winCol a b < 2 * (w.cfgOf a).attackRange + 1 := by
  rw [eligible_eq] at h
  simp only [Bool.and_eq_true, Mask.inWin_iff] at h
  exact ⟨(win_idx h.1.1.2).1, (win_idx h.1.2).1⟩

theorem mem_windowCands {w : World} (hI : w.WInv = true) (a : Aid) (R : Nat) (b : Aid) :
    b ∈ w.windowCands a R (Mask.maskOf R (w.attackBlockers a)) ↔
      b < w.n ∧ (w.stOf b).active = true ∧
      (-(R : Int) ≤ (w.offs a b).1 ∧ (w.offs a b).1 ≤ (R : Int)) ∧
      (-(R : Int) ≤ (w.offs a b).2 ∧ (w.offs a b).2 ≤ (R : Int)) ∧
      Mask.hiddenBySpec R (w.specBlockers a) (w.offs a b).1 (w.offs a b).2 = false := by
  unfold windowCands
  rw [List.mem_flatMap]
  constructor
  · rintro ⟨ij, hij, hb⟩
    rw [mem_windowCells] at hij
    exact ((mem_cellCands hI a R _ _ hij.1 hij.2 b).mp hb).1
  · intro h
    have hi := (win_idx h.2.2.1).1
    have hj := (win_idx h.2.2.2.1).1
    exact ⟨(_, _), (mem_windowCells R _).mpr ⟨hi, hj⟩, (mem_cellCands hI a R _ _ hi hj b).mpr ⟨h, rfl, rfl⟩⟩

/-- the right-hand side of `mem_windowCands` at the attack range, with `detOK`, is `eligible` -/
theorem eligible_iff (cfg : AttackCfg) (w : World) (a b : Aid) :
    ((b < w.n ∧ (w.stOf b).active = true ∧
        (-((w.cfgOf a).attackRange : Int) ≤ (w.offs a b).1 ∧ (w.offs a b).1 ≤ ((w.cfgOf a).attackRange : Int)) ∧
        (-((w.cfgOf a).attackRange : Int) ≤ (w.offs a b).2 ∧ (w.offs a b).2 ≤ ((w.cfgOf a).attackRange : Int)) ∧
        Mask.hiddenBySpec (w.cfgOf a).attackRange (w.specBlockers a) (w.offs a b).1 (w.offs a b).2 = false) ∧
      detOK cfg w a b = true) ↔ b < w.n ∧ eligible cfg w a b = true := by
  rw [eligible_eq]
  simp only [Bool.and_eq_true, Bool.not_eq_true', Mask.inWin_iff]
  refine ⟨fun ⟨⟨h1, _, h3, h4, h5⟩, h6⟩ => ⟨h1, ⟨⟨h6, h3⟩, h4⟩, h5⟩, fun ⟨h1, ⟨⟨h6, h3⟩, h4⟩, h5⟩ => ?_⟩
  have hact : (w.stOf b).active = true := by
    simp only [detOK, Bool.and_eq_true] at h6
    exact h6.1.2
  exact ⟨⟨h1, hact, h3, h4, h5⟩, h6⟩

theorem mem_cellCands_det {w : World} (hI : w.WInv = true) (cfg : AttackCfg) (a : Aid) (i j : Nat)
    (hi : i < 2 * (w.cfgOf a).attackRange + 1) (hj : j < 2 * (w.cfgOf a).attackRange + 1) (b : Aid) :
    b ∈ (w.cellCands a (w.cfgOf a).attackRange
          (Mask.maskOf (w.cfgOf a).attackRange (w.attackBlockers a)) i j).filter (detOK cfg w a) ↔
      b < w.n ∧ eligible cfg w a b = true ∧ cellMem w a i j b = true := by
  rw [List.mem_filter, mem_cellCands hI a _ i j hi hj, and_right_comm, eligible_iff, cellMem_iff, and_assoc]
  rfl

theorem mem_windowCands_det {w : World} (hI : w.WInv = true) (cfg : AttackCfg) (a : Aid) (b : Aid) :
    b ∈ (w.windowCands a (w.cfgOf a).attackRange
          (Mask.maskOf (w.cfgOf a).attackRange (w.attackBlockers a))).filter (detOK cfg w a) ↔
      b < w.n ∧ eligible cfg w a b = true := by
  rw [List.mem_filter, mem_windowCands hI, eligible_iff]

theorem nodup_eligList (cfg : AttackCfg) (w : World) (a : Aid) : (eligList cfg w a).Nodup :=
  List.nodup_range.filter _

theorem mem_eligList (cfg : AttackCfg) (w : World) (a b : Aid) :
    b ∈ eligList cfg w a ↔ b < w.n ∧ eligible cfg w a b = true := by
  simp [eligList, allAgents]

theorem length_eq_countP {cfg : AttackCfg} {w : World} {a : Aid} {C : List Aid} (p : Aid → Bool)
    (hC : C.Nodup) (hmem : ∀ b, b ∈ C ↔ b < w.n ∧ eligible cfg w a b = true ∧ p b = true) :
    C.length = (eligList cfg w a).countP p := by
  rw [List.countP_eq_length_filter]
  apply List.Perm.length_eq
  rw [List.perm_ext_iff_of_nodup hC ((nodup_eligList cfg w a).filter _)]
  intro b
  rw [hmem, List.mem_filter, mem_eligList, and_assoc]

end World
end Abmarl
