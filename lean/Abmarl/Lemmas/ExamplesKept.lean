import Abmarl.Props.C08Grid
import Abmarl.Props.C08Base
import Abmarl.Model.Examples
import Abmarl.Lemmas.ExamplesHist
/-!
# `reset` of a packaged example forgets the previous episode; what no component owns is never written

`reset_forgets`: `reset` has the same outcome on two objects that agree on all but what its components own
(`SameBut`, `comps_reset_forgets` of Props/C08Grid.lean).  A used object and a fresh one are such a pair: the ghost
fields (the `ammo` of an agent without ammunition, the `orient` of an agent without orientation) and — in the classes
without an attack actor — health and activity are kept (`Keeps`) by every component call of a `step` and by every
state component that does not own them (`SameBut.of_keeps`).  The statement for every reachable state is
`examples_reach_keeps` (Props/Examples.lean).
-/
namespace Abmarl
open World
namespace Ex

theorem reset_forgets (cfg : Cfg) (order : List StateComp) (s1 s2 : St) (hw : SameBut order s1.w s2.w)
    (ht : s1.tape = s2.tape) (hp : order.any StateComp.resetsPos = true) :
    reset cfg order s1 = reset cfg order s2 := by
  unfold reset
  rw [comps_reset_forgets order s1.w s2.w s1.tape hw hp, ht]

/-- from `w` to `w'`: ghost fields kept, and (if `H`) health and activity kept -/
structure Keeps (H : Prop) (w w' : World) : Prop where
  ammo : ∀ a, (w.cfgOf a).hasAmmo = false → (w'.stOf a).ammo = (w.stOf a).ammo
  orient : ∀ a, (w.cfgOf a).hasOrient = false → (w'.stOf a).orient = (w.stOf a).orient
  health : H → ∀ a, (w'.stOf a).health = (w.stOf a).health ∧ (w'.stOf a).active = (w.stOf a).active

theorem Keeps.refl (H : Prop) (w : World) : Keeps H w w := ⟨fun _ _ => rfl, fun _ _ => rfl, fun _ _ => ⟨rfl, rfl⟩⟩

theorem Keeps.trans {H : Prop} {w w' w'' : World} (h1 : Keeps H w w') (h2 : Keeps H w' w'')
    (hc : ∀ a, w'.cfgOf a = w.cfgOf a) : Keeps H w w'' :=
  ⟨fun a ha => (h2.ammo a (by rw [hc]; exact ha)).trans (h1.ammo a ha),
   fun a ha => (h2.orient a (by rw [hc]; exact ha)).trans (h1.orient a ha),
   fun hH a => ⟨((h2.health hH a).1).trans (h1.health hH a).1, ((h2.health hH a).2).trans (h1.health hH a).2⟩⟩

theorem stOf_eq_of_ge {w w' : World} (hl : w'.st.length = w.st.length) {a : Aid} (ha : w.st.length ≤ a) :
    w'.stOf a = w.stOf a := by
  rw [World.stOf_ge ha, World.stOf_ge (by rw [hl]; exact ha)]

theorem Keeps.of_lt {H : Prop} {w w' : World} (hl : w'.st.length = w.st.length) (hn : w.st.length = w.n)
    (h : ∀ a < w.n, ((w.cfgOf a).hasAmmo = false → (w'.stOf a).ammo = (w.stOf a).ammo) ∧
      ((w.cfgOf a).hasOrient = false → (w'.stOf a).orient = (w.stOf a).orient) ∧
      (H → (w'.stOf a).health = (w.stOf a).health ∧ (w'.stOf a).active = (w.stOf a).active)) :
    Keeps H w w' := by
  have key : ∀ a, ¬ a < w.n → w'.stOf a = w.stOf a :=
    fun a ha => stOf_eq_of_ge hl (by rw [hn]; exact Nat.le_of_not_lt ha)
  refine ⟨fun a hA => ?_, fun a hO => ?_, fun hH a => ?_⟩
  · by_cases ha : a < w.n
    · exact (h a ha).1 hA
    · rw [key a ha]
  · by_cases ha : a < w.n
    · exact (h a ha).2.1 hO
    · rw [key a ha]
  · by_cases ha : a < w.n
    · exact (h a ha).2.2 hH
    · rw [key a ha]; exact ⟨rfl, rfl⟩

theorem Keeps.weaken {H H' : Prop} {w w' : World} (h : Keeps H w w') (hH : H' → H) : Keeps H' w w' :=
  ⟨h.ammo, h.orient, fun h' => h.health (hH h')⟩

theorem CompCall.keeps {atk : Prop} {w w' : World} (hI : w.WInv = true) (h : CompCall atk w w') :
    Keeps (¬ atk) w w' := by
  have hS := (h.invV (fun _ => rfl) (fun _ _ => trivial) ((WInv_iff_InvV w).mp hI)).2
  cases h with
  | same => exact .refl _ w
  | move hm =>
    exact ⟨fun b _ => by obtain ⟨q, e⟩ := moveAct_stOf hm b; rw [e],
      fun b _ => by obtain ⟨q, e⟩ := moveAct_stOf hm b; rw [e],
      fun _ b => by obtain ⟨q, e⟩ := moveAct_stOf hm b; rw [e]; exact ⟨rfl, rfl⟩⟩
  | @attack acfg a act t t' r _ hb hp =>
    -- an attack moves nobody, turns nobody, and writes the `ammo` field only of an `AmmoAgent` (`hasAmmo`)
    obtain ⟨st, H⟩ := r
    refine Keeps.of_lt hS.len ((WInv_iff_InvV w).mp hI).cinv.lenS fun b hb' => ?_
    suffices hg : (w'.stOf b).orient = (w.stOf b).orient ∧
        ((w.cfgOf b).hasAmmo = false → (w'.stOf b).ammo = (w.stOf b).ammo) from
      ⟨hg.2, fun _ => hg.1, fun hn => (hn hb).elim⟩
    obtain ⟨hyes, hno⟩ := processAttack_book hI hp
    cases hatt : (w.cfgOf a).attacking with
    | false => rw [(hno hatt).2]; exact ⟨rfl, fun _ => rfl⟩
    | true =>
      obtain ⟨_, hatk, hoth, _⟩ := (specBook_iff w a H w').mp (hyes hatt)
      by_cases hba : b = a
      · subst hba
        split at hatk
        · rw [hatk.2]; exact ⟨rfl, fun hn => by rw [‹(w.cfgOf b).hasAmmo = true›] at hn; cases hn⟩
        · rw [hatk]; exact ⟨rfl, fun _ => rfl⟩
      · rw [hoth b hb' hba]
        split <;> exact ⟨rfl, fun _ => rfl⟩

theorem applyComps_keeps {cs : List StateComp} {w w' : World} {t t' : Tape} (hok : CompsOK cs w)
    (h : applyComps cs w t = .ok (w', t')) : Keeps (cs.any StateComp.resetsHealth = false) w w' := by
  obtain ⟨hS, hK⟩ := _root_.Abmarl.applyComps_keeps cs w t w' t' hok h
  have hgA := hK .ghostAmmo (fun c _ => c.owns_ne_ghost.1)
  have hgO := hK .ghostOrient (fun c _ => c.owns_ne_ghost.2)
  refine Keeps.of_lt hS.len (by rw [hok.len]; rfl) fun a ha =>
    ⟨fun hA => by simpa [Grp.view, hA] using hgA.2 a ha, fun hO => by simpa [Grp.view, hO] using hgO.2 a ha,
      fun hH => ?_⟩
  suffices hh : Grp.Same .health w w' by simpa [Grp.view] using hh.2 a ha
  refine hK .health (fun c hc e => ?_)
  -- an owner of health among the components: then `resetsHealth` holds of one of them
  have : cs.any StateComp.resetsHealth = true := by
    refine List.any_eq_true.mpr ⟨c, hc, ?_⟩
    cases c with
    | health => rfl
    | healthClosed => rfl
    | _ => cases e
  rw [hH] at this
  cases this

theorem comps_keeps {cfg : Cfg} {w0 : World} (hcfg : CfgOK w0) {order : List StateComp} (hR : ResetOK cfg w0 order)
    {w w' : World} {t t' : Tape} (hF : SFrame w0 w) (ha : applyComps order w t = .ok (w', t')) :
    Keeps (order.any StateComp.resetsHealth = false) w w' :=
  applyComps_keeps (hR.compsOK hcfg hF) ha

def NoHealthComp (cfg : Cfg) : Prop := cfg.comps.any StateComp.resetsHealth = false

theorem any_resetsHealth_of_mem {cs : List StateComp} (h : StateComp.health ∈ cs) :
    cs.any StateComp.resetsHealth = true := List.any_eq_true.mpr ⟨_, h, rfl⟩

/-- `Keeps` composes along the component calls; a class with an attack actor resets a `HealthState` (`hb`) -/
theorem step_keeps {cfg : Cfg} {w0 : World} (hR : ResetOK cfg w0 cfg.comps)
    {acts : List (Aid × Act)} (hA : ActsOK cfg w0 acts) {s s' : St} (hG : Good cfg w0 s)
    (h : step cfg s acts = .ok s') : Keeps (NoHealthComp cfg) s.w s'.w := by
  have hb : NoHealthComp cfg → ¬ (cfg.which = .teamBattle ∨ cfg.which = .predatorPrey) := fun hN hb => by
    have := any_resetsHealth_of_mem (hR.health hb)
    unfold NoHealthComp at hN
    rw [hN] at this; cases this
  obtain ⟨_, _, _, _, _, _, hK⟩ := step_good (P := Keeps (NoHealthComp cfg) s.w)
    (fun hX hK c => hK.trans ((c.keeps hX.inv).weaken hb) fun a => by rw [hX.frame.sameG.cfgOf, hG.frame.sameG.cfgOf])
    hA hG (fun _ _ => .refl _ _) h
  exact hK

end Ex
theorem Ex.SameBut.of_keeps {cs : List StateComp} {w0 w : World} {H : Prop} (hF : SFrame w0 w)
    (hK : Ex.Keeps H w0 w) (hlen : w0.st.length = w0.cfg.length)
    (hH : cs.any StateComp.resetsHealth = false → H)
    (hammo : cs.any StateComp.resetsAmmo = true ∨ ∀ a, (w0.cfgOf a).hasAmmo = false)
    (horient : cs.any StateComp.resetsOrient = true ∨ ∀ a, (w0.cfgOf a).hasOrient = false) :
    Ex.SameBut cs w w0 := by
  refine ⟨⟨hF.rows, hF.cols, hF.overlap, hF.cfg, by rw [hF.len, hF.cfg]; exact hlen, hlen, ?_, ?_⟩, ?_, ?_, ?_⟩
  · intro a ha; exact hK.ammo a (by rw [← hF.sameG.cfgOf]; exact ha)
  · intro a ha; exact hK.orient a (by rw [← hF.sameG.cfgOf]; exact ha)
  · intro hh a; exact hK.health (hH hh) a
  · intro hh a
    rcases hammo with h1 | h1
    · rw [hh] at h1; cases h1
    · exact hK.ammo a (h1 a)
  · intro hh a
    rcases horient with h1 | h1
    · rw [hh] at h1; cases h1
    · exact hK.orient a (h1 a)

end Abmarl
