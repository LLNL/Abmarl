import Abmarl.Lemmas.AttacksSel
/-!
# C11 lemmas: `_determine_attack` of the four actors, the provenance of the hits, the assembly of `process_action`

Every actor serves groups of agents (Binary: everybody; EncodingBased: one group per encoding; the cell-directed actors: one
per window cell): a scan of the group's eligible members (`Scanned`), then a legal pick (`Picked`).  `Sel mem lim L` says what
the selection `L` satisfies when `lim i` attacks have been spent on group `i` so far; `Sel.serve` is the one step all four
loops take, and `Sel.selOK` is what the specification asks.  Whenever the loop of Binary, Selective or RestrictedSelective
returns (any action, any tape) its list satisfies `Sel` (`determineBinary_sel`, `selLoop_sel`, `resLoop_sel`); that of
EncodingBased does when the keys of the action are distinct (`encLoop_sel`).  Inside the action space every actor returns,
which gives `determine*_sound`.

Then provenance: whatever an actor returns, for **any** action, also outside the action space, and any tape, satisfies `Sel`
or (EncodingBased, `encLoop_mem`) was kept by a scan, so it holds real agents other than the attacker
(`determineAttack_prov`).  This is all the tail needs in order to satisfy the bookkeeping clause (`processAttack_book`); a
`_determine_attack` whose list satisfies `SelOK` makes the whole call satisfy `AttackSpec` (`processAttack_of_SelOK`).
-/
namespace Abmarl

theorem filter_contains_length {C acc : List Aid} (p : Aid → Bool) (hC : C.Nodup) (hacc : acc.Nodup)
    (h1 : ∀ b ∈ acc, p b = true → b ∈ C) (h2 : ∀ b ∈ C, p b = true) :
    (C.filter fun b => acc.contains b).length = acc.countP p := by
  rw [List.countP_eq_length_filter]
  apply List.Perm.length_eq
  rw [List.perm_ext_iff_of_nodup (hC.filter _) (hacc.filter _)]
  intro b
  simp only [List.mem_filter, List.contains_iff_mem]
  constructor
  · rintro ⟨hb, hb'⟩; exact ⟨hb', h2 b hb⟩
  · rintro ⟨hb, hp⟩; exact ⟨h1 b hb hp, hb⟩

theorem sum_map_add_ite {γ : Type} [DecidableEq γ] (cs : List γ) (x : γ) (f : γ → Nat) :
    (cs.map fun c => f c + if c = x then 1 else 0).sum = (cs.map f).sum + cs.count x := by
  induction cs with
  | nil => simp
  | cons c cs ih =>
    rw [List.map_cons, List.sum_cons, ih, List.map_cons, List.sum_cons, List.count_cons]
    by_cases h : c = x
    · rw [if_pos h, if_pos (beq_iff_eq.mpr h)]; omega
    · rw [if_neg h, if_neg (fun e => h (beq_iff_eq.mp e))]; omega

theorem sum_map_add_ite_nodup {γ : Type} [DecidableEq γ] (cs : List γ) (x : γ) (f : γ → Nat)
    (hcs : cs.Nodup) (hx : x ∈ cs) :
    (cs.map fun c => f c + if c = x then 1 else 0).sum = (cs.map f).sum + 1 := by
  rw [sum_map_add_ite, List.count_eq_one_of_mem hcs hx]

/-- `x` of the `E` candidates are still free after `min m E` were taken: `n` more attacks take `min n x` of them -/
theorem min_add_min {m n E x : Nat} (h : E = min m E + x) : min m E + min n x = min (m + n) E := by
  omega

namespace World

theorem names_iff (W k i j : Nat) :
    names W k i j = true ↔ 1 ≤ k ∧ (k - 1) / W = i ∧ (k - 1) % W = j := by
  simp [names, and_assoc]

theorem names_zero (W i j : Nat) : names W 0 i j = false := by
  simp [names]

theorem names_of_ne_zero {W k : Nat} (hk : k ≠ 0) (i' j' : Nat) :
    names W k i' j' = true ↔ i' = (k - 1) / W ∧ j' = (k - 1) % W := by
  rw [names_iff]
  constructor
  · rintro ⟨_, h1, h2⟩; exact ⟨h1.symm, h2.symm⟩
  · rintro ⟨h1, h2⟩; exact ⟨by omega, h1.symm, h2.symm⟩

theorem attackGroups_restricted {cfg : AttackCfg} (w : World) (a : Aid) (l : List Nat)
    (hk : cfg.kind = .restricted) :
    attackGroups cfg w a (.cells l) =
      (windowCells (w.cfgOf a).attackRange).map fun ij =>
        ⟨cellMem w a ij.1 ij.2,
         l.countP fun k => names (2 * (w.cfgOf a).attackRange + 1) k ij.1 ij.2⟩ := by
  unfold attackGroups; rw [hk]; rfl

theorem attackGroups_binary {cfg : AttackCfg} (w : World) (a : Aid) (k : Nat) (hk : cfg.kind = .binary) :
    attackGroups cfg w a (.count k) = [⟨fun _ => true, k⟩] := by
  unfold attackGroups; rw [hk]

/-- the group of one item `(encoding, count)` of the action dictionary -/
def encGroup (w : World) (p : Int × Nat) : Group := ⟨fun b => w.encOf b == p.1, p.2⟩

theorem attackGroups_encoding {cfg : AttackCfg} (w : World) (a : Aid) (l : List (Int × Nat))
    (hk : cfg.kind = .encoding) : attackGroups cfg w a (.perEnc l) = l.map (encGroup w) := by
  unfold attackGroups; rw [hk]; rfl

/-- the group of window cell `ij`: the agents standing on it, limit = the array entry (row-major) -/
def selGroup (w : World) (a : Aid) (W : Nat) (l : List Nat) (ij : Nat × Nat) : Group :=
  ⟨cellMem w a ij.1 ij.2, l.getD (ij.1 * W + ij.2) 0⟩

theorem attackGroups_selective {cfg : AttackCfg} (w : World) (a : Aid) (l : List Nat)
    (hk : cfg.kind = .selective) :
    attackGroups cfg w a (.grid l) =
      (windowCells (w.cfgOf a).attackRange).map (selGroup w a (2 * (w.cfgOf a).attackRange + 1) l) := by
  unfold attackGroups; rw [hk]; rfl


/-- `S` is what a scan (`scanCands`) kept of the eligible agents with property `p` -/
def Scanned (cfg : AttackCfg) (w : World) (a : Aid) (p : Aid → Bool) (S : List Aid) : Prop :=
  ∃ C : List Aid, C.Nodup ∧ (∀ b, b ∈ C ↔ b < w.n ∧ eligible cfg w a b = true ∧ p b = true) ∧
    S.Sublist C ∧ (1 ≤ (w.cfgOf a).accuracy → S = C)

variable {cfg : AttackCfg} {w : World} {a : Aid}

theorem Scanned.mem {p : Aid → Bool} {S : List Aid} (h : Scanned cfg w a p S) :
    ∀ b ∈ S, b < w.n ∧ eligible cfg w a b = true ∧ p b = true := by
  obtain ⟨C, _, hm, hs, _⟩ := h
  exact fun b hb => (hm b).mp (hs.subset hb)

theorem Scanned.of_scan {p : Aid → Bool} {C S : List Aid} {t t' : Tape} (hC : C.Nodup)
    (hm : ∀ b, b ∈ C.filter (detOK cfg w a) ↔ b < w.n ∧ eligible cfg w a b = true ∧ p b = true)
    (h : scanCands cfg w a C t = .ok (S, t')) : Scanned cfg w a p S :=
  ⟨_, hC.filter _, hm, scanCands_ok C h⟩

theorem scan_cell (hI : w.WInv = true) {i j : Nat} {t t' : Tape} {S : List Aid}
    (hi : i < 2 * (w.cfgOf a).attackRange + 1) (hj : j < 2 * (w.cfgOf a).attackRange + 1)
    (h : scanCands cfg w a (w.cellCands a (w.cfgOf a).attackRange
      (Mask.maskOf (w.cfgOf a).attackRange (w.attackBlockers a)) i j) t = .ok (S, t')) :
    Scanned cfg w a (cellMem w a i j) S :=
  .of_scan (nodup_cellCands hI a _ _ i j) (mem_cellCands_det hI cfg a i j hi hj) h

theorem scan_window (hI : w.WInv = true) {t t' : Tape} {S : List Aid}
    (h : scanCands cfg w a (w.windowCands a (w.cfgOf a).attackRange
      (Mask.maskOf (w.cfgOf a).attackRange (w.attackBlockers a))) t = .ok (S, t')) :
    Scanned cfg w a (fun _ => true) S :=
  .of_scan (nodup_windowCands hI a _) (fun b => by rw [mem_windowCands_det hI cfg a b]; simp) h

theorem Scanned.filter_all {S : List Aid} (h : Scanned cfg w a (fun _ => true) S) (q : Aid → Bool) :
    Scanned cfg w a q (S.filter q) := by
  obtain ⟨C, hC, hm, hs, ha⟩ := h
  refine ⟨C.filter q, hC.filter _, fun b => ?_, hs.filter _, fun hacc => by rw [ha hacc]⟩
  rw [List.mem_filter, hm b]
  exact ⟨fun ⟨⟨h1, h2, _⟩, h3⟩ => ⟨h1, h2, h3⟩, fun ⟨h1, h2, h3⟩ => ⟨⟨h1, h2, rfl⟩, h3⟩⟩

/-- the selection so far: `L` holds eligible agents only, of group `i` at most `lim i` (at accuracy 1 exactly
`expected`), nobody twice without stacking -/
structure Sel (cfg : AttackCfg) (w : World) (a : Aid) {ι : Type} (mem : ι → Aid → Bool) (lim : ι → Nat)
    (L : List Aid) : Prop where
  who   : ∀ b ∈ L, b < w.n ∧ eligible cfg w a b = true ∧ ∃ i, mem i b = true ∧ 0 < lim i
  le    : ∀ i, L.countP (mem i) ≤ lim i
  nodup : cfg.stacked = false → L.Nodup
  exact : 1 ≤ (w.cfgOf a).accuracy → ∀ i,
            L.countP (mem i) = expected cfg.stacked (lim i) ((eligList cfg w a).countP (mem i))


variable {ι : Type} {mem : ι → Aid → Bool}

theorem Sel.nil (lim : ι → Nat) (h0 : ∀ i, lim i = 0) : Sel cfg w a mem lim [] :=
  ⟨fun b hb => (by cases hb), fun _ => Nat.zero_le _, fun _ => List.nodup_nil,
    fun _ i => by rw [h0 i, expected_zero]; rfl⟩

theorem Sel.perm {lim : ι → Nat} {L L' : List Aid} (h : Sel cfg w a mem lim L) (hp : L.Perm L') :
    Sel cfg w a mem lim L' :=
  ⟨fun b hb => h.who b (hp.mem_iff.mpr hb), fun i => hp.countP_eq (mem i) ▸ h.le i,
    fun hst => hp.nodup_iff.mp (h.nodup hst), fun hacc i => hp.countP_eq (mem i) ▸ h.exact hacc i⟩

theorem Sel.congr {lim lim' : ι → Nat} {L : List Aid} (h : Sel cfg w a mem lim L) (e : ∀ i, lim' i = lim i) :
    Sel cfg w a mem lim' L := by
  have : lim' = lim := funext e
  rw [this]; exact h

/-- **the one step**: group `i`, on which `lim i` attacks were spent so far, is served with `n` more: a scan `S` of
its eligible members, without stacking minus those already selected, and a legal pick `P` of `n` of them.
`hx`: no eligible agent is in two groups. -/
theorem Sel.serve {lim lim' : ι → Nat} {L S P : List Aid} {i : ι} {n : Nat} (h : Sel cfg w a mem lim L)
    (hx : ∀ b i', eligible cfg w a b = true → mem i b = true → mem i' b = true → i' = i)
    (hS : Scanned cfg w a (mem i) S)
    (hP : Picked cfg.stacked (if cfg.stacked = true then S else S.filter fun b => !L.contains b) n P)
    (h1 : lim' i = lim i + n) (h2 : ∀ i', i' ≠ i → lim' i' = lim i') :
    Sel cfg w a mem lim' (L ++ P) := by
  obtain ⟨C, hCnd, hCmem, hsub, hall⟩ := hS
  have hPS : ∀ b ∈ P, b ∈ S := by
    intro b hb
    have := hP.mem b hb
    split at this
    · exact this
    · exact (List.mem_filter.mp this).1
  have hPm : ∀ b ∈ P, b < w.n ∧ eligible cfg w a b = true ∧ mem i b = true :=
    fun b hb => (hCmem b).mp (hsub.subset (hPS b hb))
  have cP : P.countP (mem i) = P.length := List.countP_eq_length.mpr fun b hb => (hPm b hb).2.2
  have cP' : ∀ i', i' ≠ i → P.countP (mem i') = 0 := fun i' hne =>
    List.countP_eq_zero.mpr fun b hb hm' => hne (hx b i' (hPm b hb).2.1 (hPm b hb).2.2 hm')
  have hle : ∀ i', lim i' ≤ lim' i' := by
    intro i'
    by_cases e : i' = i
    · rw [e, h1]; omega
    · rw [h2 i' e]
  refine ⟨?_, ?_, ?_, ?_⟩
  · intro b hb
    rcases List.mem_append.mp hb with hb | hb
    · obtain ⟨b1, b2, i', b3, b4⟩ := h.who b hb
      exact ⟨b1, b2, i', b3, Nat.lt_of_lt_of_le b4 (hle i')⟩
    · obtain ⟨b1, b2, b3⟩ := hPm b hb
      have : 0 < P.length := List.length_pos_of_mem hb
      have := hP.length_le
      exact ⟨b1, b2, i, b3, by rw [h1]; omega⟩
  · intro i'
    rw [List.countP_append]
    by_cases e : i' = i
    · rw [e, cP, h1]; have := h.le i; have := hP.length_le; omega
    · rw [cP' i' e, h2 i' e]; exact h.le i'
  · intro hst
    rw [hst] at hP
    simp only [Bool.false_eq_true, if_false] at hP
    rw [List.nodup_append]
    refine ⟨h.nodup hst, hP.nodup ((hsub.nodup hCnd).filter _), ?_⟩
    intro x hx' y hy e
    have := (List.mem_filter.mp (hP.mem y hy)).2
    simp only [Bool.not_eq_true', List.contains_eq_mem, decide_eq_false_iff_not] at this
    exact this (e ▸ hx')
  · intro hacc i'
    rw [List.countP_append]
    by_cases e : i' = i
    · subst e
      rw [cP, h1, h.exact hacc i', hP.length_eq, hall hacc]
      have hlen : C.length = (eligList cfg w a).countP (mem i') := length_eq_countP (mem i') hCnd hCmem
      cases hst : cfg.stacked with
      | true =>
        simp only [if_true, expected, ← hlen]
        by_cases hC0 : C.length = 0 <;> simp [hC0]
      | false =>
        simp only [Bool.false_eq_true, if_false, expected, ← hlen]
        have hc := h.exact hacc i'
        rw [hst] at hc
        simp only [expected, Bool.false_eq_true, if_false, ← hlen] at hc
        -- the group's candidates `C` split into those already selected, `min (lim i') |C|` of them (`hc`), and those still
        -- free, of which the pick takes `min n`: `min_add_min`
        have hf : (C.filter fun b => L.contains b).length = L.countP (mem i') :=
          filter_contains_length (mem i') hCnd (h.nodup hst)
            (fun b hb hp => (hCmem b).mpr ⟨(h.who b hb).1, (h.who b hb).2.1, hp⟩)
            (fun b hb => ((hCmem b).mp hb).2.2)
        have hsplit := List.length_eq_length_filter_add (l := C) (fun b => L.contains b)
        rw [hf, hc] at hsplit
        exact min_add_min hsplit
    · rw [cP' i' e, h2 i' e, h.exact hacc i']; rfl


/-- a group not served before: no exclusion is needed, whatever the order of the lists -/
theorem Sel.serve_fresh {lim lim' : ι → Nat} {L S P : List Aid} {i : ι} {n : Nat} (h : Sel cfg w a mem lim L)
    (hx : ∀ b i', eligible cfg w a b = true → mem i b = true → mem i' b = true → i' = i)
    (hS : Scanned cfg w a (mem i) S) (hP : Picked cfg.stacked S n P) (h0 : lim i = 0)
    (h1 : lim' i = n) (h2 : ∀ i', i' ≠ i → lim' i' = lim i') :
    Sel cfg w a mem lim' (P ++ L) := by
  refine (h.serve hx hS ?_ (by rw [h1, h0, Nat.zero_add]) h2).perm List.perm_append_comm
  have : (S.filter fun b => !L.contains b) = S := by
    rw [List.filter_eq_self]
    intro b hb
    have hc := h.le i
    rw [h0, Nat.le_zero, List.countP_eq_zero] at hc
    simp only [Bool.not_eq_true', List.contains_eq_mem, decide_eq_false_iff_not]
    exact fun hbL => hc b hbL (hS.mem b hb).2.2
  rw [this, ite_self]
  exact hP

theorem length_eq_sum_countP [DecidableEq ι] (idx : List ι) (hidx : idx.Nodup) (L : List Aid)
    (h : ∀ b ∈ L, ∃ i ∈ idx, ∀ i', mem i' b = true ↔ i' = i) :
    L.length = (idx.map fun i => L.countP (mem i)).sum := by
  induction L with
  | nil => simp
  | cons b L ih =>
    obtain ⟨i, hi, hb⟩ := h b List.mem_cons_self
    simp only [List.countP_cons, hb, List.length_cons]
    rw [sum_map_add_ite_nodup _ _ _ hidx hi, ← ih (fun b hb => h b (List.mem_cons_of_mem _ hb))]

theorem Sel.selOK [DecidableEq ι] {lim : ι → Nat} {L : List Aid} {act : AttackAct} (h : Sel cfg w a mem lim L)
    (idx : List ι) (hidx : idx.Nodup)
    (hg : attackGroups cfg w a act = idx.map fun i => ⟨mem i, lim i⟩)
    (hx : ∀ i b i', eligible cfg w a b = true → mem i b = true → mem i' b = true → i' = i)
    (hcov : ∀ b i, eligible cfg w a b = true → mem i b = true → 0 < lim i → i ∈ idx)
    (hlim : ∀ i ∈ idx, lim i ≤ (w.cfgOf a).simAttacks)
    (htot : (cfg.kind = .binary ∨ cfg.kind = .restricted) → L.length ≤ (w.cfgOf a).simAttacks) :
    SelOK cfg w a act L := by
  have hgm : ∀ g, g ∈ attackGroups cfg w a act ↔ ∃ i ∈ idx, (⟨mem i, lim i⟩ : Group) = g := by
    intro g; rw [hg, List.mem_map]
  refine ⟨?_, ?_, htot, h.nodup, ?_, ?_⟩
  · intro b hb
    obtain ⟨b1, b2, i, b3, b4⟩ := h.who b hb
    exact ⟨b1, b2, _, (hgm _).mpr ⟨i, hcov b i b2 b3 b4, rfl⟩, b3, b4⟩
  · intro g hgm'
    obtain ⟨i, hi, rfl⟩ := (hgm g).mp hgm'
    exact ⟨h.le i, hlim i hi⟩
  · intro hacc g hgm'
    obtain ⟨i, _, rfl⟩ := (hgm g).mp hgm'
    exact h.exact hacc i
  · intro hacc
    unfold totalExpected
    rw [hg, List.map_map, length_eq_sum_countP (mem := mem) idx hidx L ?_]
    · exact congrArg List.sum (List.map_congr_left fun i _ => h.exact hacc i)
    · intro b hb
      obtain ⟨_, b2, i, b3, b4⟩ := h.who b hb
      exact ⟨i, hcov b i b2 b3 b4, fun i' => ⟨fun hm => hx i b i' b2 b3 hm, fun e => e ▸ b3⟩⟩


/-! ## Binary: one group holding everybody -/

theorem determineBinary_sel (hI : w.WInv = true) {k : Nat} {t : Tape} {st : Bool} {L : List Aid} {t1 : Tape}
    (h : determineBinary cfg w a k t = .ok ((st, L), t1)) :
    Sel cfg w a (fun (_ : Unit) (_ : Aid) => true) (fun _ => k) L := by
  unfold determineBinary at h
  split at h
  · rename_i hk
    cases h
    exact Sel.nil _ fun _ => hk
  · simp only at h
    split at h
    · cases h
    · rename_i S t2 hs
      have step : ∀ {P : List Aid}, Picked cfg.stacked S k P →
          Sel cfg w a (fun (_ : Unit) (_ : Aid) => true) (fun _ => k) P := by
        intro P hP
        have := (Sel.nil (cfg := cfg) (w := w) (a := a) (mem := fun (_ : Unit) (_ : Aid) => true) (fun _ => 0)
          fun _ => rfl).serve_fresh (lim' := fun _ => k) (i := ()) (fun _ _ _ _ _ => rfl)
          (scan_window hI hs) hP rfl rfl (fun _ h => absurd rfl h)
        rwa [List.append_nil] at this
      split at h
      · rename_i hE
        cases h
        exact step (by rw [List.isEmpty_iff.mp hE]; exact Picked.nil _ _)
      · cases h
        exact step (subsetAttackables_picked _ _ _ _)

theorem determineBinary_sound {s : List Int} (hI : w.WInv = true)
    (hmap : cfg.mapping.lookup (w.encOf a) = some s) (hkind : cfg.kind = .binary) (k : Nat)
    (hk : k ≤ (w.cfgOf a).simAttacks) (t : Tape) :
    ∃ st L t1, determineBinary cfg w a k t = .ok ((st, L), t1) ∧ SelOK cfg w a (.count k) L := by
  have ret : ∃ st L t1, determineBinary cfg w a k t = .ok ((st, L), t1) := by
    unfold determineBinary
    split
    · exact ⟨_, _, _, rfl⟩
    · obtain ⟨S, t1, hs⟩ := scanCands_returns hmap
        (w.windowCands a (w.cfgOf a).attackRange (Mask.maskOf (w.cfgOf a).attackRange (w.attackBlockers a))) t
      simp only [hs]
      split <;> exact ⟨_, _, _, rfl⟩
  obtain ⟨st, L, t1, h⟩ := ret
  have hL := determineBinary_sel hI h
  refine ⟨st, L, t1, h, hL.selOK [()] (List.nodup_singleton _) (attackGroups_binary w a k hkind)
    (fun _ _ _ _ _ _ => rfl) (fun _ _ _ _ _ => List.mem_singleton_self _) (fun _ _ => hk) (fun _ => ?_)⟩
  have := hL.le ()
  rw [List.countP_true] at this
  exact this.trans hk

/-! ## EncodingBased: groups = encodings -/

/-- attacks the items `cs` of the action spend on encoding `e` -/
def encLim (cs : List (Int × Nat)) (e : Int) : Nat := (cs.lookup e).getD 0

theorem encLim_cons_self (e : Int) (k : Nat) (cs : List (Int × Nat)) : encLim ((e, k) :: cs) e = k := by
  simp [encLim]

theorem encLim_cons_ne {e e' : Int} (k : Nat) (cs : List (Int × Nat)) (h : e' ≠ e) :
    encLim ((e, k) :: cs) e' = encLim cs e' := by
  have : (e' == e) = false := beq_false_of_ne h
  simp only [encLim, List.lookup_cons, this]

theorem encLim_not_mem {cs : List (Int × Nat)} {e : Int} (h : e ∉ cs.map (·.1)) : encLim cs e = 0 := by
  induction cs with
  | nil => rfl
  | cons p cs ih =>
    obtain ⟨e1, k⟩ := p
    rw [List.map_cons, List.mem_cons, not_or] at h
    rw [encLim_cons_ne k cs h.1, ih h.2]

theorem encLim_of_mem {cs : List (Int × Nat)} (hnd : (cs.map (·.1)).Nodup) {p : Int × Nat} (hp : p ∈ cs) :
    encLim cs p.1 = p.2 := by
  induction cs with
  | nil => cases hp
  | cons q cs ih =>
    obtain ⟨e1, k⟩ := q
    rw [List.map_cons, List.nodup_cons] at hnd
    rcases List.mem_cons.mp hp with rfl | hp
    · exact encLim_cons_self ..
    · have : p.1 ≠ e1 := fun e => hnd.1 (e ▸ List.mem_map_of_mem (f := (·.1)) hp)
      rw [encLim_cons_ne k cs this, ih hnd.2 hp]

theorem encLoop_sel {S : List Aid} (hS : Scanned cfg w a (fun _ => true) S) :
    ∀ (cs : List (Int × Nat)), (cs.map (·.1)).Nodup → ∀ t : Tape,
      Sel cfg w a (fun (e : Int) (b : Aid) => w.encOf b == e) (encLim cs) (encLoop w cfg.stacked S cs t).1 := by
  intro cs
  induction cs with
  | nil => intro _ t; exact Sel.nil _ fun _ => rfl
  | cons p rest ih =>
    intro hnd t
    obtain ⟨e, k⟩ := p
    rw [List.map_cons, List.nodup_cons] at hnd
    have step : ∀ {P : List Aid} (t' : Tape), Picked cfg.stacked (S.filter fun b => w.encOf b == e) k P →
        Sel cfg w a (fun (e : Int) (b : Aid) => w.encOf b == e) (encLim ((e, k) :: rest))
          (P ++ (encLoop w cfg.stacked S rest t').1) := fun t' hP =>
      (ih hnd.2 t').serve_fresh (i := e)
        (fun b e' _ h1 h2 => (beq_iff_eq.mp h2).symm.trans (beq_iff_eq.mp h1))
        (hS.filter_all _) hP (encLim_not_mem hnd.1) (encLim_cons_self ..) (fun e' h => encLim_cons_ne k rest h)
    unfold encLoop
    simp only []
    split
    · rename_i hE
      exact step (P := []) t (by rw [List.isEmpty_iff.mp hE]; exact Picked.nil _ _)
    · exact step _ (subsetAttackables_picked cfg.stacked _ k t)


theorem determineEncoding_sound {s : List Int} (hI : w.WInv = true)
    (hmap : cfg.mapping.lookup (w.encOf a) = some s) (hkind : cfg.kind = .encoding) (l : List (Int × Nat))
    (hnd : (l.map (·.1)).Nodup) (hl : ∀ p ∈ l, p.2 ≤ (w.cfgOf a).simAttacks)
    (hcov : ∀ e ∈ s, ∃ p ∈ l, p.1 = e) (t : Tape) :
    ∃ st L t1, determineEncoding cfg w a l t = .ok ((st, L), t1) ∧ SelOK cfg w a (.perEnc l) L := by
  have key : ∀ {L : List Aid}, Sel cfg w a (fun (e : Int) (b : Aid) => w.encOf b == e) (encLim l) L →
      SelOK cfg w a (.perEnc l) L := fun hL =>
    hL.selOK (l.map (·.1)) hnd
      (by
        rw [attackGroups_encoding w a l hkind, List.map_map]
        exact List.map_congr_left fun p hp => by rw [Function.comp_apply, encLim_of_mem hnd hp]; rfl)
      (fun e b e' _ h1 h2 => (beq_iff_eq.mp h2).symm.trans (beq_iff_eq.mp h1))
      (fun b e _ _ hpos => by
        by_contra hn
        rw [encLim_not_mem hn] at hpos; cases hpos)
      (fun e he => by
        obtain ⟨p, hp, rfl⟩ := List.mem_map.mp he
        rw [encLim_of_mem hnd hp]; exact hl p hp)
      (fun hk => by rw [hkind] at hk; simp at hk)
  unfold determineEncoding
  split
  · rename_i h0
    refine ⟨false, [], t, rfl, key (Sel.nil _ fun e => ?_)⟩
    by_cases he : e ∈ l.map (·.1)
    · obtain ⟨p, hp, rfl⟩ := List.mem_map.mp he
      rw [encLim_of_mem hnd hp]
      simpa using List.all_eq_true.mp h0 p hp
    · exact encLim_not_mem he
  · obtain ⟨S, t1, hs⟩ := scanCands_returns hmap
      (w.windowCands a (w.cfgOf a).attackRange (Mask.maskOf (w.cfgOf a).attackRange (w.attackBlockers a))) t
    have hS := scan_window hI hs
    -- every scanned agent's encoding is a key of the action
    have hkeys : S.all (fun b => l.any (fun p => p.1 == w.encOf b)) = true := by
      rw [List.all_eq_true]
      intro b hb
      have hel := (hS.mem b hb).2.1
      rw [eligible_eq] at hel
      simp only [Bool.and_eq_true, detOK, mayAttack, hmap, decide_eq_true_eq] at hel
      obtain ⟨p, hp, he⟩ := hcov _ hel.1.1.1.2
      rw [List.any_eq_true]
      exact ⟨p, hp, by simpa using he⟩
    simp only [hs, hkeys, if_true]
    exact ⟨true, _, _, rfl, key (encLoop_sel hS l hnd t1)⟩

/-! ## the cell-directed actors: groups = window cells -/

/-- the agents standing on window cell `ij` -/
def onCell (w : World) (a : Aid) (ij : Nat × Nat) : Aid → Bool := cellMem w a ij.1 ij.2

theorem onCell_excl (w : World) (a : Aid) (ij : Nat × Nat) (b : Aid) (ij' : Nat × Nat) (_ : eligible cfg w a b = true)
    (h : onCell w a ij b = true) (h' : onCell w a ij' b = true) : ij' = ij := by
  rw [onCell, cellMem_iff] at h h'
  exact Prod.ext (h'.1.symm.trans h.1) (h'.2.symm.trans h.2)

/-! ### Selective: every cell of the window once -/

/-- attacks the array `l` spends on window cell `ij`, as far as the cells `cs` have been visited -/
def selLim (W : Nat) (l : List Nat) (cs : List (Nat × Nat)) (ij : Nat × Nat) : Nat :=
  if ij ∈ cs then l.getD (ij.1 * W + ij.2) 0 else 0

theorem selLoop_sel {R : Nat} {m : List (List Bool)}
    (hscan : ∀ {i j : Nat} {t t' : Tape} {S : List Aid}, i < 2 * R + 1 → j < 2 * R + 1 →
      scanCands cfg w a (w.cellCands a R m i j) t = .ok (S, t') → Scanned cfg w a (cellMem w a i j) S)
    (l : List Nat) :
    ∀ (cs : List (Nat × Nat)), cs.Nodup →
      (∀ ij ∈ cs, ij.1 < 2 * R + 1 ∧ ij.2 < 2 * R + 1) →
      ∀ (t : Tape) {L : List Aid} {t1 : Tape},
      selLoop cfg w a R m l cs t = .ok (L, t1) →
      Sel cfg w a (onCell w a) (selLim (2 * R + 1) l cs) L := by
  intro cs
  induction cs with
  | nil =>
    intro _ _ t L t1 h
    rw [selLoop_nil] at h
    cases h
    exact Sel.nil _ fun _ => rfl
  | cons c rest ih =>
    intro hnd hcs t L t1 h
    obtain ⟨i, j⟩ := c
    obtain ⟨hi, hj⟩ := hcs (i, j) List.mem_cons_self
    obtain ⟨hc, hnd'⟩ := List.nodup_cons.mp hnd
    have ih' := ih hnd' fun ij hm => hcs ij (List.mem_cons_of_mem _ hm)
    have h0 : selLim (2 * R + 1) l rest (i, j) = 0 := if_neg hc
    have h1 : selLim (2 * R + 1) l ((i, j) :: rest) (i, j) =
        l.getD (i * (2 * R + 1) + j) 0 := if_pos List.mem_cons_self
    have h2 : ∀ ij', ij' ≠ (i, j) → selLim (2 * R + 1) l ((i, j) :: rest) ij' =
        selLim (2 * R + 1) l rest ij' := by
      intro ij' hne
      simp only [selLim, List.mem_cons, hne, false_or]
    rw [selLoop] at h
    simp only [] at h
    split at h
    · -- `if not attack[r, c]: continue`
      rename_i hk
      refine (ih' t h).congr fun ij' => ?_
      by_cases e : ij' = (i, j)
      · rw [e, h1, h0, hk]
      · exact h2 ij' e
    · split at h
      · cases h
      · rename_i S t2 hs
        have hS := hscan hi hj hs
        have step : ∀ {P Q : List Aid},
            Picked cfg.stacked S (l.getD (i * (2 * R + 1) + j) 0) P →
            Sel cfg w a (onCell w a) (selLim (2 * R + 1) l rest) Q →
            Sel cfg w a (onCell w a) (selLim (2 * R + 1) l ((i, j) :: rest)) (P ++ Q) :=
          fun hP hQ => hQ.serve_fresh (i := (i, j)) (onCell_excl w a _) hS hP h0 h1 h2
        split at h
        · rename_i hE
          exact step (P := []) (by rw [List.isEmpty_iff.mp hE]; exact Picked.nil _ _) (ih' t2 h)
        · split at h
          · cases h
          · rename_i Q t3 hq
            cases h
            exact step (subsetAttackables_picked _ _ _ _) (ih' _ hq)


theorem selLoop_returns {s : List Int} (hmap : cfg.mapping.lookup (w.encOf a) = some s) (R : Nat)
    (m : List (List Bool)) (l : List Nat) (cs : List (Nat × Nat)) (t : Tape) :
    ∃ L t1, selLoop cfg w a R m l cs t = .ok (L, t1) := by
  induction cs generalizing t with
  | nil => exact ⟨[], t, selLoop_nil ..⟩
  | cons c rest ih =>
    obtain ⟨i, j⟩ := c
    rw [selLoop]
    simp only []
    split
    · exact ih t
    · obtain ⟨S, t1, hs⟩ := scanCands_returns hmap (w.cellCands a R m i j) t
      rw [hs]
      simp only []
      split
      · exact ih t1
      · obtain ⟨Q, t3, hq⟩ := ih (subsetAttackables cfg.stacked S (l.getD (i * (2 * R + 1) + j) 0) t1).2
        rw [hq]
        exact ⟨_, _, rfl⟩

theorem determineSelective_sound {s : List Int} (hI : w.WInv = true)
    (hmap : cfg.mapping.lookup (w.encOf a) = some s) (hkind : cfg.kind = .selective) (l : List Nat)
    (hlen : l.length = (2 * (w.cfgOf a).attackRange + 1) * (2 * (w.cfgOf a).attackRange + 1))
    (hall : ∀ k ∈ l, k ≤ (w.cfgOf a).simAttacks) (t : Tape) :
    ∃ st L t1, determineSelective cfg w a l t = .ok ((st, L), t1) ∧ SelOK cfg w a (.grid l) L := by
  have key : ∀ {L : List Aid}, Sel cfg w a (onCell w a)
      (selLim (2 * (w.cfgOf a).attackRange + 1) l (windowCells (w.cfgOf a).attackRange)) L →
      SelOK cfg w a (.grid l) L := fun hL =>
    hL.selOK (windowCells (w.cfgOf a).attackRange) (nodup_windowCells _)
      (by
        rw [attackGroups_selective w a l hkind]
        exact List.map_congr_left fun ij hij => by rw [selLim, if_pos hij]; rfl)
      (onCell_excl w a)
      (fun b ij he hm _ => by
        rw [onCell, cellMem_iff] at hm
        rw [mem_windowCells, ← hm.1, ← hm.2]; exact eligible_win he)
      (fun ij hij => by rw [selLim, if_pos hij]; exact getD_le_of_all hall _)
      (fun hk => by rw [hkind] at hk; simp at hk)
  unfold determineSelective
  simp only [hlen, ne_eq, not_true_eq_false, if_false]
  split
  · rename_i h0
    refine ⟨false, [], t, rfl, key (Sel.nil _ fun ij => ?_)⟩
    rw [selLim]
    split
    · have : ∀ k ∈ l, k ≤ 0 := fun k hk => by have := List.all_eq_true.mp h0 k hk; simp at this; omega
      exact Nat.le_zero.mp (getD_le_of_all this _)
    · rfl
  · obtain ⟨L, t1, hL⟩ := selLoop_returns hmap (w.cfgOf a).attackRange
      (Mask.maskOf (w.cfgOf a).attackRange (w.attackBlockers a)) l (windowCells (w.cfgOf a).attackRange) t
    rw [hL]
    exact ⟨true, L, t1, rfl, key (selLoop_sel (scan_cell hI) l _ (nodup_windowCells _) (fun ij h => (mem_windowCells _ ij).mp h) t hL)⟩


/-! ### RestrictedSelective: one attack per entry, cells may recur -/

/-- attacks the entries `pre` spend on window cell `ij` -/
def resLim (W : Nat) (pre : List Nat) (ij : Nat × Nat) : Nat := pre.countP fun k => names W k ij.1 ij.2

/-- the induction carries `Sel` from the entries `pre` read so far to `pre ++ rest` -/
theorem resLoop_sel {R : Nat} {m : List (List Bool)}
    (hscan : ∀ {i j : Nat} {t t' : Tape} {S : List Aid}, i < 2 * R + 1 → j < 2 * R + 1 →
      scanCands cfg w a (w.cellCands a R m i j) t = .ok (S, t') → Scanned cfg w a (cellMem w a i j) S) :
    ∀ (rest pre : List Nat) (acc : List Aid) (t : Tape) {L : List Aid} {t' : Tape},
      Sel cfg w a (onCell w a) (resLim (2 * R + 1) pre) acc →
      resLoop cfg w a R m rest acc t = .ok (L, t') →
      Sel cfg w a (onCell w a) (resLim (2 * R + 1) (pre ++ rest)) L ∧
        L.length ≤ acc.length + rest.length := by
  intro rest
  induction rest with
  | nil =>
    intro pre acc t L t' inv h
    rw [resLoop_nil] at h
    cases h
    exact ⟨by rwa [List.append_nil], Nat.le_refl _⟩
  | cons k rest ih =>
    intro pre acc t L t' inv h
    rw [List.append_cons]
    rw [resLoop] at h
    split at h
    · rename_i hk
      refine (ih (pre ++ [k]) acc t (inv.congr fun ij => ?_) h).imp_right fun hl => Nat.le_succ_of_le hl
      rw [resLim, countP_snoc, hk, names_zero]; rfl
    · rename_i hk
      simp only [] at h
      have hW : 0 < 2 * R + 1 := Nat.succ_pos _
      split at h
      · cases h
      · rename_i hi
        split at h
        · cases h
        · rename_i S t1 hs
          have hS := hscan (Nat.not_le.mp hi) (Nat.mod_lt _ hW) hs
          -- the entry `k` names exactly the cell that was scanned
          have step : ∀ {P : List Aid}, Picked cfg.stacked
                (if cfg.stacked = true then S else S.filter fun b => !acc.contains b) 1 P →
              Sel cfg w a (onCell w a) (resLim (2 * R + 1) (pre ++ [k])) (acc ++ P) := by
            intro P hP
            refine inv.serve (i := ((k - 1) / (2 * R + 1), (k - 1) % (2 * R + 1)))
              (onCell_excl w a _) hS hP ?_ ?_
            · rw [resLim, countP_snoc, (names_of_ne_zero hk _ _).mpr ⟨rfl, rfl⟩]; rfl
            · intro ij' hne
              rw [resLim, countP_snoc]
              have : names (2 * R + 1) k ij'.1 ij'.2 = false := by
                rw [Bool.eq_false_iff]
                exact fun hn => hne (Prod.ext ((names_of_ne_zero hk _ _).mp hn).1 ((names_of_ne_zero hk _ _).mp hn).2)
              rw [this]; rfl
          by_cases hE : (if cfg.stacked = true then S else S.filter fun b => !acc.contains b).isEmpty = true
          · rw [if_pos hE] at h
            have := step (P := []) (by rw [List.isEmpty_iff.mp hE]; exact Picked.nil _ _)
            rw [List.append_nil] at this
            exact (ih (pre ++ [k]) acc t1 this h).imp_right fun hl => Nat.le_succ_of_le hl
          · rw [if_neg hE] at h
            obtain ⟨v, hv, hvm⟩ := Observers.choice_mem
              (if cfg.stacked = true then S else S.filter fun b => !acc.contains b) t1
              (fun e => hE (List.isEmpty_iff.mpr e))
            rw [hv] at h
            refine (ih (pre ++ [k]) (acc ++ [v]) t1.tail (step (Picked.single hvm)) h).imp_right fun hl => ?_
            rw [List.length_append, List.length_singleton] at hl
            rw [List.length_cons]; omega


theorem resLoop_returns {s : List Int} (hmap : cfg.mapping.lookup (w.encOf a) = some s) (R : Nat)
    (m : List (List Bool)) (l : List Nat) (hall : ∀ k ∈ l, k ≤ (2 * R + 1) * (2 * R + 1)) (acc : List Aid) (t : Tape) :
    ∃ L t1, resLoop cfg w a R m l acc t = .ok (L, t1) := by
  induction l generalizing acc t with
  | nil => exact ⟨acc, t, resLoop_nil ..⟩
  | cons k rest ih =>
    have ih' := ih fun k hk => hall k (List.mem_cons_of_mem _ hk)
    rw [resLoop]
    split
    · exact ih' acc t
    · rename_i hk
      have hi : ¬ (k - 1) / (2 * R + 1) ≥ 2 * R + 1 :=
        Nat.not_le.mpr (div_mod_lt (by have := hall k List.mem_cons_self; omega)).1
      simp only []
      rw [if_neg hi]
      obtain ⟨S, t1, hs⟩ := scanCands_returns hmap
        (w.cellCands a R m ((k - 1) / (2 * R + 1)) ((k - 1) % (2 * R + 1))) t
      rw [hs]
      simp only []
      generalize (if cfg.stacked = true then S else S.filter fun b => !acc.contains b) = S'
      split
      · exact ih' acc t1
      · rename_i hE
        obtain ⟨v, hv, _⟩ := Observers.choice_mem S' t1 (fun e => hE (List.isEmpty_iff.mpr e))
        rw [hv]
        exact ih' _ _

theorem determineRestricted_sound {s : List Int} (hI : w.WInv = true)
    (hmap : cfg.mapping.lookup (w.encOf a) = some s) (hkind : cfg.kind = .restricted) (l : List Nat)
    (hlen : l.length = (w.cfgOf a).simAttacks)
    (hall : ∀ k ∈ l, k ≤ (2 * (w.cfgOf a).attackRange + 1) * (2 * (w.cfgOf a).attackRange + 1)) (t : Tape) :
    ∃ st L t1, determineRestricted cfg w a l t = .ok ((st, L), t1) ∧ SelOK cfg w a (.cells l) L := by
  have key : ∀ {L : List Aid}, Sel cfg w a (onCell w a) (resLim (2 * (w.cfgOf a).attackRange + 1) l) L →
      L.length ≤ l.length → SelOK cfg w a (.cells l) L := fun hL hlen' =>
    hL.selOK (windowCells (w.cfgOf a).attackRange) (nodup_windowCells _)
      (attackGroups_restricted w a l hkind)
      (onCell_excl w a)
      (fun b ij he hm _ => by
        rw [onCell, cellMem_iff] at hm
        rw [mem_windowCells, ← hm.1, ← hm.2]; exact eligible_win he)
      (fun ij _ => hlen ▸ List.countP_le_length)
      (fun _ => hlen ▸ hlen')
  unfold determineRestricted
  split
  · rename_i h0
    refine ⟨false, [], t, rfl, key (Sel.nil _ fun ij => ?_) (Nat.zero_le _)⟩
    rw [resLim, List.countP_eq_zero]
    intro k hk
    have : k = 0 := by simpa using List.all_eq_true.mp h0 k hk
    rw [this, names_zero]; exact Bool.false_ne_true
  · obtain ⟨L, t1, hL⟩ := resLoop_returns hmap (w.cfgOf a).attackRange
      (Mask.maskOf (w.cfgOf a).attackRange (w.attackBlockers a)) l hall [] t
    simp only []
    rw [hL]
    obtain ⟨h1, h2⟩ := resLoop_sel (scan_cell hI) l [] [] t (Sel.nil _ fun _ => rfl) hL
    exact ⟨true, L, t1, rfl, key h1 (by simpa using h2)⟩

/-- agents that are real indices and not the attacker -/
def Prov (w : World) (a : Aid) (L : List Aid) : Prop := ∀ v ∈ L, v < w.n ∧ v ≠ a

theorem Prov.nil (w : World) (a : Aid) : Prov w a [] := fun _ h => by cases h

theorem Prov.append {w : World} {a : Aid} {L M : List Aid} (h1 : Prov w a L) (h2 : Prov w a M) :
    Prov w a (L ++ M) := by
  intro v hv
  rcases List.mem_append.mp hv with h | h
  · exact h1 v h
  · exact h2 v h

theorem Prov.of_subset {w : World} {a : Aid} {L M : List Aid} (h : Prov w a M) (hs : ∀ x ∈ L, x ∈ M) :
    Prov w a L := fun v hv => h v (hs v hv)

theorem encLoop_mem (w : World) (stacked : Bool) (S : List Aid) (act : List (Int × Nat)) (t : Tape) :
    ∀ x ∈ (encLoop w stacked S act t).1, x ∈ S := by
  induction act generalizing t with
  | nil => intro x hx; simp [encLoop] at hx
  | cons p rest ih =>
    obtain ⟨e, k⟩ := p
    intro x hx
    unfold encLoop at hx
    simp only at hx
    split at hx
    · exact ih _ x hx
    · rcases List.mem_append.mp hx with h | h
      · exact (List.mem_filter.mp (subsetAttackables_mem _ _ _ _ x h)).1
      · exact ih _ x h

theorem ne_of_eligible {b : Aid} (h : eligible cfg w a b = true) : b ≠ a := by
  rw [eligible_eq] at h
  simp only [detOK, Bool.and_eq_true, bne_iff_ne] at h
  exact h.1.1.1.1.1

theorem Sel.prov {lim : ι → Nat} {L : List Aid} (h : Sel cfg w a mem lim L) : Prov w a L :=
  fun b hb => ⟨(h.who b hb).1, ne_of_eligible (h.who b hb).2.1⟩

theorem Scanned.prov {p : Aid → Bool} {S : List Aid} (h : Scanned cfg w a p S) : Prov w a S :=
  fun b hb => ⟨(h.mem b hb).1, ne_of_eligible (h.mem b hb).2.1⟩

theorem determineSelective_prov (hI : w.WInv = true) {act : List Nat} {t : Tape} {st : Bool} {L : List Aid}
    {t1 : Tape} (h : determineSelective cfg w a act t = .ok ((st, L), t1)) : Prov w a L := by
  unfold determineSelective at h
  simp only at h
  split at h
  · cases h
  · split at h
    · cases h; exact Prov.nil w a
    · split at h
      · cases h
      · rename_i L' t2 hl
        cases h
        exact (selLoop_sel (scan_cell hI) act _ (nodup_windowCells _) (fun ij h => (mem_windowCells _ ij).mp h) t hl).prov

theorem determineRestricted_prov (hI : w.WInv = true) {act : List Nat} {t : Tape} {st : Bool} {L : List Aid}
    {t1 : Tape} (h : determineRestricted cfg w a act t = .ok ((st, L), t1)) : Prov w a L := by
  unfold determineRestricted at h
  split at h
  · cases h; exact Prov.nil w a
  · simp only at h
    split at h
    · cases h
    · rename_i L' t2 hl
      cases h
      exact (resLoop_sel (scan_cell hI) act [] [] t (Sel.nil _ fun _ => rfl) hl).1.prov

/-- not through `Sel`: `encLoop_sel` needs the keys of the action distinct, which only `inSpace` says -/
theorem determineEncoding_prov (hI : w.WInv = true) {act : List (Int × Nat)} {t : Tape} {st : Bool} {L : List Aid}
    {t1 : Tape} (h : determineEncoding cfg w a act t = .ok ((st, L), t1)) : Prov w a L := by
  unfold determineEncoding at h
  split at h
  · cases h; exact Prov.nil w a
  · simp only at h
    split at h
    · cases h
    · rename_i S t2 hs
      split at h
      · cases h
        exact (scan_window hI hs).prov.of_subset (encLoop_mem _ _ _ _ _)
      · cases h

theorem determineAttack_prov {cfg : AttackCfg} {w : World} (hI : w.WInv = true) {a : Aid}
    {act : AttackAct} {t : Tape} {st : Bool} {L : List Aid} {t1 : Tape}
    (h : determineAttack cfg w a act t = .ok ((st, L), t1)) : Prov w a L := by
  unfold determineAttack at h
  split at h
  · exact (determineBinary_sel hI h).prov
  · exact determineEncoding_prov hI h
  · exact determineSelective_prov hI h
  · exact determineRestricted_prov hI h
  · cases h

theorem processAttack_book {cfg : AttackCfg} {w : World} {a : Aid} {act : AttackAct} {t : Tape}
    {st : Bool} {H : List Aid} {w' : World} {t' : Tape} (hI : w.WInv = true)
    (h : processAttack cfg w a act t = .ok ((st, H), w', t')) :
    ((w.cfgOf a).attacking = true → specBook w a H w' = true) ∧
    ((w.cfgOf a).attacking = false → H = [] ∧ w' = w) := by
  by_cases hatt : (w.cfgOf a).attacking = true
  · cases hdet : determineAttack cfg w a act t with
    | error e =>
      unfold processAttack at h
      rw [if_pos hatt, hdet] at h
      cases h
    | ok r =>
      obtain ⟨⟨st0, L⟩, t1⟩ := r
      obtain ⟨H', w2, t2, hp, _, hbook, _⟩ := tail_sound hI hatt hdet (determineAttack_prov hI hdet)
      rw [hp] at h
      cases h
      exact ⟨fun _ => hbook, fun hf => by rw [hatt] at hf; cases hf⟩
  · unfold processAttack at h
    rw [if_neg hatt] at h
    cases h
    exact ⟨fun ht => absurd ht hatt, fun _ => ⟨rfl, rfl⟩⟩

theorem processAttack_of_SelOK {cfg : AttackCfg} {w : World} {a : Aid} {act : AttackAct} {t : Tape}
    {st : Bool} {L : List Aid} {t1 : Tape} (hI : w.WInv = true)
    (hatt : (w.cfgOf a).attacking = true)
    (hdet : determineAttack cfg w a act t = .ok ((st, L), t1)) (sel : SelOK cfg w a act L) :
    ∃ H w' t', processAttack cfg w a act t = .ok ((st, H), w', t') ∧
      AttackSpec cfg w a act H w' = true ∧ w'.WInv = true := by
  obtain ⟨H, w', t', hp, hI', hbook, hsub, hlen⟩ := tail_sound hI hatt hdet (determineAttack_prov hI hdet)
  exact ⟨H, w', t', hp, AttackSpec_of_SelOK hatt sel hsub hlen hbook, hI'⟩

/-- an agent that is not an `AttackingAgent`: `(False, [])`, nothing changes -/
theorem processAttack_not_attacking {cfg : AttackCfg} {w : World} {a : Aid} (act : AttackAct) (t : Tape)
    (hatt : (w.cfgOf a).attacking = false) :
    processAttack cfg w a act t = .ok ((false, []), w, t) ∧ AttackSpec cfg w a act [] w = true := by
  constructor
  · unfold processAttack; rw [hatt]; rfl
  · unfold AttackSpec; rw [hatt]; simp

end World
end Abmarl
