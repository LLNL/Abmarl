/-!
# Facts about lists that the models' dictionaries, tables and loops need

Nothing is imported: core only.  Last come the two directions of a check folded along a trace beside a ghost state
(`guardedLoop_at`, `judged_run`).
-/
namespace Abmarl

/-! ## Boolean implications, `Except.map` -/

theorem eq_false_or_iff {b : Bool} {p : Prop} : (b = false ∨ p) ↔ (b = true → p) := by
  cases b <;> simp

/-- Boolean specifications write `b → p` as `!b || p` -/
theorem bimp_iff {b c : Bool} : (!b || c) = true ↔ (b = true → c = true) := by
  rw [Bool.or_eq_true, Bool.not_eq_true', eq_false_or_iff]

theorem map_ok {ε α β : Type} {f : α → β} {e : Except ε α} {y : β} (h : e.map f = .ok y) :
    ∃ x, e = .ok x ∧ f x = y := by
  cases e with
  | error e => cases h
  | ok x => exact ⟨x, rfl, by simpa [Except.map] using h⟩

/-! ## lists of pairs read as dictionaries -/

theorem mem_of_lookup {α β : Type} [BEq α] [LawfulBEq α] (l : List (α × β)) (a : α) (v : β)
    (h : l.lookup a = some v) : (a, v) ∈ l := by
  obtain ⟨l₁, l₂, rfl, _⟩ := List.lookup_eq_some_iff.mp h
  simp

theorem lookup_of_mem_nodup {α β : Type} [BEq α] [LawfulBEq α] (l : List (α × β))
    (hnd : (l.map (·.1)).Nodup) (a : α) (v : β) (h : (a, v) ∈ l) : l.lookup a = some v := by
  obtain ⟨l₁, l₂, rfl⟩ := List.append_of_mem h
  refine List.lookup_eq_some_iff.mpr ⟨l₁, l₂, rfl, fun p hp => ?_⟩
  simp only [List.map_append, List.map_cons] at hnd
  have := (List.nodup_append.mp hnd).2.2 p.1 (List.mem_map.mpr ⟨p, hp, rfl⟩) a (by simp)
  simpa [bne_iff_ne] using fun e => this e.symm

theorem lookup_isSome_iff_mem_keys {α β : Type} [BEq α] [LawfulBEq α] (l : List (α × β)) (a : α) :
    (l.lookup a).isSome = true ↔ a ∈ l.map (·.1) := by
  rw [List.lookup_isSome_iff, List.mem_map]
  constructor
  · rintro ⟨p, hp, he⟩; exact ⟨p, hp, (eq_of_beq he).symm⟩
  · rintro ⟨p, hp, rfl⟩; exact ⟨p, hp, beq_self_eq_true _⟩

theorem lookup_of_mem_keys {α β : Type} [BEq α] [LawfulBEq α] (l : List (α × β)) (a : α)
    (h : a ∈ l.map (·.1)) : ∃ v, l.lookup a = some v :=
  Option.isSome_iff_exists.mp ((lookup_isSome_iff_mem_keys l a).mpr h)

theorem lookup_none_iff {α β : Type} [BEq α] [LawfulBEq α] (m : List (α × β)) (a : α) :
    m.lookup a = none ↔ ∀ t, (a, t) ∉ m := by
  rw [List.lookup_eq_none_iff]
  constructor
  · intro h t ht
    have := h (a, t) ht
    simp at this
  · intro h p hp
    simp only [bne_iff_ne, ne_eq]
    intro hk
    exact h p.2 (by rw [hk]; exact hp)

theorem lookup_none_of_not_mem_keys {α β : Type} [BEq α] [LawfulBEq α] (l : List (α × β)) (a : α)
    (h : a ∉ l.map (·.1)) : l.lookup a = none :=
  (lookup_none_iff l a).mpr fun _ ht => h (List.mem_map_of_mem (f := (·.1)) ht)

/-- one step of `lookup`, with `=` for `==` -/
theorem lookup_cons_ite {α β : Type} [DecidableEq α] (k : α) (v : β) (l : List (α × β)) (a : α) :
    ((k, v) :: l).lookup a = if a = k then some v else l.lookup a := by
  rw [List.lookup_cons]
  by_cases h : a = k
  · rw [if_pos h, beq_iff_eq.mpr h]
  · rw [if_neg h, beq_false_of_ne h]

theorem lookup_map_self {α β : Type} [DecidableEq α] (f : α → β) (l : List α) (a : α) :
    (l.map (fun x => (x, f x))).lookup a = if a ∈ l then some (f a) else none := by
  induction l with
  | nil => rfl
  | cons x xs ih =>
    rw [List.map_cons, lookup_cons_ite, ih]
    by_cases h : a = x <;> simp [h]

theorem lookup_map_val {α β γ : Type} [DecidableEq α] (f : α → β → γ) (l : List (α × β)) (a : α) :
    (l.map fun p => (p.1, f p.1 p.2)).lookup a = (l.lookup a).map (f a) := by
  induction l with
  | nil => rfl
  | cons p ps ih =>
    rw [List.map_cons, lookup_cons_ite, lookup_cons_ite, ih]
    split
    · next h => rw [h]; rfl
    · rfl

theorem any_pair_iff {α β : Type} [DecidableEq α] (m : List (α × β)) (a : α) (q : β → Bool) :
    m.any (fun p => p.1 == a && q p.2) = true ↔ ∃ t, (a, t) ∈ m ∧ q t = true := by
  simp only [List.any_eq_true, Bool.and_eq_true, beq_iff_eq]
  constructor
  · rintro ⟨p, hp, rfl, hq⟩; exact ⟨p.2, hp, hq⟩
  · rintro ⟨t, ht, hq⟩; exact ⟨(a, t), ht, rfl, hq⟩

theorem filter_key_of_nodup {α β : Type} [DecidableEq α] : ∀ {m : List (α × β)}, (m.map (·.1)).Nodup → ∀ a : α,
    m.filter (fun p => p.1 == a) = ((m.lookup a).map fun v => (a, v)).toList
  | [], _, _ => rfl
  | (k, v) :: rest, hd, a => by
    obtain ⟨hk, hd'⟩ := List.nodup_cons.mp hd
    rw [List.filter_cons, List.lookup_cons, filter_key_of_nodup hd']
    by_cases h : k = a
    · rw [h, beq_self_eq_true, if_pos rfl, lookup_none_of_not_mem_keys rest a (h ▸ hk)]
      rfl
    · rw [beq_false_of_ne h, beq_false_of_ne fun e => h e.symm]
      rfl

theorem any_key_of_nodup {α β : Type} [DecidableEq α] {m : List (α × β)} (hd : (m.map (·.1)).Nodup) (a : α)
    (q : β → Bool) : m.any (fun p => p.1 == a && q p.2) = (m.lookup a).any q := by
  rw [← List.any_filter (l := m) (p := fun p => p.1 == a) (q := fun p => q p.2), filter_key_of_nodup hd]
  cases m.lookup a <;> simp

/-- `set` is any model of `d[k] = v` that appends a fresh key -/
theorem foldl_set_of_nodup {κ υ : Type} (set : List (κ × υ) → κ → υ → List (κ × υ))
    (hset : ∀ d k v, k ∉ d.map (·.1) → set d k v = d ++ [(k, v)]) :
    ∀ (items d : List (κ × υ)), ((d ++ items).map (·.1)).Nodup →
      items.foldl (fun d p => set d p.1 p.2) d = d ++ items
  | [], d, _ => by simp
  | (k0, v0) :: rest, d, h => by
    rw [List.foldl_cons]
    have hk : k0 ∉ d.map (·.1) := by
      simp only [List.map_append, List.map_cons] at h
      rw [List.nodup_append] at h
      intro hmem
      exact h.2.2 k0 hmem k0 (by simp) rfl
    rw [hset d k0 v0 hk]
    have h' : (((d ++ [(k0, v0)]) ++ rest).map (·.1)).Nodup := by
      simpa [List.append_assoc] using h
    rw [foldl_set_of_nodup set hset rest _ h']
    simp [List.append_assoc]

/-! ## `getD` -/

theorem getD_set {β : Type} (l : List β) (i j : Nat) (v d : β) :
    (l.set i v).getD j d = if i = j ∧ i < l.length then v else l.getD j d := by
  simp only [List.getD_eq_getElem?_getD, List.getElem?_set]
  by_cases h : i = j
  · subst h
    by_cases h2 : i < l.length
    · simp [h2]
    · simp [h2]
  · simp [h]

theorem getD_set_lt {β : Type} {l : List β} {i : Nat} (h : i < l.length) (j : Nat) (v d : β) :
    (l.set i v).getD j d = if j = i then v else l.getD j d := by
  rw [getD_set]
  by_cases hj : j = i
  · rw [if_pos ⟨hj.symm, h⟩, if_pos hj]
  · rw [if_neg fun e => hj e.1.symm, if_neg hj]

theorem getD_set_same {β : Type} (l : List β) (i : Nat) (x d : β) (h : i < l.length) :
    (l.set i x).getD i d = x := by
  simp [List.getD, h]

theorem getD_set_ne {β : Type} (l : List β) (i j : Nat) (x d : β) (h : i ≠ j) :
    (l.set i x).getD j d = l.getD j d := by
  simp [List.getD, List.getElem?_set_ne h]

theorem getD_mem {β : Type} (l : List β) (i : Nat) (d : β) (h : i < l.length) : l.getD i d ∈ l := by
  rw [List.getD_eq_getElem?_getD, List.getElem?_eq_getElem h]
  exact List.getElem_mem h

theorem getD_replicate {β : Type} (n i : Nat) (v d : β) (h : i < n) :
    (List.replicate n v).getD i d = v := by
  simp [List.getD_eq_getElem?_getD, h]

theorem getElem?_map_range {β : Type} (f : Nat → β) (n a : Nat) (h : a < n) :
    ((List.range n).map f)[a]? = some (f a) := by
  simp [h]

theorem getD_map_range {β : Type} (f : Nat → β) (n a : Nat) (d : β) (h : a < n) :
    ((List.range n).map f).getD a d = f a := by
  rw [List.getD_eq_getElem?_getD, getElem?_map_range f n a h, Option.getD_some]

theorem getD_ext {β : Type} {l l' : List β} (d : β) (hl : l'.length = l.length)
    (h : ∀ i < l.length, l'.getD i d = l.getD i d) : l' = l := by
  apply List.ext_getElem hl
  intro i h1 h2
  have := h i h2
  rwa [List.getD_eq_getElem?_getD, List.getD_eq_getElem?_getD, List.getElem?_eq_getElem h1,
    List.getElem?_eq_getElem h2] at this

theorem all_range_getD {α : Type} (l : List α) (d : α) (f : Nat → α → Bool) :
    (List.range l.length).all (fun i => f i (l.getD i d)) = l.zipIdx.all fun x => f x.2 x.1 := by
  rw [Bool.eq_iff_iff]
  simp only [List.all_eq_true, List.mem_range, List.mem_zipIdx_iff_getElem?, Prod.forall]
  constructor
  · intro h x i hi
    have := h i (List.getElem?_eq_some_iff.mp hi).1
    rwa [List.getD_eq_getElem?_getD, hi] at this
  · intro h i hi
    exact h (l.getD i d) i (by simp [List.getD_eq_getElem?_getD, List.getElem?_eq_getElem hi])

theorem getD_nil_of_le {β : Type} (l : List (List β)) (i : Nat) (h : l.length ≤ i) : l.getD i [] = [] := by
  rw [List.getD_eq_getElem?_getD, List.getElem?_eq_none h]; rfl

theorem mem_getD_lt {β : Type} {l : List (List β)} {i : Nat} {a : β} (h : a ∈ l.getD i []) : i < l.length := by
  by_cases hi : i < l.length
  · exact hi
  · rw [List.getD_eq_getElem?_getD, List.getElem?_eq_none (by omega)] at h
    cases h

theorem getD_true_lt {l : List Bool} {i : Nat} (h : l.getD i false = true) : i < l.length := by
  by_cases hi : i < l.length
  · exact hi
  · rw [List.getD_eq_getElem?_getD, List.getElem?_eq_none (by omega)] at h; cases h

theorem getD_le_of_all {l : List Nat} {s : Nat} (h : ∀ k ∈ l, k ≤ s) (q : Nat) : l.getD q 0 ≤ s := by
  rw [List.getD_eq_getElem?_getD]
  cases hq : l[q]? with
  | none => exact Nat.zero_le _
  | some v => exact h v (List.mem_of_getElem? hq)

theorem getD_mem_cons {β : Type} (x : β) (xs : List β) (i : Nat) : (x :: xs).getD i x ∈ x :: xs := by
  by_cases hi : i < (x :: xs).length
  · exact getD_mem _ i x hi
  · rw [List.getD_eq_getElem?_getD, List.getElem?_eq_none (Nat.le_of_not_lt hi)]
    exact List.mem_cons_self

/-! ## `all`, `any`, `mapM`, `sum`, `max`, `countP` -/

theorem all_congr_mem {β : Type} {l : List β} {p q : β → Bool} (h : ∀ a ∈ l, p a = q a) :
    l.all p = l.all q := by
  induction l with
  | nil => rfl
  | cons x xs ih =>
    simp only [List.all_cons]
    rw [h x (List.mem_cons_self ..), ih (fun a ha => h a (List.mem_cons_of_mem _ ha))]

theorem any_eq_true_iff_mem {α : Type} {p : α → Bool} {c : α} (hp : ∀ x, p x = true ↔ x = c) (l : List α) :
    l.any p = true ↔ c ∈ l := by
  simp only [List.any_eq_true, hp]
  exact ⟨fun ⟨x, hx, e⟩ => e ▸ hx, fun h => ⟨c, h, rfl⟩⟩

theorem mapM_isSome {α β : Type} (f : α → Option β) : ∀ l : List α,
    (l.mapM f).isSome = l.all fun b => (f b).isSome := by
  intro l
  induction l with
  | nil => simp
  | cons a l ih =>
    rw [List.mapM_cons, List.all_cons, ← ih]
    cases f a <;> cases l.mapM f <;> simp

theorem sum_map_zero {β : Type} (f : β → Int) :
    ∀ (l : List β), (∀ c ∈ l, f c = 0) → (l.map f).sum = 0
  | [], _ => rfl
  | c :: cs, h => by
    simp only [List.map_cons, List.sum_cons]
    rw [h c (List.mem_cons_self ..), sum_map_zero f cs (fun c' hc' => h c' (List.mem_cons_of_mem _ hc'))]
    rfl

theorem le_foldl_max (xs : List Int) (x : Int) :
    x ≤ xs.foldl max x ∧ ∀ y ∈ xs, y ≤ xs.foldl max x := by
  induction xs generalizing x with
  | nil => exact ⟨Int.le_refl _, fun y hy => by cases hy⟩
  | cons z zs ih =>
    obtain ⟨h1, h2⟩ := ih (max x z)
    rw [List.foldl_cons]
    refine ⟨Int.le_trans (Int.le_max_left _ _) h1, ?_⟩
    intro y hy
    rcases List.mem_cons.mp hy with rfl | hy
    · exact Int.le_trans (Int.le_max_right _ _) h1
    · exact h2 y hy

theorem countP_snoc {α : Type} (p : α → Bool) (l : List α) (x : α) :
    (l ++ [x]).countP p = l.countP p + if p x = true then 1 else 0 := by
  rw [List.countP_append, List.countP_singleton]

/-! ## `Nodup`, `Pairwise`, permutations -/

theorem nodup_snoc {α : Type} {l : List α} {x : α} (h : l.Nodup) (hx : x ∉ l) : (l ++ [x]).Nodup :=
  (List.perm_append_singleton x l).nodup_iff.mpr (List.nodup_cons.mpr ⟨hx, h⟩)

theorem pairwise_last {R : Nat → Nat → Prop} {l : List Nat} {k c : Nat} (hl : l.Pairwise R)
    (h : l.getLast? = some k) (hc : c ∈ l) : c = k ∨ R c k := by
  obtain ⟨ys, rfl⟩ := List.getLast?_eq_some_iff.mp h
  rw [List.mem_append, List.mem_singleton] at hc
  rcases hc with hc | hc
  · right
    exact (List.pairwise_append.mp hl).2.2 c hc k (List.mem_singleton.mpr rfl)
  · left; exact hc

theorem erase_filter_eq {l : List Nat} (hl : l.Nodup) (p : Nat → Bool) (k : Nat) :
    (l.filter p).erase k = l.filter (fun c => p c && (c != k)) := by
  rw [(hl.sublist List.filter_sublist).erase_eq_filter, List.filter_filter]
  apply List.filter_congr
  intro c _
  exact Bool.and_comm _ _

theorem disjoint_of_nodup_flatten {β : Type} {L : List (List β)} (h : L.flatten.Nodup) {i j : Nat}
    {li lj : List β} (hi : L[i]? = some li) (hj : L[j]? = some lj) (hne : i ≠ j) {b : β}
    (hbi : b ∈ li) (hbj : b ∈ lj) : False := by
  have hpw := (List.pairwise_flatten.mp h).2
  rw [List.pairwise_iff_getElem] at hpw
  obtain ⟨hil, rfl⟩ := List.getElem?_eq_some_iff.mp hi
  obtain ⟨hjl, rfl⟩ := List.getElem?_eq_some_iff.mp hj
  rcases Nat.lt_or_gt_of_ne hne with hlt | hgt
  · exact hpw i j hil hjl hlt b hbi b hbj rfl
  · exact hpw j i hjl hil hgt b hbj b hbi rfl

/-- Mathlib's `List.getElem_cons_eraseIdx_perm`, for the files that do not import Mathlib -/
theorem getElem_cons_eraseIdx_perm' {β : Type} : ∀ (l : List β) (i : Nat) (h : i < l.length),
    (l[i] :: l.eraseIdx i).Perm l
  | x :: xs, 0, _ => by simp
  | x :: xs, i + 1, h => by
    have h' : i < xs.length := by simpa using h
    simp only [List.getElem_cons_succ, List.eraseIdx_cons_succ]
    exact (List.Perm.swap _ _ _).trans (List.Perm.cons _ (getElem_cons_eraseIdx_perm' xs i h'))

/-! ## row-major indices -/

theorem mul_add_div_mod {a b c : Nat} (h : b < c) : (a * c + b) / c = a ∧ (a * c + b) % c = b := by
  constructor
  · rw [Nat.mul_comm, Nat.mul_add_div (by omega), Nat.div_eq_of_lt h]; simp
  · rw [Nat.mul_comm, Nat.mul_add_mod, Nat.mod_eq_of_lt h]

theorem div_mod_lt {k r c : Nat} (h : k < r * c) : k / c < r ∧ k % c < c := by
  have hc : 0 < c := by
    rcases Nat.eq_zero_or_pos c with h0 | h0
    · rw [h0] at h; simp at h
    · exact h0
  exact ⟨(Nat.div_lt_iff_lt_mul hc).mpr h, Nat.mod_lt _ hc⟩

theorem flat_lt {a b r c : Nat} (ha : a < r) (hb : b < c) : a * c + b < r * c :=
  Nat.lt_of_lt_of_le (Nat.add_lt_add_left hb _) (Nat.succ_mul a c ▸ Nat.mul_le_mul_right c ha)

theorem mul_add_inj {a b a' b' c : Nat} (hb : b < c) (hb' : b' < c) (h : a * c + b = a' * c + b') :
    a = a' ∧ b = b' :=
  ⟨by rw [← (mul_add_div_mod (a := a) hb).1, h, (mul_add_div_mod hb').1],
   by rw [← (mul_add_div_mod (a := a) hb).2, h, (mul_add_div_mod hb').2]⟩

/-! ### A window of range R

Offset `o ∈ [-R, R]` from the centre `p` has window index `(o + R).toNat < 2R+1`; index `i` has offset `i - R` and
coordinate `p - R + i` (as the attack actors write it) or `p + (i - R)` (as the observers do). -/

theorem win_iff {R i : Nat} {o : Int} (hi : i < 2 * R + 1) :
    (-R ≤ o ∧ o ≤ R) ∧ (o + R).toNat = i ↔ o = i - R := by
  omega

theorem win_idx {R : Nat} {o : Int} (h : -R ≤ o ∧ o ≤ R) :
    (o + R).toNat < 2 * R + 1 ∧ ((o + R).toNat : Int) - R = o := by
  omega

theorem win_abs {R i : Nat} {p q : Int} : q = p - R + i ↔ q - p = i - R := by
  omega

theorem win_src {R i : Nat} {p : Int} : p - R + i = p + (i - R) := by
  omega

/-! ## checks folded along a list -/

/-- A check `chk` run along a trace while a ghost state is folded by `next`, where a guard `skip` may
end the obligation.  `loop` is any function with the equation `hcons` (what it answers on `[]` is not
used).  If it accepts the trace, the check holds at every entry up to which no guard fired. -/
theorem guardedLoop_at {G E : Type} {skip chk : G → E → Bool} {next : G → E → G} {loop : G → List E → Bool}
    (hcons : ∀ g e es, loop g (e :: es) = if skip g e then true else (chk g e && loop (next g e) es)) :
    ∀ (tr : List E) (g0 : G), loop g0 tr = true → ∀ i e, tr[i]? = some e →
      (∀ j ≤ i, ∀ e', tr[j]? = some e' → skip ((tr.take j).foldl next g0) e' = false) →
      chk ((tr.take i).foldl next g0) e = true := by
  intro tr
  induction tr with
  | nil => intro g0 _ i e h; simp at h
  | cons e0 es ih =>
    intro g0 hl i e hi hp
    have h0 : skip g0 e0 = false := hp 0 (Nat.zero_le _) e0 rfl
    rw [hcons, h0, if_neg Bool.false_ne_true, Bool.and_eq_true] at hl
    cases i with
    | zero =>
      cases hi
      exact hl.1
    | succ i =>
      exact ih (next g0 e0) hl.2 i e hi fun j hj e' he' => hp (j + 1) (by omega) e' he'

/-- The converse direction, for a model: its run passes the judge's loop.  `run` makes one call `f` after
the other from a state; `loop` is any function with the two equations of a guarded loop over calls and
outputs (a judge that reads the call off the output ignores its list of calls).  It is enough that one call
from a state linked by `I` to the ghost state, with no guard fired, passes `chk` and keeps `I`. -/
theorem judged_run {St G C O : Type} {f : St → C → O × St} {run : St → List C → List O}
    {loop : G → List C → List O → Bool} {skip chk : G → C → O → Bool} {next : G → C → O → G}
    {I : St → G → Prop}
    (run_nil : ∀ s, run s [] = []) (run_cons : ∀ s c cs, run s (c :: cs) = (f s c).1 :: run (f s c).2 cs)
    (loop_nil : ∀ g, loop g [] [] = true)
    (loop_cons : ∀ g c cs o os, loop g (c :: cs) (o :: os) =
      if skip g c o then true else (chk g c o && loop (next g c o) cs os))
    (step : ∀ s g c, I s g → skip g c (f s c).1 = false →
      chk g c (f s c).1 = true ∧ I (f s c).2 (next g c (f s c).1)) :
    ∀ (cs : List C) (s : St) (g : G), I s g → loop g cs (run s cs) = true := by
  intro cs
  induction cs with
  | nil => intro s g _; rw [run_nil, loop_nil]
  | cons c cs ih =>
    intro s g hI
    rw [run_cons, loop_cons]
    cases hs : skip g c (f s c).1 with
    | true => rfl
    | false =>
      obtain ⟨h1, h2⟩ := step s g c hI hs
      rw [if_neg Bool.false_ne_true, h1, Bool.true_and]
      exact ih _ _ h2

end Abmarl
