import Abmarl.Spec.Managers
import Abmarl.Lemmas.ListAux
/-!
# What the managers' loops do over a lawful simulation

`Lawful` states the frame conditions on a simulation's getters.  Under them every loop of the managers
(flush, turn search, dynamic loop, the all-step reads) reports a list of agents one after the other
(`reportAll`); `Scanned` says which list a search consumed and whom it marked done.  At the end, what the
managers' proofs need of `rotate` (the turn pointer) and `shuffle` (a permutation, which `permOf` accepts;
no call changes the flag), and `specLoop` as a guarded loop (`specLoop_cons`).
-/
namespace Abmarl

variable {σ α ω ι : Type}

/-- Frame conditions on a simulation's getters: reading an observation or a reward does not
change who is done, whether the simulation is finished or whom it nominates; the reward
getter is read-and-reset on the ghost `pending`. -/
structure Lawful (S : SimIface σ α ω ι) : Prop where
  obs_done    : ∀ s a b, S.done (S.obs s a).2 b = S.done s b
  obs_allDone : ∀ s a, S.allDone (S.obs s a).2 = S.allDone s
  obs_next    : ∀ s a, S.next (S.obs s a).2 = S.next s
  obs_pending : ∀ s a b, S.pending (S.obs s a).2 b = S.pending s b
  rew_done    : ∀ s a b, S.done (S.reward s a).2 b = S.done s b
  rew_allDone : ∀ s a, S.allDone (S.reward s a).2 = S.allDone s
  rew_next    : ∀ s a, S.next (S.reward s a).2 = S.next s
  rew_val     : ∀ s a, (S.reward s a).1 = S.pending s a
  rew_pending : ∀ s a b, S.pending (S.reward s a).2 b = if b = a then 0 else S.pending s b

/-- `Lawful` says nothing of `step`, `reset`, `info` or the values of the observations -/
theorem Lawful.of_getters {α' ω' ι' : Type} {S : SimIface σ α ω ι} {S' : SimIface σ α' ω' ι'} (hS : Lawful S)
    (hobs : ∀ s a, (S'.obs s a).2 = (S.obs s a).2) (hrew : S'.reward = S.reward)
    (hdone : S'.done = S.done) (hall : S'.allDone = S.allDone) (hnext : S'.next = S.next)
    (hpend : S'.pending = S.pending) : Lawful S' := by
  cases hS
  constructor <;> simp only [hobs, hrew, hdone, hall, hnext, hpend] <;> assumption

/-- two simulation states that look the same through the pure getters -/
def SameView (S : SimIface σ α ω ι) (s s' : σ) : Prop :=
  (∀ a, S.done s' a = S.done s a) ∧ S.allDone s' = S.allDone s ∧ S.next s' = S.next s

theorem SameView.refl (S : SimIface σ α ω ι) (s : σ) : SameView S s s := ⟨fun _ => rfl, rfl, rfl⟩

theorem SameView.trans {S : SimIface σ α ω ι} {s s' s'' : σ}
    (h : SameView S s s') (h' : SameView S s' s'') : SameView S s s'' :=
  ⟨fun a => (h'.1 a).trans (h.1 a), h'.2.1.trans h.2.1, h'.2.2.trans h.2.2⟩

theorem Lawful.obs_view {S : SimIface σ α ω ι} (hS : Lawful S) (s : σ) (a : Aid) :
    SameView S s (S.obs s a).2 := ⟨hS.obs_done s a, hS.obs_allDone s a, hS.obs_next s a⟩

theorem Lawful.rew_view {S : SimIface σ α ω ι} (hS : Lawful S) (s : σ) (a : Aid) :
    SameView S s (S.reward s a).2 := ⟨hS.rew_done s a, hS.rew_allDone s a, hS.rew_next s a⟩

def reportAll (S : SimIface σ α ω ι) : σ → Acc ω ι → List Aid → Acc ω ι × σ
  | s, acc, [] => (acc, s)
  | s, acc, a :: as =>
    let r := report1 S s acc a
    reportAll S r.2 r.1 as

theorem report1_view {S : SimIface σ α ω ι} (hS : Lawful S) (s : σ) (acc : Acc ω ι) (a : Aid) :
    SameView S s (report1 S s acc a).2 :=
  (hS.obs_view s a).trans (hS.rew_view (S.obs s a).2 a)

theorem report1_pending {S : SimIface σ α ω ι} (hS : Lawful S) (s : σ) (acc : Acc ω ι) (a b : Aid) :
    S.pending (report1 S s acc a).2 b = if b = a then 0 else S.pending s b := by
  simp [report1, hS.rew_pending, hS.obs_pending]

theorem report1_acc {S : SimIface σ α ω ι} (hS : Lawful S) (s : σ) (acc : Acc ω ι) (a : Aid) :
    keys (report1 S s acc a).1.obs = keys acc.obs ++ [a] ∧
    (report1 S s acc a).1.rewards = acc.rewards ++ [(a, S.pending s a)] ∧
    (report1 S s acc a).1.dones = acc.dones ++ [(a, S.done s a)] ∧
    keys (report1 S s acc a).1.infos = keys acc.infos ++ [a] := by
  simp [report1, keys, hS.rew_val, hS.obs_pending, hS.rew_done, hS.obs_done]

theorem reportAll_view {S : SimIface σ α ω ι} (hS : Lawful S) :
    ∀ (l : List Aid) (s : σ) (acc : Acc ω ι), SameView S s (reportAll S s acc l).2
  | [], s, _ => SameView.refl S s
  | a :: as, s, acc => by
    simp only [reportAll]
    exact (report1_view hS s acc a).trans (reportAll_view hS as _ _)

theorem reportAll_pending {S : SimIface σ α ω ι} (hS : Lawful S) :
    ∀ (l : List Aid) (s : σ) (acc : Acc ω ι) (b : Aid),
      S.pending (reportAll S s acc l).2 b = if b ∈ l then 0 else S.pending s b
  | [], s, _, b => by simp [reportAll]
  | a :: as, s, acc, b => by
    simp only [reportAll]
    rw [reportAll_pending hS as, report1_pending hS]
    by_cases h1 : b ∈ as <;> by_cases h2 : b = a <;> simp [h1, h2]

theorem reportAll_acc {S : SimIface σ α ω ι} (hS : Lawful S) :
    ∀ (l : List Aid) (s : σ) (acc : Acc ω ι), l.Nodup →
      keys (reportAll S s acc l).1.obs = keys acc.obs ++ l ∧
      (reportAll S s acc l).1.rewards = acc.rewards ++ l.map (fun a => (a, S.pending s a)) ∧
      (reportAll S s acc l).1.dones = acc.dones ++ l.map (fun a => (a, S.done s a)) ∧
      keys (reportAll S s acc l).1.infos = keys acc.infos ++ l
  | [], s, acc, _ => by simp [reportAll]
  | a :: as, s, acc, hnd => by
    simp only [reportAll]
    have hnd' := (List.nodup_cons.mp hnd)
    obtain ⟨h1, h2, h3, h4⟩ := reportAll_acc hS as (report1 S s acc a).2 (report1 S s acc a).1 hnd'.2
    obtain ⟨r1, r2, r3, r4⟩ := report1_acc hS s acc a
    have hv := report1_view hS s acc a
    refine ⟨by rw [h1, r1]; simp, ?_, ?_, by rw [h4, r4]; simp⟩
    · rw [h2, r2]
      simp only [List.map_cons, List.append_assoc, List.cons_append, List.nil_append]
      congr 2
      apply List.map_congr_left
      intro b hb
      rw [report1_pending hS]
      have : b ≠ a := fun h => hnd'.1 (h ▸ hb)
      simp [this]
    · rw [h3, r3]
      simp only [List.map_cons, List.append_assoc, List.cons_append, List.nil_append]
      congr 2
      apply List.map_congr_left
      intro b _
      rw [hv.1 b]

theorem flush_eq (S : SimIface σ α ω ι) (ds : List Aid) :
    ∀ (l : List Aid) (s : σ) (acc : Acc ω ι),
      flush S ds s acc l = reportAll S s acc (l.filter (fun a => decide (a ∉ ds)))
  | [], s, acc => by simp [flush, reportAll]
  | a :: as, s, acc => by
    by_cases h : a ∈ ds
    · simp [flush, h, flush_eq S ds as]
    · simp [flush, h, reportAll, flush_eq S ds as]

/-- `r` is what is left after reporting, from `(s, acc)`, the agents of `pre` outside `ds` one after
the other and adding those that were done to `ds` -/
def Scanned (S : SimIface σ α ω ι) (s : σ) (ds : List Aid) (acc : Acc ω ι) (pre : List Aid)
    (r : SearchRes σ ω ι) : Prop :=
  (r.acc, r.sim) = reportAll S s acc (pre.filter (fun a => decide (a ∉ ds))) ∧
  ∀ x, x ∈ r.ds ↔ x ∈ ds ∨ (x ∈ pre ∧ S.done s x = true)

theorem Scanned.nil (S : SimIface σ α ω ι) (s : σ) (ds : List Aid) (acc : Acc ω ι) (b : Bool) (u : Nat) :
    Scanned S s ds acc [] ⟨acc, s, ds, b, u⟩ := ⟨rfl, by simp⟩

theorem Scanned.skip {S : SimIface σ α ω ι} {s : σ} {ds : List Aid} {acc : Acc ω ι} {pre : List Aid}
    {r : SearchRes σ ω ι} {a : Aid} (ha : a ∈ ds) (h : Scanned S s ds acc pre r) :
    Scanned S s ds acc (a :: pre) r :=
  ⟨by simpa [ha] using h.1, fun x => by
    rw [h.2 x]; by_cases hx : x = a <;> simp [hx, ha]⟩

/-- one agent outside `ds` is reported; the `if` lets one lemma serve the branch in which `a` finishes (it joins
`ds`) and the branch in which it is live -/
theorem Scanned.report {S : SimIface σ α ω ι} (hS : Lawful S) {s : σ} {ds : List Aid} {acc : Acc ω ι}
    {pre : List Aid} {r : SearchRes σ ω ι} {a : Aid} (ha : a ∉ ds) (hp : a ∉ pre)
    (h : Scanned S (report1 S s acc a).2 (if S.done s a then a :: ds else ds) (report1 S s acc a).1 pre r) :
    Scanned S s ds acc (a :: pre) r := by
  have hv := (report1_view hS s acc a).1
  refine ⟨?_, fun x => ?_⟩
  · rw [h.1]
    split
    · have hf : pre.filter (fun x => decide (x ∉ a :: ds)) = pre.filter (fun x => decide (x ∉ ds)) :=
        List.filter_congr fun x hx => by simp [show x ≠ a from fun e => hp (e ▸ hx)]
      rw [hf]; simp [ha, reportAll]
    · simp [ha, reportAll]
  · rw [h.2 x]; simp only [hv]
    by_cases hx : x = a <;> by_cases hd : S.done s a = true <;> simp [hx, hd, ha, hp]

/-- A successful turn search consumed a prefix `pre` of the rotation and, unless everybody is done, stopped
at `live`, the last agent of `pre` and the only one of them that it leaves outside `done_agents`. -/
theorem turnSearch_spec {S : SimIface σ α ω ι} (hS : Lawful S) :
    ∀ (rot : List Aid) (s : σ) (ds : List Aid) (acc : Acc ω ι) (k : Nat) (res : SearchRes σ ω ι),
      rot.Nodup → turnSearch S rot s ds acc k = some res →
      ∃ pre post, rot = pre ++ post ∧ res.used = k + pre.length ∧ Scanned S s ds acc pre res ∧
        (res.allDone = true → ∀ b ∈ S.agents, b ∈ res.ds) ∧
        (res.allDone = false → ∃ pre' live, pre = pre' ++ [live] ∧ live ∉ res.ds ∧ ∀ b ∈ pre', b ∈ res.ds) := by
  intro rot s ds acc k res
  fun_induction turnSearch S rot s ds acc k with
  | case1 => nofun
  | case2 a rest s ds acc k hads ih =>
    -- already reported: skipped
    intro hnd h
    obtain ⟨pre, post, e, hu, hsc, ht, hf⟩ := ih (List.nodup_cons.mp hnd).2 h
    refine ⟨a :: pre, post, by simp [e], by simp [hu]; omega, hsc.skip hads, ht, fun hF => ?_⟩
    obtain ⟨pre', live, e', hr, h3⟩ := hf hF
    exact ⟨a :: pre', live, by simp [e'], hr, List.forall_mem_cons.mpr ⟨(hsc.2 a).mpr (Or.inl hads), h3⟩⟩
  | case3 a rest s ds acc k hads hd r ds' hall =>
    -- finishing now, the last one
    rintro - ⟨⟩
    exact ⟨[a], rest, rfl, rfl, .report hS hads (by simp) (by simpa [hd] using .nil ..),
      fun _ b hb => of_decide_eq_true (List.all_eq_true.mp hall b hb), by simp⟩
  | case4 a rest s ds acc k hads hd r ds' hall ih =>
    -- finishing now
    intro hnd h
    have hnd' := List.nodup_cons.mp hnd
    obtain ⟨pre, post, e, hu, hsc, ht, hf⟩ := ih hnd'.2 h
    have hapre : a ∉ pre := fun hx => hnd'.1 (by rw [e]; exact List.mem_append_left _ hx)
    refine ⟨a :: pre, post, by simp [e], by simp [hu]; omega,
      .report hS hads hapre (by simpa [hd] using hsc), ht, fun hF => ?_⟩
    obtain ⟨pre', live, e', hr, h3⟩ := hf hF
    exact ⟨a :: pre', live, by simp [e'], hr,
      List.forall_mem_cons.mpr ⟨(hsc.2 a).mpr (Or.inl List.mem_cons_self), h3⟩⟩
  | case5 a rest s ds acc k hads hd =>
    -- live agent found
    rintro - ⟨⟩
    exact ⟨[a], rest, rfl, rfl, .report hS hads (by simp) (by simpa [hd] using .nil ..), by simp,
      fun _ => ⟨[], a, rfl, hads, by simp⟩⟩

/-- the dynamic loop leaves part of the nomination unread only when everybody is done -/
theorem dynLoop_spec {S : SimIface σ α ω ι} (hS : Lawful S) :
    ∀ (nom : List Aid) (s : σ) (ds : List Aid) (acc : Acc ω ι) (res : SearchRes σ ω ι),
      nom.Nodup → (¬ ∀ b ∈ S.agents, b ∈ ds) → dynLoop S nom s ds acc = res →
      ∃ pre post, nom = pre ++ post ∧ Scanned S s ds acc pre res ∧
        (res.allDone = true → ∀ b ∈ S.agents, b ∈ res.ds) ∧
        (res.allDone = false → post = [] ∧ ¬ ∀ b ∈ S.agents, b ∈ res.ds) := by
  intro nom s ds acc res
  fun_induction dynLoop S nom s ds acc with
  | case1 s ds acc => rintro - hna ⟨⟩; exact ⟨[], [], rfl, .nil .., nofun, fun _ => ⟨rfl, hna⟩⟩
  | case2 a rest s ds acc hads ih =>
    intro hnd hna h
    obtain ⟨pre, post, e, hsc, ht, hf⟩ := ih (List.nodup_cons.mp hnd).2 hna h
    exact ⟨a :: pre, post, by simp [e], hsc.skip hads, ht, hf⟩
  | case3 a rest s ds acc hads hd r ds' hall =>
    rintro - - ⟨⟩
    exact ⟨[a], rest, rfl, .report hS hads (by simp) (by simpa [hd] using .nil ..),
      fun _ b hb => of_decide_eq_true (List.all_eq_true.mp hall b hb), by simp⟩
  | case4 a rest s ds acc hads hd r ds' hall ih =>
    intro hnd _ h
    have hnd' := List.nodup_cons.mp hnd
    obtain ⟨pre, post, e, hsc, ht, hf⟩ :=
      ih hnd'.2 (fun hn => hall (List.all_eq_true.mpr fun b hb => decide_eq_true (hn b hb))) h
    have hapre : a ∉ pre := fun hx => hnd'.1 (by rw [e]; exact List.mem_append_left _ hx)
    exact ⟨a :: pre, post, by simp [e], .report hS hads hapre (by simpa [hd] using hsc), ht, hf⟩
  | case5 a rest s ds acc hads hd r ih =>
    -- live: reported, and the loop goes on
    intro hnd hna h
    have hnd' := List.nodup_cons.mp hnd
    obtain ⟨pre, post, e, hsc, ht, hf⟩ := ih hnd'.2 hna h
    have hapre : a ∉ pre := fun hx => hnd'.1 (by rw [e]; exact List.mem_append_left _ hx)
    exact ⟨a :: pre, post, by simp [e], .report hS hads hapre (by simpa [hd] using hsc), ht, hf⟩

theorem readObs_spec {S : SimIface σ α ω ι} (hS : Lawful S) :
    ∀ (l : List Aid) (s : σ),
      keys (readObs S s l).1 = l ∧ SameView S s (readObs S s l).2 ∧
      ∀ b, S.pending (readObs S s l).2 b = S.pending s b
  | [], s => by simp [readObs, keys, SameView]
  | a :: as, s => by
    obtain ⟨h1, h2, h3⟩ := readObs_spec hS as (S.obs s a).2
    refine ⟨by simp [readObs, keys] at h1 ⊢; exact h1, ?_, ?_⟩
    · exact (hS.obs_view s a).trans h2
    · intro b; simp only [readObs]; rw [h3 b, hS.obs_pending]

theorem readRewards_spec {S : SimIface σ α ω ι} (hS : Lawful S) :
    ∀ (l : List Aid) (s : σ), l.Nodup →
      (readRewards S s l).1 = l.map (fun a => (a, S.pending s a)) ∧
      SameView S s (readRewards S s l).2 ∧
      ∀ b, S.pending (readRewards S s l).2 b = if b ∈ l then 0 else S.pending s b
  | [], s, _ => by simp [readRewards, SameView]
  | a :: as, s, hnd => by
    have hnd' := List.nodup_cons.mp hnd
    obtain ⟨h1, h2, h3⟩ := readRewards_spec hS as (S.reward s a).2 hnd'.2
    refine ⟨?_, ?_, ?_⟩
    · simp only [readRewards, List.map_cons, h1, hS.rew_val]
      congr 1
      apply List.map_congr_left
      intro b hb
      have : b ≠ a := fun h => hnd'.1 (h ▸ hb)
      simp [hS.rew_pending, this]
    · exact (hS.rew_view s a).trans h2
    · intro b; simp only [readRewards]; rw [h3 b, hS.rew_pending]
      by_cases hb : b ∈ as <;> by_cases hba : b = a <;> simp [hb, hba]

theorem mem_rotate {β : Type} (l : List β) (k : Nat) (x : β) : x ∈ rotate l k ↔ x ∈ l := by
  rw [rotate, List.mem_append, or_comm, ← List.mem_append, List.take_append_drop]

theorem length_rotate {β : Type} (l : List β) (k : Nat) : (rotate l k).length = l.length := by
  unfold rotate; simp; omega

theorem nodup_rotate {β : Type} (l : List β) (k : Nat) (h : l.Nodup) : (rotate l k).Nodup := by
  unfold rotate
  have hp : (l.drop k ++ l.take k).Perm l := by
    have := List.perm_append_comm (l₁ := l.drop k) (l₂ := l.take k)
    rw [List.take_append_drop] at this
    exact this
  exact hp.nodup_iff.mpr h

theorem getElem?_rotate {β : Type} (l : List β) (k j : Nat) (hk : k < l.length) (hj : j < l.length) :
    (rotate l k)[j]? = l[(k + j) % l.length]? := by
  unfold rotate
  by_cases h : j < l.length - k
  · rw [List.getElem?_append_left (by simp; omega)]
    rw [List.getElem?_drop, Nat.mod_eq_of_lt (by omega)]
  · rw [List.getElem?_append_right (by simp; omega)]
    simp only [List.length_drop]
    rw [List.getElem?_take_of_lt (by omega)]
    congr 1
    have : k + j = l.length + (j - (l.length - k)) := by omega
    rw [this, Nat.add_mod_left, Nat.mod_eq_of_lt (by omega)]

theorem shuffleFuel_perm {β : Type} : ∀ (k : Nat) (l : List β) (t : Tape), (shuffleFuel k l t).1.Perm l
  | 0, l, t => by simp [shuffleFuel]
  | k + 1, [], t => by simp [shuffleFuel]
  | k + 1, x :: xs, t => by
    simp only [shuffleFuel]
    have hi : t.headD 0 % (xs.length + 1) < (x :: xs).length := by
      simp; exact Nat.mod_lt _ (by omega)
    have ih := shuffleFuel_perm k ((x :: xs).eraseIdx (t.headD 0 % (xs.length + 1))) t.tail
    refine (List.Perm.cons _ ih).trans ?_
    have hg : (x :: xs).getD (t.headD 0 % (xs.length + 1)) x = (x :: xs)[t.headD 0 % (xs.length + 1)] := by
      rw [List.getD_eq_getElem?_getD, List.getElem?_eq_getElem hi]; rfl
    rw [hg]
    exact getElem_cons_eraseIdx_perm' _ _ hi

theorem shuffle_perm {β : Type} (l : List β) (t : Tape) : (shuffle l t).1.Perm l :=
  shuffleFuel_perm _ _ _

theorem permOf_of_perm [DecidableEq α] {a b : List (Aid × α)} (h : a.Perm b) : permOf a b = true := by
  unfold permOf
  simp only [Bool.and_eq_true, beq_iff_eq, List.all_eq_true]
  exact ⟨⟨h.length_eq, fun x _ => h.count_eq x⟩, fun x _ => h.count_eq x⟩

theorem mgrStep_shuffle {S : SimIface σ α ω ι} {k : MKind} {m m' : MState σ} {acts args : List (Aid × α)}
    {o : Out ω ι} (h : mgrStep S k m acts = .ok (o, args, m')) : m'.shuffle = m.shuffle := by
  revert h
  fun_cases mgrStep S k m acts <;> intro h <;> cases h <;> rfl

theorem runOp_shuffle (S : SimIface σ α ω ι) (k : MKind) (m : MState σ) (op : Op α) :
    (runOp S k m op).2.shuffle = m.shuffle := by
  fun_cases runOp S k m op
  · rename_i h; revert h; fun_cases mgrReset S k m <;> intro h <;> cases h <;> rfl
  · rfl
  · exact mgrStep_shuffle ‹_›
  · rfl

/-- `specLoop` is a guarded loop (`guardedLoop_at`, `judged_run`): a step outside the caller protocol
ends the obligation -/
theorem specLoop_cons (chk : GSt → Entry α ω ι → Bool) (g : GSt) (e : Entry α ω ι) (es : List (Entry α ω ι)) :
    specLoop chk g (e :: es) =
      if (match e.op with | .reset => false | .step _ => !g.started || g.over) then true
      else (chk g e && specLoop chk (gNext g e) es) := by
  cases h : e.op <;> simp [specLoop, h]

end Abmarl
