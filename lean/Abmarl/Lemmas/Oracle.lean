import Abmarl.Model.Oracle
import Abmarl.Lemmas.Managers
import Mathlib.Data.List.Perm.Subperm
/-!
# The oracle's draws without replacement

`np.random.choice(seq, size=k, replace=False)` picks as the selection shuffle does and stops after `k` picks
(`choiceNoRepl_eq_take`), so what it returns is a sub-selection of `seq` of length `min k len` because the shuffle is a
permutation (`shuffleFuel_perm`, Lemmas/Managers.lean).
-/
namespace Abmarl
namespace Oracle

theorem choiceNoRepl_eq_take {β : Type} (l : List β) (k : Nat) (t : Tape) :
    choiceNoRepl l k t = ((shuffleFuel k l t).1.take k, (shuffleFuel k l t).2) := by
  induction k generalizing l t with
  | zero => simp [choiceNoRepl, shuffleFuel]
  | succ k ih =>
    cases l with
    | nil => simp [choiceNoRepl, shuffleFuel]
    | cons x xs => rw [choiceNoRepl]; simp only [pop, shuffleFuel, List.take_succ_cons, ih]

theorem choiceNoRepl_subperm {β : Type} (l : List β) (k : Nat) (t : Tape) :
    (choiceNoRepl l k t).1.Subperm l := by
  rw [choiceNoRepl_eq_take]
  exact (List.take_sublist _ _).subperm.trans (shuffleFuel_perm k l t).subperm

theorem choiceNoRepl_length {β : Type} (l : List β) (k : Nat) (t : Tape) :
    (choiceNoRepl l k t).1.length = min k l.length := by
  rw [choiceNoRepl_eq_take, List.length_take, (shuffleFuel_perm k l t).length_eq]

end Oracle
end Abmarl
