import Abmarl.Lemmas.Pacman
import Abmarl.Lemmas.ExamplesObs
/-!
# `PacmanSim` / `PacmanSimSimple`: every statement of `step` keeps the cell structure (`WInvFloat`); the observers in
such a world

`WInvFloat w` is read as `CInv w` (the sound cell table of Lemmas/GridWrites.lean) together with `Vit w` (legal
vitals).  `Vit` is carried by `VSame` (Lemmas/Pacman.lean).  `CInv` is kept by the three primitives the class uses, with
NO hypothesis on who is active (`cinv_remove`, `cinv_reloc`, `cinv_setSt`); hence — as every property these three keep
(`Prim`, `watoms_prim`) — by the move actor for ANY mover (dead but still stored, active but stored nowhere), by the
teleport, and by every block of both `step`s (`step_prim`).

For the observers no transport from `WInv` worlds exists: an ACTIVE agent that is stored in no cell (refused teleport)
still shades the mask of every observer from a cell on which nobody stands, which no `WInv` world with the same cells
does.  But what the observer theorems read of the invariant is `Observers.ObsInv` — whoever is stored in a cell is an
agent of the simulation, no cell holds an id twice, ammunition is legal — and `WInvFloat` gives that as well
(`ObsInv.of_float`).
-/
namespace Abmarl
namespace PM
open World Ex

def Vit (w : World) : Prop := ∀ a < w.n, wAgentF w a = true

theorem wCellF_reading (w : World) (i : Nat) :
    wCellF w i = true ↔
      ((w.cells.getD i []).Nodup ∧
       (∀ a ∈ w.cells.getD i [], a < w.n ∧ w.inGrid (w.stOf a).pos = true ∧ w.idx (w.stOf a).pos = i) ∧
       (∀ a ∈ w.cells.getD i [], ∀ b ∈ w.cells.getD i [], a = b ∨ w.pairOK (w.encOf a) (w.encOf b) = true)) := by
  simp only [wCellF, Bool.and_eq_true, decide_eq_true_eq, List.all_eq_true, beq_iff_eq, Bool.or_eq_true,
    and_assoc]

theorem WInvFloat_parts_iff (w : World) :
    WInvFloat w = true ↔
      (w.wShape = true ∧ (∀ i < w.rows * w.cols, wCellF w i = true) ∧ (∀ a < w.n, wAgentF w a = true) ∧
        w.wOverlapSym = true) := by
  simp only [WInvFloat, Bool.and_eq_true, List.all_eq_true, allCells, allAgents, List.mem_range, and_assoc]

theorem WInvFloat_iff (w : World) : WInvFloat w = true ↔ CInv w ∧ Vit w := by
  rw [WInvFloat_parts_iff]
  constructor
  · rintro ⟨hs, hc, ha, hsym⟩
    exact ⟨cinv_of_cells hs hsym fun i hi => (wCellF_reading w i).mp (hc i hi), ha⟩
  · rintro ⟨hC, hV⟩
    refine ⟨?_, ?_, hV, hC.sym⟩
    · simp only [wShape, Bool.and_eq_true, beq_iff_eq]; exact ⟨hC.lenC, hC.lenS⟩
    · intro i _
      rw [wCellF_reading]
      exact ⟨hC.nodup i, fun a h => hC.occ i a h, fun a h b h' => hC.pair i a b h h'⟩

theorem wAgentF_reading (w : World) (a : Aid) :
    wAgentF w a = true ↔
      (0 ≤ (w.stOf a).health ∧ (w.stOf a).health ≤ 1 ∧
       ((w.stOf a).active = decide (0 < (w.stOf a).health)) ∧ 0 ≤ (w.stOf a).ammo ∧
       ((w.cfgOf a).hasAmmo = true → (w.stOf a).ammo ≤ max 0 (w.cfgOf a).initAmmo) ∧
       ((w.cfgOf a).hasOrient = true → 1 ≤ (w.stOf a).orient ∧ (w.stOf a).orient ≤ 4)) := by
  simp only [wAgentF, Bool.and_eq_true, decide_eq_true_eq, beq_iff_eq, Bool.or_eq_true, Bool.not_eq_true',
    and_assoc, eq_false_or_iff]

theorem wAgentF_iff (w : World) (a : Aid) : wAgentF w a = true ↔ VStrong (w.cfgOf a) (w.stOf a) := by
  rw [wAgentF_reading, VStrong, vitals_iff]
  simp only [and_true]

theorem vit_of_vsame {w w' : World} (hV : VSame w w') (h : Vit w) : Vit w' := by
  have hn : w'.n = w.n := hV.n
  have hc : ∀ b, w'.cfgOf b = w.cfgOf b := by intro b; simp only [cfgOf, hV.cfg]
  intro a ha
  rw [hn] at ha
  obtain ⟨h0, h1, h2, h3, h4, h5⟩ := (wAgentF_reading w a).mp (h a ha)
  obtain ⟨ea, eh, eo⟩ := hV.st a
  rw [wAgentF_reading, hc, ea]
  refine ⟨?_, ?_, ?_, h3, h4, ?_⟩
  · rcases eh with ⟨e1, _⟩ | ⟨e1, _⟩
    · rw [e1]; exact h0
    · rw [e1]
  · rcases eh with ⟨e1, _⟩ | ⟨e1, _⟩
    · rw [e1]; exact h1
    · rw [e1]; decide
  · rcases eh with ⟨e1, e2⟩ | ⟨e1, e2⟩
    · rw [e1, e2]; exact h2
    · rw [e1, e2]; decide
  · intro hO
    rcases eo with e | e
    · rw [e]; exact h5 hO
    · exact e

theorem vit_of_WInv {w : World} (hI : w.WInv = true) : Vit w := fun a ha =>
  (wAgentF_iff w a).mpr (((WInv_iff_InvV w).mp hI).vit a ha)

theorem cinv_of_WInv {w : World} (hI : w.WInv = true) : CInv w := ((WInv_iff_InvV w).mp hI).cinv

theorem WInvFloat_of_WInv {w : World} (hI : w.WInv = true) : WInvFloat w = true :=
  (WInvFloat_iff w).mpr ⟨cinv_of_WInv hI, vit_of_WInv hI⟩

/-- a property of the world that the three primitives of the class keep: a `grid.remove` that returned, `grid.place` on a
cell of the grid (accepted or refused) of the agent a `grid.remove` has just taken out, a write of anything but the position -/
structure Prim (P : World → Prop) : Prop where
  remove : ∀ {w w' : World} {a : Aid} {p : Pos}, P w → w.remove a p = .ok w' → P w'
  reloc : ∀ {w w1 : World} {a : Aid} {src dst : Pos}, P w → w.remove a src = .ok w1 → w1.inGrid dst = true →
    P (w1.place a dst).2
  setSt : ∀ {w : World} {a : Aid} {s : AgentSt}, P w → s.pos = (w.stOf a).pos → P (w.setSt a s)

theorem prim_cinv : Prim CInv where
  remove := cinv_remove
  reloc := cinv_reloc
  setSt := cinv_setSt

theorem Prim.setHealth {P : World → Prop} (hP : Prim P) {w : World} {a : Aid} {v : Rat} (h : P w) : P (w.setHealth a v) := by
  unfold World.setHealth
  exact hP.setSt h rfl

theorem watoms_prim {P : World → Prop} (hP : Prim P) : WAtoms fun w w' => P w → P w' where
  refl := fun _ h => h
  trans := fun h h' x => h' (h x)
  remove := fun hr h => hP.remove h hr
  reloc := fun hr hin h => hP.reloc h hr hin
  turn := fun _ _ _ _ _ h => hP.setSt h rfl
  die := fun _ _ h => hP.setHealth h

theorem prim_driftAct {P : World → Prop} (hP : Prim P) {w w' : World} {a : Aid} {x : Int} {r : Option Bool} {l : Int} (hC : P w)
    (h : w.driftAct a x = .ok (r, w', l)) : P w' :=
  qw_driftAct (watoms_prim hP) h hC

theorem prim_teleTo {P : World → Prop} (hP : Prim P) {w : World} (a : Aid) (src dst : Pos) (hC : P w) : P (teleTo w a src dst).1 :=
  qw_teleTo (watoms_prim hP) w a src dst hC

theorem step_prim {P : World → Prop} (hP : Prim P) (cfg : Cfg) (s : St) (acts : List (Aid × Int)) (hC : P s.ex.w) :
    P (step cfg s acts).1.ex.w := by
  unfold step
  split
  · exact hC
  · rename_i r _
    exact (q_stepR (watoms_prim hP) cfg ⟨s.ex.w, r, s.ex.tape⟩ s.count acts).1 hC

theorem step_float (cfg : Cfg) (s : St) (acts : List (Aid × Int)) (h : WInvFloat s.ex.w = true) :
    WInvFloat (step cfg s acts).1.ex.w = true := by
  rw [WInvFloat_iff] at h ⊢
  exact ⟨step_prim prim_cinv cfg s acts h.1, vit_of_vsame (step_vsame cfg s acts) h.2⟩

/-- `wCellF w i` with the content `c` of cell `i` handed in -/
def wCellFOf (w : World) (i : Nat) (c : List Aid) : Bool :=
  decide c.Nodup &&
  c.all (fun a => decide (a < w.n) && w.inGrid (w.stOf a).pos && (w.idx (w.stOf a).pos == i)) &&
  c.all (fun a => c.all (fun b => a == b || w.pairOK (w.encOf a) (w.encOf b)))

/-- `WInvFloat` in the form in which concrete worlds are evaluated (as `World.WInv_scan`) -/
theorem WInvFloat_scan (w : World) :
    WInvFloat w = (w.wShape && (w.cells.zipIdx.all fun x => wCellFOf w x.2 x.1) && w.allAgents.all (wAgentF w) &&
      w.wOverlapSym) := by
  unfold WInvFloat
  by_cases hs : w.wShape = true
  · rw [← allCells_scan hs (wCellFOf w)]; rfl
  · simp [hs]

theorem _root_.Abmarl.Observers.ObsInv.of_float {w : World} (hI : PM.WInvFloat w = true) : Observers.ObsInv w where
  lt hb := (((PM.WInvFloat_iff w).mp hI).1.occ _ _ hb).1
  nodup q := ((PM.WInvFloat_iff w).mp hI).1.nodup _
  ammo a ha := by
    obtain ⟨-, -, -, h0, hle, -⟩ := (PM.wAgentF_reading w a).mp (((PM.WInvFloat_iff w).mp hI).2 a ha)
    exact ⟨h0, hle⟩

/-- every stored position is a grid cell: kept by the primitives (`grid.place` is only asked for cells of the grid) -/
theorem prim_inG : Prim Ex.AllInGrid where
  remove := by
    intro w w' a p h hr
    obtain ⟨_, rfl⟩ := remove_shape hr
    exact h
  reloc := by
    intro w w1 a src dst h hr hin b hb
    have hF := (sframe_remove hr).trans (sframe_place w1 a dst)
    rw [(sframe_place w1 a dst).sameG.inGrid, stOf_place]
    split
    · exact hin
    · rw [remove_stOf hr, (sframe_remove hr).sameG.inGrid]
      exact h b (by rw [← hF.sameG.n]; exact hb)
  setSt := by
    intro w a s h hs b hb
    show w.inGrid (((w.setSt a s).stOf b).pos) = true
    rw [stOf_setSt]
    split
    · rename_i hba; rw [hs, ← hba.1]; exact h b hb
    · exact h b hb

theorem getObs_float (cfg : Cfg) (s : St) (a : Aid) (ks : List Observers.Kind) (hks : cfg.observers = some ks)
    (hs : s.ex.rewards.isSome = true) (hW : WInvFloat s.ex.w = true) (hP : Ex.AllInGrid s.ex.w) (ha : a < s.ex.w.n)
    (henc : ∀ b < s.ex.w.n, 0 < s.ex.w.encOf b) (hammo : ∀ b < s.ex.w.n, 0 ≤ (s.ex.w.cfgOf b).initAmmo) :
    ∃ o s', getObs cfg s a = .ok (o, s') ∧ Ex.obsInSpace s.ex.w a ks o = true := by
  obtain ⟨o, e, hget, hin⟩ := Ex.getObs_total (cfg := cfg.toEx) hks hs (.of_float hW) ha (hP a ha) henc (hammo a ha)
  refine ⟨o, { s with ex := e }, ?_, hin⟩
  unfold getObs
  rw [hget]

end PM
end Abmarl
