import Abmarl.Lemmas.Reach
import Abmarl.Lemmas.ExamplesJudge
/-!
# `ReachTheTargetSim`: the ledger and the stored positions along every history; the model's trace passes `RT.specRT`

`step` changes the reward dict by accruals only (`Accrued` in `stepPS_wg`), so never its key list.
It keeps "every agent's stored position is a grid cell": with `WInvWeak` that is the world invariant with one more
clause in the vitals (`weakG_iff`), kept by the lemmas that keep every such invariant.  With the constructed static part
and a full ledger this is `GoodH`, the invariant of a live object that every call keeps; from a `GoodH` state every
call of the model passes the judge `RT.judge1`.  Both by cases on what a call does: `runOp_call`, the relation `Ex.Call`
of the smart simulations with the class's own `step` and done getters.
-/
namespace Abmarl

/-! `x == x` for the types `RT.judge1` compares, so that `judge1_model` below finds each `ReflBEq` instance once (finding
one costs as much as the rest of the case that uses it) -/
namespace Ex
theorem beq_world (w : World) : (w == w) = true := BEq.rfl
theorem beq_rewards (r : Option Ledger) : (r == r) = true := BEq.rfl
theorem beq_res (r : ERes) : (r == r) = true := BEq.rfl
theorem beq_keys (l : List Aid) : (l == l) = true := BEq.rfl
theorem beq_ledger (r : Ledger) : (r == r) = true := BEq.rfl
theorem beq_val (x : Option Int) : (x == x) = true := BEq.rfl
end Ex

namespace RT
open World Ex

/-- the vitals clause of `WInvWeak` together with "the stored position is a cell of the grid `w0`" -/
abbrev VWeakG (w0 : World) : AgentCfg → AgentSt → Prop :=
  Vitals (fun a h => a = true → 0 < h) fun p => w0.inGrid p = true

theorem weakG_iff {w0 w : World} (hF : SFrame w0 w) : InvV (VWeakG w0) w ↔ (w.WInvWeak = true ∧ AllInGrid w) := by
  rw [WInvWeak_iff]
  exact invV_inGrid_iff hF

/-- what every pass of a loop of `step` keeps, whatever the action dict: an attack and the hand-written removal carry the
clause on the position along, a move places the mover on a cell of the grid -/
def WG (w0 w : World) : Prop := InvV (VWeakG w0) w ∧ SFrame w0 w

theorem WG.attack {w0 w w' : World} {acfg : AttackCfg} {a : Aid} {act : AttackAct} {t t' : Tape} {r : Bool × List Aid}
    (hP : WG w0 w) (h : processAttack acfg w a act t = .ok (r, w', t')) : WG w0 w' :=
  have ⟨hI, hF⟩ := processAttack_inv (fun _ hd => of_decide_eq_true hd) hP.1 h
  ⟨hI, hP.2.trans hF⟩

theorem WG.move {w0 w w' : World} {a : Aid} {d : Pos} {res : Option Bool} (hP : WG w0 w)
    (h : w.moveAct a d = .ok (res, w')) : WG w0 w' :=
  have hs := moveAct_step h
  ⟨hs.inv (fun _ hp => by rw [← hP.2.sameG.inGrid]; exact hp) hP.1, hP.2.trans hs.sframe⟩

theorem attack1_wg {cfg : Cfg} {w0 : World} {p p' : PS} {x : Aid × Act} (hP : WG w0 p.w)
    (h : attack1 cfg p x = .ok p') : WG w0 p'.w ∧ Accrued p.r p'.r := by
  obtain ⟨_, ha, ⟨_, e, _⟩ | ⟨_, r, hpa⟩⟩ := Ex.attack1_cases (cfg := cfg.toEx) h
  · rw [e]; exact ⟨hP, ha⟩
  · exact ⟨hP.attack hpa, ha⟩

theorem move1_wg {cfg : Cfg} {w0 : World} {p p' : PS} {x : Aid × Act} (hP : WG w0 p.w)
    (h : move1 cfg p x = .ok p') : WG w0 p'.w ∧ Accrued p.r p'.r := by
  unfold move1 at h
  -- `split at h` on the two outer guards is dear: it abstracts them from the whole body
  by_cases hn : p.w.n ≤ x.1
  · rw [if_pos hn] at h; cases h
  by_cases hmv : (p.w.cfgOf x.1).moving = true
  · rw [if_neg hn, if_pos hmv] at h
    split at h
    · cases h
    · rename_i p1 hp1
      have h1 : WG w0 p1.w ∧ Accrued p.r p1.r := by
        split at hp1
        · obtain ⟨res, hm, _, ha⟩ := moveAcc_shape hp1
          exact ⟨hP.move hm, ha⟩
        · cases hp1; exact ⟨hP, .refl _⟩
      split at h
      · split at h
        · cases h
        · rename_i r1 hacc
          split at h
          · cases h
          · rename_i w2 hrem
            cases h
            obtain ⟨hI, hF, _⟩ := takeOff_inv (fun _ hf => by cases hf) h1.1.1
              (by rw [h1.1.2.sameG.n, ← hP.2.sameG.n]; exact Nat.lt_of_not_le hn)
              (show takeOff p1.w x.1 = .ok _ by unfold takeOff; rw [hrem])
            exact ⟨⟨hI, h1.1.2.trans hF⟩, h1.2.trans (.one hacc)⟩
      · cases h; exact h1
  · rw [if_neg hn, if_neg hmv] at h
    cases h; exact ⟨hP, .refl _⟩

theorem stepPS_wg {cfg : Cfg} {w0 : World} {p p' : PS} {acts : List (Aid × Act)} (hP : WG w0 p.w)
    (h : stepPS cfg p acts = .ok p') : WG w0 p'.w ∧ Accrued p.r p'.r := by
  have loop : ∀ (f : PS → Aid × Act → Except GErr PS),
      (∀ q x q', WG w0 q.w → f q x = .ok q' → WG w0 q'.w ∧ Accrued q.r q'.r) →
      ∀ q q', WG w0 q.w → foldE f q acts = .ok q' → WG w0 q'.w ∧ Accrued q.r q'.r := fun f hf q q' hq hh =>
    foldE_pres f (fun b => WG w0 b.w ∧ Accrued q.r b.r)
      (fun b x b' h hb => have h' := hf b x b' h.1 hb; ⟨h'.1, h.2.trans h'.2⟩) acts q q' ⟨hq, .refl _⟩ hh
  unfold stepPS at h
  split at h
  · cases h
  · rename_i p1 h1
    obtain ⟨hP1, a1⟩ := loop _ (fun _ _ _ => attack1_wg) p p1 hP h1
    split at h
    · cases h
    · rename_i p2 h2
      obtain ⟨hP2, a2⟩ := loop _ (fun _ _ _ => move1_wg) p1 p2 hP1 h2
      obtain ⟨e, _, a3⟩ := foldE_frame (entropy1 cfg) (fun _ _ _ => entropy1_world) acts p2 p' h
      rw [e]
      exact ⟨hP2, (a1.trans a2).trans a3⟩

/-- the invariant of a live object along a history, which every call keeps (`rewards = none`: nothing happened yet) -/
def GoodH (cfg : Cfg) (w0 : World) (s : St) : Prop :=
  match s.rewards with
  | none => s.w = w0
  | some r => s.w.WInvWeak = true ∧ SFrame w0 s.w ∧ LedgerFull cfg.toEx w0.n r ∧ AllInGrid s.w

theorem GoodH.live {cfg : Cfg} {w0 : World} {s : St} {r : Ledger} (h : GoodH cfg w0 s) (hr : s.rewards = some r) :
    s.w.WInvWeak = true ∧ SFrame w0 s.w ∧ LedgerFull cfg.toEx w0.n r ∧ AllInGrid s.w := by
  unfold GoodH at h
  rw [hr] at h
  exact h

theorem GoodH.goodW {cfg : Cfg} {w0 : World} {s : St} (h : GoodH cfg w0 s) : GoodW w0 s := by
  unfold GoodH at h
  unfold GoodW
  cases hr : s.rewards with
  | none => rw [hr] at h; exact h
  | some r => rw [hr] at h; exact ⟨h.1, h.2.1⟩

theorem step_shape {cfg : Cfg} {s s' : St} {acts : List (Aid × Act)} (h : step cfg s acts = .ok s') :
    ∃ r p, s.rewards = some r ∧ stepPS cfg ⟨s.w, r, s.tape⟩ acts = .ok p ∧ s' = ⟨p.w, some p.r, p.t⟩ := by
  unfold step at h
  split at h
  · cases h
  · rename_i r hr
    split at h
    · cases h
    · rename_i p hp
      simp only [Except.ok.injEq] at h
      exact ⟨r, p, hr, hp, h.symm⟩

theorem step_goodH {cfg : Cfg} {w0 : World} {s s' : St} {acts : List (Aid × Act)} (hG : GoodH cfg w0 s)
    (h : step cfg s acts = .ok s') :
    GoodH cfg w0 s' ∧ ∃ r r', s.rewards = some r ∧ s'.rewards = some r' ∧ r.map (·.1) = r'.map (·.1) := by
  obtain ⟨r, p, hr, hp, rfl⟩ := step_shape h
  obtain ⟨hW, hF, hL, hP⟩ := hG.live hr
  obtain ⟨⟨hI, hF'⟩, ha⟩ := stepPS_wg (w0 := w0) (p := ⟨s.w, r, s.tape⟩) ⟨(weakG_iff hF).mpr ⟨hW, hP⟩, hF⟩ hp
  obtain ⟨hW', hP'⟩ := (weakG_iff hF').mp hI
  exact ⟨⟨hW', hF', hL.of_keylist ha.keylist, hP'⟩, r, p.r, hr, rfl, ha.keylist⟩

theorem reset_goodH {cfg : Cfg} {w0 : World} (hcfg : CfgOK w0) (hfresh : w0.vitalsAlive = true)
    {order : List StateComp} (hR : Ex.ResetOK cfg.toEx w0 order) {s : St} (hG : GoodH cfg w0 s) {t t' : Tape}
    {w' : World} (ha : applyComps order s.w t = .ok (w', t')) : XInvA w0 w' := by
  cases hr : s.rewards with
  | none =>
    unfold GoodH at hG
    rw [hr] at hG
    simp only at hG
    rw [hG] at ha
    exact Ex.reset_establishes_fresh hcfg hfresh hR ha
  | some r =>
    obtain ⟨hW, hF, _⟩ := hG.live hr
    exact reset_establishes_weak hcfg hR hF hW ha

theorem runOp_call (cfg : Cfg) (s : St) (op : EOp) :
    Ex.Call cfg.toEx (step cfg) (getDone cfg) (getAllDone cfg) s op (runOp cfg s op).1 (runOp cfg s op).2 := by
  cases op with
  | reset order tape => exact Ex.runOp_call_reset cfg.toEx _ _ _ s order tape
  | step acts tape =>
    simp only [runOp]
    cases h : step cfg { s with tape := tape } acts with
    | error e => exact .stepErr h
    | ok s' => exact .step h
  | obs a tape => exact Ex.runOp_call_obs cfg.toEx _ _ _ s a tape
  | rew a => exact Ex.runOp_call_rew cfg.toEx _ _ _ s a
  | done a => exact .done
  | allDone => exact .allDone

theorem runOp_goodH {cfg : Cfg} {w0 : World} (hcfg : CfgOK w0) (hfresh : w0.vitalsAlive = true)
    (s : St) (op : EOp) (hop : OpOK cfg w0 op) (hG : GoodH cfg w0 s) : GoodH cfg w0 (runOp cfg s op).2 := by
  refine (runOp_call cfg s op).keeps (Q := OpOK cfg w0) hop hG (fun _ _ h => h) ?_ ?_ ?_
  · intro order _ s w' t' hR hG ha
    have hX := reset_goodH hcfg hfresh hR hG ha
    refine ⟨WInvWeak_of_WInv hX.inv, hX.frame, ?_, allInGrid_of_alive hX.inv hX.alive⟩
    rw [hX.frame.sameG.n]
    exact zeroRewards_full cfg.toEx w0.n
  · exact fun _ _ _ _ _ hG h => (step_goodH hG h).1
  · intro s r a hG hr
    obtain ⟨hW, hF, hL, hP⟩ := hG.live hr
    exact ⟨hW, hF, hL.dictSet a 0, hP⟩

theorem runOps_goodH {cfg : Cfg} {w0 : World} (hcfg : CfgOK w0) (hfresh : w0.vitalsAlive = true)
    (ops : List EOp) : ∀ (s : St), (∀ op ∈ ops, OpOK cfg w0 op) → GoodH cfg w0 s → GoodH cfg w0 (runOps cfg s ops).2 :=
  hist_inv (f := runOp cfg) (stop := fun _ e => e.res.isErr) (run := runOps cfg) (fun _ _ _ => rfl) (fun _ => rfl)
    (fun s op => runOp_goodH hcfg hfresh s op) ops

/-! the calls the managers make through the `SimIface` instance are calls of a history -/

theorem simIface_reset_eq (cfg : Cfg) (n : Nat) (s : St) :
    (toSimIface cfg n).reset s = (runOp cfg s (.reset cfg.comps s.tape)).2 :=
  Ex.simIface_reset_eq cfg.toEx n s

theorem simIface_step_eq (cfg : Cfg) (n : Nat) (s : St) (acts : List (Aid × Act)) :
    (toSimIface cfg n).step s acts = (runOp cfg s (.step acts s.tape)).2 := by
  obtain ⟨w, r, t⟩ := s
  dsimp only [toSimIface, runOp]
  cases step cfg ⟨w, r, t⟩ acts <;> rfl

theorem simIface_obs_eq (cfg : Cfg) (n : Nat) (s : St) (a : Aid) :
    ((toSimIface cfg n).obs s a).2 = (runOp cfg s (.obs a s.tape)).2 :=
  Ex.simIface_obs_eq cfg.toEx n s a

theorem simIface_reward_eq (cfg : Cfg) (n : Nat) (s : St) (a : Aid) :
    ((toSimIface cfg n).reward s a).2 = (runOp cfg s (.rew a)).2 :=
  Ex.simIface_reward_eq cfg.toEx n s a

theorem goodH_init (cfg : Cfg) (w0 : World) (t : Tape) : GoodH cfg w0 { w := w0, tape := t } := rfl

theorem judge1_model {cfg : Cfg} {w0 : World} (hW : WorldOK w0) (s : St) (op : EOp) (hop : OpOK cfg w0 op)
    (hG : GoodH cfg w0 s) : judge1 cfg w0 ⟨s.w, s.rewards⟩ op (runOp cfg s op).1 = true := by
  have hc := runOp_call cfg s op
  generalize (runOp cfg s op).1 = e at hc ⊢
  generalize (runOp cfg s op).2 = s' at hc
  -- `judge1.eq_def`: the equations of the judge split by case are dear to generate
  rw [judge1.eq_def]
  cases hc with
  | resetErr => rfl
  | @reset order tape w' t' h =>
    have hX := reset_goodH hW.cfgok hW.fresh hop hG h
    simp only [beq_res, beq_rewards, hX.inv, Bool.and_self, frameb_of_sframe hX.frame]
  | @stepErr acts tape e h =>
    cases hr : s.rewards with
    | none => rfl
    | some r => simp only [mustNotRaise_of_error (s := { s with tape := tape }) hr h, Bool.not_false]
  | @step acts tape s1 h =>
    obtain ⟨hG1, r, r1, hr, hr1, hk⟩ := step_goodH (s := { s with tape := tape }) hG h
    obtain ⟨hWk, hF, _⟩ := hG1.live hr1
    simp only at hr
    simp only [beq_res, beq_keys, hWk, Bool.and_self, frameb_of_sframe hF, hr, hr1, hk]
  | obsErr => rfl
  | @obs a tape r ks outs t' hr hks ha hout =>
    cases hks
    obtain ⟨hWk, hF, _, hP⟩ := hG.live hr
    have hos := Ex.outs_obsInSpace (.of_weak hWk) ha (hP a ha) (sframe_encPos hF hW.enc)
      (sframe_ammoNonneg hF hW.ammo a ha) hout
    simp only [beq_world, beq_rewards, Bool.and_self, hos]
  | rewErr => rfl
  | rew hr hx => simp only [hr, hx, beq_world, beq_ledger, beq_val, Bool.and_self]
  | @done a =>
    simp only [getDone]
    cases hr : s.rewards with
    | none => simp only [Ex.resOfBool]
    | some r => cases hd : doneW cfg s.w a <;> simp only [Ex.resOfBool, beq_world, beq_rewards, beq_res, Bool.and_self]
  | allDone =>
    simp only [getAllDone]
    cases hr : s.rewards with
    | none => simp only [Ex.resOfBool]
    | some r => simp only [Ex.resOfBool, beq_world, beq_rewards, beq_res, Bool.and_self]

theorem specFrom_model {cfg : Cfg} {w0 : World} (hW : WorldOK w0) :
    ∀ (ops : List EOp) (s : St), (∀ op ∈ ops, OpOK cfg w0 op) → GoodH cfg w0 s →
      specFrom cfg w0 ⟨s.w, s.rewards⟩ (zipOps ops (runOps cfg s ops).1) = true :=
  fun ops s hops hG =>
    -- first six positional arguments: the unfolding equations of `runOps`, `zipOps`, `specFrom`, in the order of the binders
    hist_spec (f := runOp cfg) (stop := fun _ e => e.res.isErr) (run := runOps cfg) (spec := specFrom cfg w0)
      (zip := zipOps) (judge := judge1 cfg w0) (next := fun e => ⟨e.w, e.rewards⟩)
      (V := fun j s => j = ⟨s.w, s.rewards⟩) (P := GoodH cfg w0) (Q := OpOK cfg w0)
      (fun _ _ _ => rfl) (fun _ => rfl) (fun _ _ _ _ => rfl) (fun ops => by cases ops <;> rfl)
      (fun j op e rest => by simp only [specFrom]; cases e.res <;> rfl) (fun _ => rfl)
      (fun s op => runOp_goodH hW.cfgok hW.fresh s op)
      (fun j s op hop hG hj => by rw [hj]; exact judge1_model hW s op hop hG)
      (fun s op _ _ _ => by rw [(runOp_call cfg s op).entry_state.1, (runOp_call cfg s op).entry_state.2])
      ops s _ hops hG rfl

theorem rtPre_hyps {cfg : Cfg} {w0 : World} {ops : List EOp} (h : rtPre cfg w0 ops = true) :
    WorldOK w0 ∧ ∀ op ∈ ops, OpOK cfg w0 op := by
  simp only [rtPre, Bool.and_eq_true, List.all_eq_true, allAgents, List.mem_range, decide_eq_true_eq] at h
  obtain ⟨⟨⟨⟨⟨h1, h2⟩, _⟩, h4⟩, _⟩, h6⟩ := h
  refine ⟨⟨(cfgOKb_iff w0).mp h1, h2, fun b hb => (h4 b hb).1, fun b hb => (h4 b hb).2⟩, ?_⟩
  intro op hop
  have := h6 op hop
  cases op with
  | reset order tape => exact resetOK_of_b this
  | step acts tape => trivial
  | obs a tape => trivial
  | rew a => trivial
  | done a => trivial
  | allDone => trivial

end RT
end Abmarl
