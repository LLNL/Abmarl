import Abmarl.Spec.SuperAgent
import Abmarl.Lemmas.Managers
/-!
# Lemmas behind C14: the two loops of `SuperAgentWrapper` over a lawful inner simulation

`supObsLoop_frame` (mask, untouched inner state, who gets marked) and `supObsLoop_spec` (the hand-over
rule) characterise `get_obs` of a super agent, `supRewLoop_spec` characterises `get_reward`; each loop
is reduced to its one-agent step (`supObs1`, `supRew1`); all are stated for an arbitrary inner
`SimIface` satisfying `Lawful`.  Before them: what the judge's replay `expectObs` pins down
(`expectObs_spec`) and the model's `supDictOf` on distinct keys (`dictOf_nodup`).
-/
namespace Abmarl
variable {σ α ω ι : Type}

theorem mem_covered_of_group {cfg : SuperCfg ω} {i : Nat} {cov : List Aid}
    (h : cfg.groups[i]? = some cov) {c : Aid} (hc : c ∈ cov) : c ∈ cfg.covered := by
  unfold SuperCfg.covered
  exact List.mem_flatten.mpr ⟨cov, List.mem_of_getElem? h, hc⟩

theorem nodup_group {cfg : SuperCfg ω} (hnd : cfg.covered.Nodup) {i : Nat} {cov : List Aid}
    (h : cfg.groups[i]? = some cov) : cov.Nodup := by
  unfold SuperCfg.covered List.Nodup at hnd
  exact (List.pairwise_flatten.mp hnd).1 cov (List.mem_of_getElem? h)

theorem ctorOK_iff {n : Nat} {learning : Aid → Bool} {cfg : SuperCfg ω} :
    ctorOK n learning cfg = true ↔
      (∀ c ∈ cfg.covered, c < n ∧ learning c = true) ∧ cfg.covered.Nodup := by
  simp [ctorOK, List.all_eq_true]

/-- `_get_null_obs` uses every declared null observation: the code takes the declared value unless
`type(null_observation) is dict and len(null_observation) == 0` (the empty dict stands for "none
declared"), and `cfg.nullTruthy` holds the outcome of that test as the harness reads it at run time,
not Python's truth value -/
def NullTruthy (cfg : SuperCfg ω) : Prop :=
  ∀ c ∈ cfg.covered, (cfg.declared c).isSome = true → cfg.nullTruthy.getD c false = true

theorem usableNull_eq_declared {cfg : SuperCfg ω} (hn : NullTruthy cfg) {c : Aid} (hc : c ∈ cfg.covered) :
    cfg.usableNull c = cfg.declared c := by
  unfold SuperCfg.usableNull
  cases hd : cfg.declared c with
  | none => simp
  | some o => rw [if_pos (hn c hc (by simp [hd]))]

theorem expectObs_spec (due : Aid → Bool) (null : Aid → Option ω) :
    ∀ (cov : List Aid) (log ol : List (Aid × ω)), expectObs due null cov log = some ol →
      ol.map (·.1) = cov ∧ log = ol.filter (fun p => due p.1) ∧
      ∀ p ∈ ol, due p.1 = false → null p.1 = some p.2
  | [], [], ol, h => by cases h; simp
  | [], _ :: _, ol, h => by cases h
  | c :: cs, log, ol, h => by
    unfold expectObs at h
    split at h
    · rename_i hd
      split at h
      · rename_i c' o rest
        split at h
        · rename_i hcc
          obtain ⟨ol', hr, rfl⟩ := Option.map_eq_some_iff.mp h
          obtain ⟨i1, i2, i3⟩ := expectObs_spec due null cs rest ol' hr
          subst hcc
          exact ⟨by simp [i1], by simp [hd, ← i2], by simpa [hd] using i3⟩
        · cases h
      · cases h
    · rename_i hd
      split at h
      · rename_i o hn
        obtain ⟨ol', hr, rfl⟩ := Option.map_eq_some_iff.mp h
        obtain ⟨i1, i2, i3⟩ := expectObs_spec due null cs log ol' hr
        exact ⟨by simp [i1], by simp [hd, ← i2], by simpa [hd, hn] using i3⟩
      · cases h

theorem supDictSet_of_not_mem {β : Type} (d : List (Aid × β)) (k : Aid) (v : β) (hk : k ∉ d.map (·.1)) :
    supDictSet d k v = d ++ [(k, v)] := by
  unfold supDictSet
  rw [if_neg]
  rw [List.any_eq_true]
  rintro ⟨q, hq, e⟩
  exact hk (List.mem_map.mpr ⟨q, hq, eq_of_beq e⟩)

theorem dictOf_nodup {β : Type} (l : List (Aid × β)) (h : (l.map (·.1)).Nodup) : supDictOf l = l := by
  unfold supDictOf
  rw [foldl_set_of_nodup supDictSet supDictSet_of_not_mem l [] (by simpa using h)]
  simp

theorem supObs1_spec {S : SimIface σ α ω ι} (hS : Lawful S) (cfg : SuperCfg ω) (st : SupSt σ) (c : Aid) :
    (supObs1 S cfg st c).1.agent = c ∧
    (supObs1 S cfg st c).1.mask = !S.done st.sim c ∧
    (supObs1 S cfg st c).1.real =
      (!S.done st.sim c || !decide (c ∈ st.lastObs) || (cfg.usableNull c).isNone) ∧
    ((supObs1 S cfg st c).1.real = false → cfg.usableNull c = some (supObs1 S cfg st c).1.obs) ∧
    SameView S st.sim (supObs1 S cfg st c).2.sim ∧
    (∀ b, S.pending (supObs1 S cfg st c).2.sim b = S.pending st.sim b) ∧
    (supObs1 S cfg st c).2.lastRew = st.lastRew ∧
    (∀ x, x ∈ (supObs1 S cfg st c).2.lastObs ↔ x ∈ st.lastObs ∨ (x = c ∧ S.done st.sim x = true)) := by
  have hv := hS.obs_view st.sim c
  unfold supObs1
  by_cases hd : S.done st.sim c = true
  · rw [if_pos hd]
    by_cases hl : c ∈ st.lastObs
    · rw [if_pos hl]
      have hm : ∀ x, x ∈ st.lastObs ↔ x ∈ st.lastObs ∨ (x = c ∧ S.done st.sim x = true) :=
        fun x => ⟨Or.inl, fun h => h.elim id (fun h => h.1 ▸ hl)⟩
      cases hu : cfg.usableNull c with
      | some o =>
        exact ⟨rfl, by simp [hd], by simp [hd, hl], fun _ => rfl, SameView.refl S _, fun _ => rfl, rfl, hm⟩
      | none =>
        exact ⟨rfl, by simp [hd], by simp [hd, hl], by simp, hv, hS.obs_pending st.sim c, rfl, hm⟩
    · rw [if_neg hl]
      exact ⟨rfl, by simp [hd], by simp [hd, hl], by simp, hv, hS.obs_pending st.sim c, rfl,
        fun x => List.mem_cons.trans (or_comm.trans (or_congr_right ⟨fun e => ⟨e, e ▸ hd⟩, And.left⟩))⟩
  · rw [if_neg hd]
    have hd' : S.done st.sim c = false := by simpa using hd
    exact ⟨rfl, by simp [hd'], by simp [hd'], by simp, hv, hS.obs_pending st.sim c, rfl,
      fun x => Iff.symm (or_iff_left fun h => hd (h.1 ▸ h.2))⟩

theorem readsOf_cons (i : ObsItem ω) (l : List (ObsItem ω)) :
    readsOf (i :: l) = if i.real then (i.agent, i.obs) :: readsOf l else readsOf l := by
  unfold readsOf
  by_cases h : i.real = true <;> simp [h]

theorem supObsLoop_frame {S : SimIface σ α ω ι} (hS : Lawful S) (cfg : SuperCfg ω) :
    ∀ (cov : List Aid) (st : SupSt σ),
      (supObsLoop S cfg cov st).1.map (fun i => (i.agent, i.mask)) =
        cov.map (fun c => (c, !S.done st.sim c)) ∧
      SameView S st.sim (supObsLoop S cfg cov st).2.sim ∧
      (∀ b, S.pending (supObsLoop S cfg cov st).2.sim b = S.pending st.sim b) ∧
      (supObsLoop S cfg cov st).2.lastRew = st.lastRew ∧
      (∀ x, x ∈ (supObsLoop S cfg cov st).2.lastObs ↔
        x ∈ st.lastObs ∨ (x ∈ cov ∧ S.done st.sim x = true)) := by
  intro cov
  induction cov with
  | nil => intro st; exact ⟨rfl, SameView.refl S _, fun _ => rfl, rfl, by simp [supObsLoop]⟩
  | cons c cs ih =>
    intro st
    obtain ⟨ha, hm, _, _, hv, hp, hlr, hlo⟩ := supObs1_spec hS cfg st c
    obtain ⟨i2, i3, i4, i5, i6⟩ := ih (supObs1 S cfg st c).2
    simp only [supObsLoop]
    refine ⟨?_, hv.trans i3, fun b => by rw [i4 b, hp b], by rw [i5, hlr], fun x => ?_⟩
    · simp only [List.map_cons, i2, ha, hm]
      congr 1
      apply List.map_congr_left
      intro c' _
      rw [hv.1 c']
    · rw [i6 x, hlo x, hv.1 x, List.mem_cons, or_and_right, or_assoc]

/-- `dn` / `rep`: any reading of "done" / "reported after done" that is right for the covered agents at
the start (the judge's ghost state) -/
theorem supObsLoop_spec {S : SimIface σ α ω ι} (hS : Lawful S) (cfg : SuperCfg ω) (dn : Aid → Bool)
    (rep : List Aid) :
    ∀ (cov : List Aid) (st : SupSt σ), cov.Nodup →
      (∀ c ∈ cov, dn c = S.done st.sim c ∧ (c ∈ rep ↔ c ∈ st.lastObs)) →
      (∀ c ∈ cov, cfg.usableNull c = cfg.declared c) →
      expectObs (fun c => !dn c || !decide (c ∈ rep) || (cfg.declared c).isNone) cfg.declared cov
          (readsOf (supObsLoop S cfg cov st).1) =
        some ((supObsLoop S cfg cov st).1.map fun i => (i.agent, i.obs)) := by
  intro cov
  induction cov with
  | nil => intro st _ _ _; simp [supObsLoop, readsOf, expectObs]
  | cons c cs ih =>
    intro st hnd hrd hnull
    have hnd' := List.nodup_cons.mp hnd
    obtain ⟨ha, _, hreal, hnl, hv, _, _, hlo⟩ := supObs1_spec hS cfg st c
    simp only [supObsLoop]
    generalize supObs1 S cfg st c = r1 at ha hreal hnl hv hlo ⊢
    -- the agents further down the list are distinct from `c`: for them nothing has changed
    have i1 := ih r1.2 hnd'.2 (fun c' hc' => by
      have hne : c' ≠ c := fun e => hnd'.1 (e ▸ hc')
      rw [hv.1 c', hlo c']
      simpa [hne] using hrd c' (List.mem_cons_of_mem _ hc'))
      (fun c' hc' => hnull c' (List.mem_cons_of_mem _ hc'))
    have hduec : (!dn c || !decide (c ∈ rep) || (cfg.declared c).isNone) = r1.1.real := by
      rw [(hrd c (List.mem_cons_self ..)).1, hreal, hnull c (List.mem_cons_self ..)]
      simp only [(hrd c (List.mem_cons_self ..)).2]
    simp only [readsOf_cons, List.map_cons]
    by_cases hr : r1.1.real = true
    · rw [if_pos hr]
      unfold expectObs
      rw [if_pos (by rw [hduec]; exact hr)]
      simp only [ha, if_true, i1, Option.map_some]
    · have hr' : r1.1.real = false := by simpa using hr
      rw [if_neg hr]
      unfold expectObs
      rw [if_neg (by rw [hduec]; exact hr)]
      have := hnl hr'
      rw [hnull c (List.mem_cons_self ..)] at this
      simp only [this, i1, Option.map_some, ha]

/-- one covered agent of `get_reward`: what it adds to the sum, and the state it leaves -/
def supRew1 (S : SimIface σ α ω ι) (st : SupSt σ) (c : Aid) : Int × SupSt σ :=
  if S.done st.sim c then
    if c ∈ st.lastRew then (0, st)
    else ((S.reward st.sim c).1, { st with sim := (S.reward st.sim c).2, lastRew := c :: st.lastRew })
  else ((S.reward st.sim c).1, { st with sim := (S.reward st.sim c).2 })

theorem supRewLoop_cons (S : SimIface σ α ω ι) (c : Aid) (cs : List Aid) (st : SupSt σ) (sum : Int) :
    supRewLoop S (c :: cs) st sum = supRewLoop S cs (supRew1 S st c).2 (sum + (supRew1 S st c).1) := by
  unfold supRew1
  rw [supRewLoop]
  by_cases hd : S.done st.sim c = true
  · by_cases hl : c ∈ st.lastRew
    · simp only [hd, hl, if_true, Int.add_zero]
    · simp only [hd, hl, if_true, if_false]
  · simp only [hd, Bool.false_eq_true, if_false]

theorem supRew1_spec {S : SimIface σ α ω ι} (hS : Lawful S) (st : SupSt σ) (c : Aid) :
    (supRew1 S st c).1 =
      (if (S.done st.sim c && decide (c ∈ st.lastRew)) = true then 0 else S.pending st.sim c) ∧
    SameView S st.sim (supRew1 S st c).2.sim ∧
    (∀ b, S.pending (supRew1 S st c).2.sim b =
      if b = c ∧ (S.done st.sim c && decide (c ∈ st.lastRew)) = false then 0
      else S.pending st.sim b) ∧
    (supRew1 S st c).2.lastObs = st.lastObs ∧
    (∀ x, x ∈ (supRew1 S st c).2.lastRew ↔ x ∈ st.lastRew ∨ (x = c ∧ S.done st.sim x = true)) := by
  have hv := hS.rew_view st.sim c
  unfold supRew1
  by_cases hd : S.done st.sim c = true
  · rw [if_pos hd]
    by_cases hl : c ∈ st.lastRew
    · rw [if_pos hl]
      exact ⟨by simp [hd, hl], SameView.refl S _, fun b => by simp [hd, hl], rfl,
        fun x => ⟨Or.inl, fun h => h.elim id (fun h => h.1 ▸ hl)⟩⟩
    · rw [if_neg hl]
      exact ⟨by simp [hd, hl, hS.rew_val], hv, fun b => by simp [hd, hl, hS.rew_pending], rfl,
        fun x => List.mem_cons.trans (or_comm.trans (or_congr_right ⟨fun e => ⟨e, e ▸ hd⟩, And.left⟩))⟩
  · rw [if_neg hd]
    have hd' : S.done st.sim c = false := by simpa using hd
    exact ⟨by simp [hd', hS.rew_val], hv, fun b => by simp [hd', hS.rew_pending], rfl,
      fun x => Iff.symm (or_iff_left fun h => hd (h.1 ▸ h.2))⟩

/-- `cnt` / `pnd`: any reading of "not finally counted" / "pending" that is right for the covered agents
at the start (the judge's ghost state, or the simulation itself) -/
theorem supRewLoop_spec {S : SimIface σ α ω ι} (hS : Lawful S) (cnt : Aid → Bool) (pnd : Aid → Int) :
    ∀ (cov : List Aid) (st : SupSt σ) (sum : Int), cov.Nodup →
      (∀ c ∈ cov, cnt c = !(S.done st.sim c && decide (c ∈ st.lastRew)) ∧ pnd c = S.pending st.sim c) →
      (supRewLoop S cov st sum).1 = sum + ((cov.filter cnt).map pnd).sum ∧
      SameView S st.sim (supRewLoop S cov st sum).2.sim ∧
      (∀ b, S.pending (supRewLoop S cov st sum).2.sim b =
        if b ∈ cov.filter cnt then 0 else S.pending st.sim b) ∧
      (supRewLoop S cov st sum).2.lastObs = st.lastObs ∧
      (∀ x, x ∈ (supRewLoop S cov st sum).2.lastRew ↔
        x ∈ st.lastRew ∨ (x ∈ cov ∧ S.done st.sim x = true)) := by
  intro cov
  induction cov with
  | nil =>
    intro st sum _ _
    refine ⟨by simp [supRewLoop], SameView.refl S _, by simp [supRewLoop], rfl, by simp [supRewLoop]⟩
  | cons c cs ih =>
    intro st sum hnd hc
    have hnd' := List.nodup_cons.mp hnd
    obtain ⟨hcc, hpc⟩ := hc c (List.mem_cons_self ..)
    obtain ⟨hval, hv, hp, hlo, hlr⟩ := supRew1_spec hS st c
    rw [supRewLoop_cons]
    generalize supRew1 S st c = r at hval hv hp hlo hlr ⊢
    -- the agents further down the list are distinct from `c`: for them nothing has changed
    obtain ⟨i1, i2, i3, i4, i5⟩ := ih r.2 (sum + r.1) hnd'.2 fun c' hc' => by
      have hne : c' ≠ c := fun e => hnd'.1 (e ▸ hc')
      rw [(hc c' (List.mem_cons_of_mem _ hc')).1, (hc c' (List.mem_cons_of_mem _ hc')).2, hv.1 c', hp c']
      simp [hlr c', hne]
    refine ⟨?_, hv.trans i2, fun b => ?_, by rw [i4, hlo], fun x => ?_⟩
    · rw [i1, hval, List.filter_cons, hcc]
      cases (S.done st.sim c && decide (c ∈ st.lastRew)) with
      | true => simp only [if_true, Int.add_zero, Bool.not_true, Bool.false_eq_true, if_false]
      | false =>
        simp only [Bool.false_eq_true, if_false, Bool.not_false, if_true, List.map_cons, List.sum_cons, hpc]
        omega
    · rw [i3 b, hp b, List.filter_cons, hcc]
      cases (S.done st.sim c && decide (c ∈ st.lastRew)) with
      | true => simp only [Bool.true_eq_false, and_false, if_false, Bool.not_true, Bool.false_eq_true]
      | false =>
        simp only [and_true, Bool.not_false, if_true, List.mem_cons]
        by_cases hb : b = c <;> simp [hb]
    · rw [i5 x, hlr x, hv.1 x, List.mem_cons, or_and_right, or_assoc]

end Abmarl
