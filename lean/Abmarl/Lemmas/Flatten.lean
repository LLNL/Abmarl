import Abmarl.Lemmas.Ravel
/-!
# Flatten / unflatten: leaf lemmas and the mutual inductions over `Space` / `List Space`

The point of the characterisation: the array `flatten s p` is the concatenation of what the
leaves produce, *re-tagged* by numpy's promotion (`cast b`: everything stays as it is when
`b`, everything becomes float otherwise).  A parent may promote once more, so the unflatten
half is proved for the array re-tagged by an arbitrary `b`.  The four array leaves share one shape
lemma (`FlatOK.ofArr`), Dict and Tuple one case (`Composite`).
-/
namespace Abmarl

/-- numpy promotion applied to one element: keep (`true`) or convert to float (`false`) -/
def cast (b : Bool) (x : Num) : Num := if b then x else x.toFlt

theorem cast_true (x : Num) : cast true x = x := rfl
theorem cast_false (x : Num) : cast false x = x.toFlt := rfl

theorem map_cast_true (l : List Num) : l.map (cast true) = l := List.map_id'' cast_true l

theorem val_cast (b : Bool) (x : Num) : (cast b x).val = x.val := by cases b <;> cases x <;> rfl
theorem cast_cast (b c : Bool) (x : Num) : cast b (cast c x) = cast (b && c) x := by
  cases b <;> cases c <;> cases x <;> rfl

theorem val_toFlt (x : Num) : x.toFlt.val = x.val := val_cast false x
theorem toFlt_toFlt (x : Num) : x.toFlt.toFlt = x.toFlt := cast_cast false false x
theorem toFlt_cast (b : Bool) (x : Num) : (cast b x).toFlt = x.toFlt := cast_cast false b x
theorem isInt_toFlt (x : Num) : x.toFlt.isInt = false := by cases x <;> rfl

theorem toInt_cast_int (b : Bool) (i : Int) : (cast b (.int i)).toInt = .int i := by
  cases b
  · show Num.int (Int.tdiv ((i : Rat).num) ((i : Rat).den)) = .int i
    rw [Rat.num_intCast, Rat.den_intCast]
    simp
  · rfl

theorem map_cast_cast (b c : Bool) (l : List Num) : (l.map (cast c)).map (cast b) = l.map (cast (b && c)) := by
  rw [List.map_map]
  exact List.map_congr_left fun x _ => cast_cast b c x

theorem join_map (f : Num → Num) : ∀ (parts : List (List Num)),
    join (parts.map (List.map f)) = (join parts).map f
  | [] => rfl
  | a :: as => by simp only [List.map_cons, join, List.map_append, join_map f as]

theorem length_join : ∀ (parts : List (List Num)), (join parts).length = sum (parts.map List.length)
  | [] => rfl
  | a :: as => by simp only [join, List.length_append, List.map_cons, sum, length_join as]

theorem split_join : ∀ (parts : List (List Num)) (ds : List Nat), parts.map List.length = ds →
    parts ≠ [] → split ds (join parts) = parts
  | [], _, _, h => absurd rfl h
  | [a], ds, hd, _ => by
    subst hd
    simp only [List.map_cons, List.map_nil, split, join, List.append_nil]
  | a :: b :: r, ds, hd, _ => by
    subst hd
    have ih := split_join (b :: r) _ rfl (by simp)
    simp only [List.map_cons] at ih ⊢
    simp only [split]
    rw [show join (a :: b :: r) = a ++ join (b :: r) from rfl]
    rw [List.take_left', List.drop_left', ih] <;> rfl

theorem all_isInt_map_toFlt : ∀ (l : List Num), l ≠ [] → (l.map (cast false)).all Num.isInt = false
  | [], h => absurd rfl h
  | x :: xs, _ => by simp only [List.map_cons, List.all_cons, cast_false, isInt_toFlt, Bool.false_and]

theorem concat_eq (parts : List (List Num)) (h : parts ≠ []) :
    concat parts = some ((join parts).map (cast ((join parts).all Num.isInt))) := by
  cases parts with
  | nil => exact absurd rfl h
  | cons a as =>
    simp only [concat]
    split
    · rename_i hall; rw [hall, map_cast_true]
    · rename_i hall
      have : (join (a :: as)).all Num.isInt = false := by simpa using hall
      rw [this]; rfl

theorem all_isInt_concat (j : List Num) :
    (j.map (cast (j.all Num.isInt))).all Num.isInt = j.all Num.isInt := by
  cases h : j.all Num.isInt
  · have hne : j ≠ [] := by intro e; subst e; simp at h
    exact all_isInt_map_toFlt j hne
  · rw [map_cast_true]; exact h

theorem memBoxQ_length (lo hi : List Rat) (a : List Num) : memBoxQ lo hi a = true →
    a.length = lo.length ∧ hi.length = lo.length := by
  fun_induction memBoxQ lo hi a with
  | case1 => exact fun _ => ⟨rfl, rfl⟩
  | case2 _ _ _ _ _ _ ih =>
    intro h
    simp only [Bool.and_eq_true] at h
    simp [ih h.2]
  | case3 => exact fun h => nomatch h

theorem memBoxQ_append (l1 h1 : List Rat) (a1 : List Num) (l2 h2 : List Rat) (a2 : List Num) :
    memBoxQ l1 h1 a1 = true → memBoxQ (l1 ++ l2) (h1 ++ h2) (a1 ++ a2) = memBoxQ l2 h2 a2 := by
  fun_induction memBoxQ l1 h1 a1 with
  | case1 => exact fun _ => rfl
  | case2 _ _ _ _ _ _ ih =>
    intro h
    simp only [Bool.and_eq_true] at h
    simp only [List.cons_append, memBoxQ, h.1.1, h.1.2, Bool.true_and, ih h.2]
  | case3 => exact fun h => nomatch h

theorem memBoxQ_map_cast (b : Bool) (lo hi : List Rat) (a : List Num) :
    memBoxQ lo hi (a.map (cast b)) = memBoxQ lo hi a := by
  induction a generalizing lo hi with
  | nil => rfl
  | cons v vs ih => cases lo <;> cases hi <;> simp only [List.map_cons, memBoxQ, val_cast, ih]

theorem ratOfInt_le {a b : Int} : ratOfInt a ≤ ratOfInt b ↔ a ≤ b := Rat.intCast_le_intCast

theorem leaf_box (lo hi : List Int) (vs : List Num) : memBoxI lo hi vs = true →
    memBoxQ (ratsOf lo) (ratsOf hi) vs = true ∧ vs.all Num.isInt = true ∧
      (∀ b, (vs.map (cast b)).map Num.toInt = vs) ∧ vs.length = lo.length := by
  fun_induction memBoxI lo hi vs with
  | case1 => exact fun _ => ⟨rfl, rfl, fun _ => rfl, rfl⟩
  | case2 l ls h' hs v vs ih =>
    intro h
    simp only [Bool.and_eq_true, decide_eq_true_eq] at h
    obtain ⟨g1, g2, g3, g4⟩ := ih h.2
    refine ⟨?_, ?_, ?_, ?_⟩
    · simp only [ratsOf, List.map_cons, memBoxQ, Bool.and_eq_true, decide_eq_true_eq]
      exact ⟨⟨ratOfInt_le.mpr h.1.1, ratOfInt_le.mpr h.1.2⟩, g1⟩
    · simp only [List.all_cons, Num.isInt, g2, Bool.and_self]
    · intro b; simp only [List.map_cons, toInt_cast_int, g3 b]
    · simp [g4]
  | case3 => exact fun h => nomatch h

theorem leaf_md (rs : List Nat) (vs : List Num) : memMD rs vs = true →
    memBoxQ (rs.map fun _ => 0) (rs.map predRat) vs = true ∧ vs.all Num.isInt = true ∧
      vs.length = rs.length := by
  fun_induction memMD rs vs with
  | case1 => exact fun _ => ⟨rfl, rfl, rfl⟩
  | case2 r rs v vs ih =>
    intro h
    simp only [Bool.and_eq_true, decide_eq_true_eq] at h
    obtain ⟨g1, g2, g3⟩ := ih h.2
    refine ⟨?_, ?_, ?_⟩
    · simp only [List.map_cons, memBoxQ, Bool.and_eq_true, decide_eq_true_eq]
      exact ⟨⟨by simpa [ratOfInt, Num.val] using (ratOfInt_le (a := 0)).mpr h.1.1,
        ratOfInt_le.mpr (Int.le_sub_one_of_lt h.1.2)⟩, g1⟩
    · simp only [List.all_cons, Num.isInt, g2, Bool.and_self]
    · simp [g3]
  | case3 => exact fun h => nomatch h

theorem leaf_mb (n : Nat) (vs : List Num) (h : memMB n vs = true) :
    memBoxQ (List.replicate n 0) (List.replicate n 1) vs = true ∧ vs.all Num.isInt = true ∧
      vs.length = n := by
  rw [memMB_eq_memMD] at h
  obtain ⟨g1, g2, g3⟩ := leaf_md _ _ h
  refine ⟨?_, g2, by simpa using g3⟩
  have e1 : ((List.replicate n 2).map fun _ => (0 : Rat)) = List.replicate n 0 := by simp
  have e2 : (List.replicate n 2).map predRat = List.replicate n 1 := by
    simp only [List.map_replicate]
    congr 1
  rw [e1, e2] at g1
  exact g1

theorem valsEq_map_cast (b : Bool) : ∀ (a : List Num), valsEq (a.map (cast b)) a = true
  | [] => rfl
  | x :: xs => by simp [valsEq, val_cast, valsEq_map_cast b xs]

theorem boundsOkQ_length (lo hi : List Rat) : boundsOkQ lo hi = true → lo.length = hi.length := by
  fun_induction boundsOkQ lo hi with
  | case1 => exact fun _ => rfl
  | case2 _ _ _ _ ih =>
    intro h
    simp only [Bool.and_eq_true] at h
    simp [ih h.2]
  | case3 => exact fun h => nomatch h

theorem concatBoxes_ok {bs : List FlatBox} (hne : bs ≠ []) :
    concatBoxes bs = some ⟨if allI64 bs then .i64 else .f, losOf bs, hisOf bs⟩ := by
  cases bs with
  | nil => exact absurd rfl hne
  | cons _ _ => rfl

theorem flattenSpaceL_ne_nil : ∀ {ss : List Space} {bs : List FlatBox}, ss ≠ [] →
    flattenSpaceL ss = some bs → bs ≠ []
  | [], _, h, _ => absurd rfl h
  | s :: ss, bs, _, h => by
    simp only [flattenSpaceL] at h
    split at h
    · split at h
      · cases h; exact List.cons_ne_nil _ _
      · cases h
    · cases h

/-- what the flatten functions do on a composite `s` with children `ss` (`mk` builds its points):
Dict and Tuple differ in `mk` only -/
structure Composite (s : Space) (ss : List Space) (mk : List Pt → Pt) : Prop where
  dim : flatdim s = sum (flatdimL ss)
  int : allLeavesInt s = allLeavesIntL ss
  fs : flattenSpace s = (flattenSpaceL ss).bind concatBoxes
  fl : ∀ ps, flatten s (mk ps) = (flattenL ss ps).bind concat
  unf : ∀ a, unflatten s a = (unflattenL ss (split (flatdimL ss) a)).map mk
  eqv : ∀ qs ps, ptEqvL qs ps = true → ptEqv (mk qs) (mk ps) = true

theorem Composite.dict (keys : List Nat) (ss : List Space) : Composite (.dict keys ss) ss (.dict keys) where
  dim := by simp only [flatdim]
  int := by simp only [allLeavesInt]
  fs := by simp only [flattenSpace]; cases flattenSpaceL ss <;> rfl
  fl ps := by simp only [flatten, if_true]; cases flattenL ss ps <;> rfl
  unf a := by simp only [unflatten]
  eqv qs ps hq := by simp only [ptEqv, decide_true, Bool.true_and, hq]

theorem Composite.tuple (ss : List Space) : Composite (.tuple ss) ss .tuple where
  dim := by simp only [flatdim]
  int := by simp only [allLeavesInt]
  fs := by simp only [flattenSpace]; cases flattenSpaceL ss <;> rfl
  fl ps := by simp only [flatten]; cases flattenL ss ps <;> rfl
  unf a := by simp only [unflatten]
  eqv qs ps hq := by simp only [ptEqv, hq]

theorem flattenSpace_composite_ok {s : Space} {ss : List Space} {mk : List Pt → Pt} {bs : List FlatBox}
    (c : Composite s ss mk) (hne : ss ≠ [])
    (h1 : flattenSpaceL ss = some bs) (h2 : allI64 bs = allLeavesIntL ss)
    (h3 : (losOf bs).length = sum (flatdimL ss)) (h4 : (hisOf bs).length = sum (flatdimL ss)) :
    ∃ fb, flattenSpace s = some fb ∧ fb.kind = (if allLeavesInt s then .i64 else .f) ∧
      fb.lo.length = flatdim s ∧ fb.hi.length = flatdim s :=
  ⟨_, by rw [c.fs, h1]; exact concatBoxes_ok (flattenSpaceL_ne_nil hne h1), by rw [c.int, ← h2],
    by rw [c.dim]; exact h3, by rw [c.dim]; exact h4⟩

mutual
theorem flattenSpace_ok : ∀ (s : Space), wfF s = true →
    ∃ fb, flattenSpace s = some fb ∧ fb.kind = (if allLeavesInt s then .i64 else .f) ∧
      fb.lo.length = flatdim s ∧ fb.hi.length = flatdim s
  | .discrete n st, _ => ⟨_, rfl, rfl, rfl, rfl⟩
  | .multiBinary n, _ => ⟨_, rfl, rfl, by simp [flatdim], by simp [flatdim]⟩
  | .multiDiscrete nvec, _ => ⟨_, rfl, rfl, by simp [flatdim], by simp [flatdim]⟩
  | .box shape lo hi wide, hw => by
    simp only [wfF, Bool.and_eq_true, decide_eq_true_eq] at hw
    obtain ⟨⟨⟨hwide, hsh⟩, _⟩, hb⟩ := hw
    subst hwide
    have hl := boundsOk_length _ _ hb
    exact ⟨_, rfl, rfl, by simp [ratsOf, flatdim, hsh], by simp [ratsOf, flatdim, hsh, hl]⟩
  | .fbox shape lo hi, hw => by
    simp only [wfF, Bool.and_eq_true, decide_eq_true_eq] at hw
    have hl := boundsOkQ_length _ _ hw.2
    exact ⟨_, rfl, rfl, by simp [flatdim, hw.1.1], by simp [flatdim, hw.1.1, hl]⟩
  | .ubox _, hw => nomatch hw
  | .dict keys ss, hw => by
    simp only [wfF, Bool.and_eq_true, Bool.not_eq_true', List.isEmpty_eq_false_iff] at hw
    obtain ⟨bs, h1, h2, h3, h4, _⟩ := flattenSpaceL_ok ss hw.2
    exact flattenSpace_composite_ok (.dict keys ss) hw.1.2 h1 h2 h3 h4
  | .tuple ss, hw => by
    simp only [wfF, Bool.and_eq_true, Bool.not_eq_true', List.isEmpty_eq_false_iff] at hw
    obtain ⟨bs, h1, h2, h3, h4, _⟩ := flattenSpaceL_ok ss hw.2
    exact flattenSpace_composite_ok (.tuple ss) hw.1 h1 h2 h3 h4
theorem flattenSpaceL_ok : ∀ (ss : List Space), wfFL ss = true →
    ∃ bs, flattenSpaceL ss = some bs ∧ allI64 bs = allLeavesIntL ss ∧
      (losOf bs).length = sum (flatdimL ss) ∧ (hisOf bs).length = sum (flatdimL ss) ∧
      bs.length = ss.length
  | [], _ => ⟨[], rfl, rfl, rfl, rfl, rfl⟩
  | s :: ss, hw => by
    simp only [wfFL, Bool.and_eq_true] at hw
    obtain ⟨fb, h1, h2, h3, h4⟩ := flattenSpace_ok s hw.1
    obtain ⟨bs, g1, g2, g3, g4, g5⟩ := flattenSpaceL_ok ss hw.2
    refine ⟨fb :: bs, by simp only [flattenSpaceL, h1, g1], ?_, ?_, ?_, by simp [g5]⟩
    · simp only [allI64, allLeavesIntL, h2, g2]
      cases allLeavesInt s <;> simp
    · simp only [losOf, List.length_append, h3, g3, flatdimL, sum]
    · simp only [hisOf, List.length_append, h4, g4, flatdimL, sum]
end

/-- everything C05 says about the flattened array `a` of the member `p` -/
structure FlatOK (s : Space) (p : Pt) (a : List Num) : Prop where
  len : a.length = flatdim s
  tags : a.all Num.isInt = allLeavesInt s
  unfl : ∀ b, ∃ q, unflatten s (a.map (cast b)) = some q ∧ ptEqv q p = true ∧
    (b = true → allLeavesInt s = true → q = p)
  box : ∃ fb, flattenSpace s = some fb ∧ memBoxQ fb.lo fb.hi a = true

/-- the same for a list of children and the list `parts` of their flattened arrays, before the parent
concatenates (and possibly promotes) them -/
structure FlatLOK (ss : List Space) (ps : List Pt) (parts : List (List Num)) : Prop where
  lens : parts.map List.length = flatdimL ss
  tags : (join parts).all Num.isInt = allLeavesIntL ss
  unfl : ∀ b, ∃ qs, unflattenL ss (parts.map (List.map (cast b))) = some qs ∧ ptEqvL qs ps = true ∧
    (b = true → allLeavesIntL ss = true → qs = ps)
  box : ∃ bs, flattenSpaceL ss = some bs ∧ memBoxQ (losOf bs) (hisOf bs) (join parts) = true

theorem FlatOK.round {s : Space} {p : Pt} {a : List Num} (h : FlatOK s p a) :
    ∃ q, unflatten s a = some q ∧ ptEqv q p = true ∧ (allLeavesInt s = true → q = p) := by
  obtain ⟨q, h1, h2, h3⟩ := h.unfl true
  rw [map_cast_true] at h1
  exact ⟨q, h1, h2, h3 rfl⟩

theorem FlatOK.memFlat {s : Space} {p : Pt} {a : List Num} (hW : wfF s = true) (h : FlatOK s p a) :
    ∃ fb, flattenSpace s = some fb ∧ memFlat fb a = true := by
  obtain ⟨fb, g1, g2⟩ := h.box
  obtain ⟨fb', k1, k2, _, _⟩ := flattenSpace_ok s hW
  obtain rfl : fb' = fb := Option.some.inj (k1.symm.trans g1)
  refine ⟨fb', g1, ?_⟩
  simp only [Abmarl.memFlat, g2, Bool.and_true, h.tags, k2]
  cases allLeavesInt s <;> simp

/-- an array leaf: unflattening `a`, promoted or not, gives `vs` re-tagged by some `d` (the promotion, or the
leaf's own dtype) -/
theorem FlatOK.ofArr {s : Space} {vs a : List Num} {fb : FlatBox} (hlen : a.length = flatdim s)
    (htag : a.all Num.isInt = allLeavesInt s) (hfs : flattenSpace s = some fb)
    (hbox : memBoxQ fb.lo fb.hi a = true)
    (hun : ∀ b, ∃ d, unflatten s (a.map (cast b)) = some (.arr (vs.map (cast d))) ∧
      (b = true → allLeavesInt s = true → d = true)) : FlatOK s (.arr vs) a where
  len := hlen
  tags := htag
  unfl b := by
    obtain ⟨d, h1, h2⟩ := hun b
    exact ⟨_, h1, by simp only [ptEqv, valsEq_map_cast], fun hb hi => by rw [h2 hb hi, map_cast_true]⟩
  box := ⟨fb, hfs, hbox⟩

theorem flatdimL_ne_nil : ∀ (ss : List Space), ss ≠ [] → flatdimL ss ≠ []
  | [], h => absurd rfl h
  | _ :: _, _ => by simp [flatdimL]

theorem composite_ok {s : Space} {ss : List Space} {mk : List Pt → Pt} {ps : List Pt}
    {parts : List (List Num)} (c : Composite s ss mk) (hne : ss ≠ []) (hl : flattenL ss ps = some parts)
    (h : FlatLOK ss ps parts) : ∃ a, flatten s (mk ps) = some a ∧ FlatOK s (mk ps) a := by
  have hpne : parts ≠ [] := by
    intro e; subst e
    exact flatdimL_ne_nil ss hne h.lens.symm
  refine ⟨_, by rw [c.fl, hl]; exact concat_eq parts hpne, ?_⟩
  constructor
  · rw [List.length_map, length_join, h.lens, c.dim]
  · rw [all_isInt_concat, h.tags, c.int]
  · intro b
    -- the children see their parts promoted twice: by this `concat` (tag `(join parts).all isInt`) and by `b`
    obtain ⟨qs, h1, h2, h3⟩ := h.unfl (b && (join parts).all Num.isInt)
    refine ⟨mk qs, ?_, c.eqv qs ps h2, ?_⟩
    · rw [c.unf, map_cast_cast, ← join_map, split_join _ _ (by rw [List.map_map]; simpa [Function.comp_def] using h.lens)
        (by simpa using hpne), h1]
      rfl
    · intro hb hi
      rw [h3 (by rw [hb, h.tags, ← c.int, hi]; rfl) (by rw [← c.int]; exact hi)]
  · obtain ⟨bs, g1, g2⟩ := h.box
    refine ⟨_, by rw [c.fs, g1]; exact concatBoxes_ok (flattenSpaceL_ne_nil hne g1), ?_⟩
    simp only [memBoxQ_map_cast]
    exact g2

theorem flatten_flattenL_ok :
    (∀ s p, wfF s = true → mem s p = true → ∃ a, flatten s p = some a ∧ FlatOK s p a) ∧
    ∀ ss ps, wfFL ss = true → memL ss ps = true → ∃ parts, flattenL ss ps = some parts ∧ FlatLOK ss ps parts := by
  -- what `fun_induction mem s p` would do, which takes no mutual function; the two catch-alls arrive with
  -- `false = true`
  refine mem.mutual_induct_unfolding
    (fun s p b => wfF s = true → b = true → ∃ a, flatten s p = some a ∧ FlatOK s p a)
    (fun ss ps b => wfFL ss = true → b = true → ∃ parts, flattenL ss ps = some parts ∧ FlatLOK ss ps parts)
    ?_ ?_ ?_ ?_ ?_ ?_ ?_ (by intros; contradiction) ?_ ?_ (by intros; contradiction)
  · intro n st v hw hm  -- Discrete
    simp only [wfF, Bool.and_eq_true, decide_eq_true_eq] at hw
    obtain ⟨_, rfl⟩ := hw
    simp only [Bool.and_eq_true, decide_eq_true_eq] at hm
    refine ⟨[.int v], rfl, rfl, rfl, fun b => ⟨.scalar (cast b (.int v)), rfl, ?_, ?_⟩, _, rfl,
      (leaf_md [n] [.int v] ?_).1⟩
    · simp only [ptEqv, val_cast, decide_true]
    · rintro rfl _; rfl
    · simp only [memMD, Bool.and_eq_true, decide_eq_true_eq, and_true]
      omega
  · intro n vs _ hm  -- MultiBinary
    obtain ⟨g1, g2, g3⟩ := leaf_mb n vs hm
    exact ⟨vs, rfl, .ofArr g3 g2 rfl g1 fun b => ⟨b, rfl, fun hb _ => hb⟩⟩
  · intro nvec vs _ hm  -- MultiDiscrete
    obtain ⟨g1, g2, g3⟩ := leaf_md nvec vs hm
    exact ⟨vs, rfl, .ofArr g3 g2 rfl g1 fun b => ⟨b, rfl, fun hb _ => hb⟩⟩
  · intro shape lo hi wide vs hw hm  -- Box
    simp only [wfF, Bool.and_eq_true, decide_eq_true_eq] at hw
    obtain ⟨g1, g2, g3, g4⟩ := leaf_box lo hi vs hm
    have hl : vs.length = prod shape := g4.trans hw.1.1.2.symm
    have hid := g3 true
    rw [map_cast_true] at hid
    exact ⟨vs, by simp only [flatten, hid], .ofArr hl g2 rfl g1 fun b =>
      ⟨true, by simp only [unflatten, List.length_map, hl, if_true, g3 b, map_cast_true], fun _ _ => rfl⟩⟩
  · intro shape lo hi vs hw hm  -- float Box
    simp only [wfF, Bool.and_eq_true, decide_eq_true_eq] at hw
    have hl : vs.length = prod shape := (memBoxQ_length _ _ _ hm).1.trans hw.1.1.symm
    have hne : vs ≠ [] := by
      intro e; subst e; simp at hl; omega
    exact ⟨vs.map (cast false), rfl, .ofArr (by rw [List.length_map, hl]; rfl) (all_isInt_map_toFlt vs hne) rfl
      (by rw [memBoxQ_map_cast]; exact hm) fun b =>
      ⟨false, by
        simp only [unflatten, List.length_map, hl, if_true]
        -- `unflatten` maps `toFlt`, which is `cast false`: three promotions in a row, one of them to float
        rw [show ∀ l, List.map Num.toFlt l = l.map (cast false) from fun _ => rfl, map_cast_cast, map_cast_cast]
        rfl, fun _ hi => nomatch hi⟩⟩
  · intro keys ss pk ps ih hw hm  -- Dict
    simp only [wfF, Bool.and_eq_true, Bool.not_eq_true', List.isEmpty_eq_false_iff] at hw
    simp only [Bool.and_eq_true, decide_eq_true_eq] at hm
    obtain ⟨rfl, hm⟩ := hm
    obtain ⟨parts, h1, h2⟩ := ih hw.2 hm
    exact composite_ok (.dict keys ss) hw.1.2 h1 h2
  · intro ss ps ih hw hm  -- Tuple
    simp only [wfF, Bool.and_eq_true, Bool.not_eq_true', List.isEmpty_eq_false_iff] at hw
    obtain ⟨parts, h1, h2⟩ := ih hw.2 hm
    exact composite_ok (.tuple ss) hw.1 h1 h2
  · exact fun _ _ => ⟨[], rfl, ⟨rfl, rfl, fun _ => ⟨[], rfl, rfl, fun _ _ => rfl⟩, ⟨[], rfl, rfl⟩⟩⟩  -- `[]`
  · intro s ss p ps ihs ihss hw hm  -- `s :: ss`
    simp only [wfFL, Bool.and_eq_true] at hw
    simp only [Bool.and_eq_true] at hm
    obtain ⟨a, h1, h2⟩ := ihs hw.1 hm.1
    obtain ⟨parts, g1, g2⟩ := ihss hw.2 hm.2
    refine ⟨a :: parts, by simp only [flattenL, h1, g1], ?_⟩
    constructor
    · simp only [List.map_cons, h2.len, g2.lens, flatdimL]
    · simp only [join, List.all_append, h2.tags, g2.tags, allLeavesIntL]
    · intro b
      obtain ⟨q, u1, u2, u3⟩ := h2.unfl b
      obtain ⟨qs, v1, v2, v3⟩ := g2.unfl b
      refine ⟨q :: qs, by simp only [List.map_cons, unflattenL, u1, v1], ?_, ?_⟩
      · simp only [ptEqvL, u2, v2, Bool.and_self]
      · intro hb hi
        simp only [allLeavesIntL, Bool.and_eq_true] at hi
        rw [u3 hb hi.1, v3 hb hi.2]
    · obtain ⟨fb, b1, b2⟩ := h2.box
      obtain ⟨bs, c1, c2⟩ := g2.box
      refine ⟨fb :: bs, by simp only [flattenSpaceL, b1, c1], ?_⟩
      simp only [losOf, hisOf, join]
      rw [memBoxQ_append _ _ _ _ _ _ b2]
      exact c2

theorem flatten_ok : ∀ (s : Space) (p : Pt), wfF s = true → mem s p = true →
    ∃ a, flatten s p = some a ∧ FlatOK s p a :=
  flatten_flattenL_ok.1

theorem flattenL_ok : ∀ (ss : List Space) (ps : List Pt), wfFL ss = true → memL ss ps = true →
    ∃ parts, flattenL ss ps = some parts ∧ FlatLOK ss ps parts :=
  flatten_flattenL_ok.2

theorem valsEq_refl (a : List Num) : valsEq a a = true := by
  simpa only [map_cast_true] using valsEq_map_cast true a

mutual
theorem ptEqv_refl : ∀ (p : Pt), ptEqv p p = true
  | .scalar _ => by simp [ptEqv]
  | .arr a => by simp [ptEqv, valsEq_refl a]
  | .dict _ ps => by simp [ptEqv, ptEqvL_refl ps]
  | .tuple ps => by simp [ptEqv, ptEqvL_refl ps]
theorem ptEqvL_refl : ∀ (ps : List Pt), ptEqvL ps ps = true
  | [] => rfl
  | p :: ps => by simp [ptEqvL, ptEqv_refl p, ptEqvL_refl ps]
end

end Abmarl
