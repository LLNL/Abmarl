import Abmarl.Model.Managers
/-!
# M1 functor — `SuperAgentWrapper` (abmarl/sim/wrappers/super_agent_wrapper.py)

The wrapper as a functor on simulations: `superSim S cfg` is again a `SimIface`, so every
manager / adapter / trainer theorem applies to a wrapped simulation (`superSim_lawful`,
`superSim_WF` in `Lemmas/SuperAgentLawful.lean`).

* inner agents are indices `0..S.n-1`; the mapping `{super_i: [covered…]}` is `cfg.groups`
  (mapping order, each list in its own order); `cfg.uncovered` is the iteration order of the
  Python `set` `sim.agents.keys() - covered` **as read at run time** by the harness;
* outer agents: `0..k-1` the super agents, then the uncovered agents in `cfg.uncovered` order
  (`_construct_agents_from_super_agent_mapping`);
* state = inner state + the two dictionaries `_last_obs_reported`, `_last_reward_reported`
  (as the lists of agents whose entry is `True`);
* every effectful inner read (`sim.get_obs`, `sim.get_reward`) threads the inner state in the
  order the Python evaluates it; `sim.get_done` / `get_all_done` / `get_info` are pure in `SimIface`;
* `_get_null_obs` uses the declared null observation unless it is the empty dict
  (`if not (type(null_observation) is dict and len(null_observation) == 0):`; the empty dict stands for
  "none declared"): fallback to a real read.  `cfg.nullTruthy` carries the outcome of that test, read at run time
  (the name dates from the time the code tested Python's truth value);
* the one-time `warnings.warn` of `_get_null_obs` is not modelled.

A second, call-level interface (`SCall`, `supCall`, `supRun`) drives the wrapper getter by
getter, as a user or a manager does, and records after every call the ghost observations of the
**inner** simulation (done flags, pending rewards, the argument `sim.step` received, the inner
`get_obs` reads made during the call), so that specifications never look at wrapper internals.
-/
namespace Abmarl

variable {σ α ω ι : Type}

/-- an action handed to the wrapper: a plain action (uncovered agent) or the dictionary
`{covered: action}` of a super agent (in the order of the dictionary) -/
inductive SAct (α : Type) where
  | plain : α → SAct α
  | joint : List (Aid × α) → SAct α
deriving Repr, DecidableEq

/-- an observation handed out: the inner one (uncovered agent) or `{'mask': {c: [bit]}, c: obs}` -/
inductive SObs (ω : Type) where
  | plain : ω → SObs ω
  | super : (mask : List (Aid × Bool)) → (obs : List (Aid × ω)) → SObs ω
deriving Repr, DecidableEq

inductive SInfo (ι : Type) where
  | plain : ι → SInfo ι
  | super : List (Aid × ι) → SInfo ι
deriving Repr, DecidableEq

structure SuperCfg (ω : Type) where
  /-- `super_agent_mapping.values()`, in mapping order -/
  groups     : List (List Aid)
  /-- `_uncovered_agents` in the iteration order the wrapper's `agents` dict was built with -/
  uncovered  : List Aid
  /-- declared null observation of every inner agent (`none`: not declared, Python `{}`) -/
  nullObs    : List (Option ω)
  /-- whether `_get_null_obs` uses the declared null observation (it is not the empty dict) -/
  nullTruthy : List Bool

def SuperCfg.covered (cfg : SuperCfg ω) : List Aid := cfg.groups.flatten

def SuperCfg.declared (cfg : SuperCfg ω) (c : Aid) : Option ω := (cfg.nullObs[c]?).join

/-- what `_get_null_obs` can return without touching the simulation -/
def SuperCfg.usableNull (cfg : SuperCfg ω) (c : Aid) : Option ω :=
  if cfg.nullTruthy.getD c false then cfg.declared c else none

/-- the constructor's assertions on the mapping (all `AssertionError`): every covered agent is an
agent of the simulation, is covered once, and is a learning agent -/
def ctorOK (n : Nat) (learning : Aid → Bool) (cfg : SuperCfg ω) : Bool :=
  cfg.covered.all (fun c => decide (c < n) && learning c) && decide cfg.covered.Nodup

/-- who an outer agent is -/
inductive Outer where
  | sup : List Aid → Outer      -- a super agent with its covered list
  | unc : Aid → Outer           -- an uncovered inner agent
  | bad : Outer                 -- no such agent
deriving Repr, DecidableEq

/-- outer agent index → who it is (`agents`: super agents in mapping order, then the uncovered) -/
def SuperCfg.outer (cfg : SuperCfg ω) (x : Aid) : Outer :=
  match cfg.groups[x]? with
  | some cov => .sup cov
  | none =>
    match cfg.uncovered[x - cfg.groups.length]? with
    | some a => .unc a
    | none => .bad

structure SupSt (σ : Type) where
  sim     : σ
  lastObs : List Aid := []      -- `_last_obs_reported[c] is True`
  lastRew : List Aid := []      -- `_last_reward_reported[c] is True`

/-! ## `step`: unravel and filter -/

/-- `d[k] = v` on an insertion-ordered dictionary -/
def supDictSet {β : Type} (d : List (Aid × β)) (k : Aid) (v : β) : List (Aid × β) :=
  if d.any (fun p => p.1 == k) then d.map (fun p => if p.1 == k then (k, v) else p)
  else d ++ [(k, v)]

/-- the dictionary obtained by inserting the pairs one after the other -/
def supDictOf {β : Type} (l : List (Aid × β)) : List (Aid × β) :=
  l.foldl (fun d p => supDictSet d p.1 p.2) []

/-- the insertions `step` makes into `unravelled_action_dict` for one item of the action dict;
ill-shaped items (outside the action space) make the real code raise, see `checkActs` -/
def unravel1 (S : SimIface σ α ω ι) (s : σ) (p : Outer × SAct α) : List (Aid × α) :=
  match p.1, p.2 with
  | .sup _, .joint l => l.filter (fun q => !S.done s q.1)
  | .unc a, .plain v => [(a, v)]
  | _, _ => []

/-- the argument `self.sim.step` is called with -/
def supStepArgs (S : SimIface σ α ω ι) (s : σ) (acts : List (Outer × SAct α)) : List (Aid × α) :=
  supDictOf (acts.flatMap (unravel1 S s))

/-! ## `get_obs` -/

/-- one covered agent of a super observation: mask bit, observation entry, and whether the entry
came from a real `sim.get_obs` -/
structure ObsItem (ω : Type) where
  agent : Aid
  mask  : Bool
  obs   : ω
  real  : Bool

def supObs1 (S : SimIface σ α ω ι) (cfg : SuperCfg ω) (st : SupSt σ) (c : Aid) : ObsItem ω × SupSt σ :=
  if S.done st.sim c then
    if c ∈ st.lastObs then
      -- `_get_null_obs`
      match cfg.usableNull c with
      | some o => (⟨c, false, o, false⟩, st)
      | none =>
        let r := S.obs st.sim c
        (⟨c, false, r.1, true⟩, { st with sim := r.2 })
    else
      let r := S.obs st.sim c
      (⟨c, false, r.1, true⟩, { st with sim := r.2, lastObs := c :: st.lastObs })
  else
    let r := S.obs st.sim c
    (⟨c, true, r.1, true⟩, { st with sim := r.2 })

def supObsLoop (S : SimIface σ α ω ι) (cfg : SuperCfg ω) : List Aid → SupSt σ → List (ObsItem ω) × SupSt σ
  | [], st => ([], st)
  | c :: cs, st =>
    let r := supObs1 S cfg st c
    let rest := supObsLoop S cfg cs r.2
    (r.1 :: rest.1, rest.2)

def packObs (l : List (ObsItem ω)) : SObs ω :=
  .super (l.map fun i => (i.agent, i.mask)) (l.map fun i => (i.agent, i.obs))

/-- ghost: the inner `get_obs` calls behind a super observation, in order -/
def readsOf (l : List (ObsItem ω)) : List (Aid × ω) :=
  (l.filter (·.real)).map fun i => (i.agent, i.obs)

/-- value, ghost read log, new state -/
def supObs (S : SimIface σ α ω ι) (cfg : SuperCfg ω) (st : SupSt σ) :
    Outer → SObs ω × List (Aid × ω) × SupSt σ
  | .sup cov =>
    let r := supObsLoop S cfg cov st
    (packObs r.1, readsOf r.1, r.2)
  | .unc a =>
    let r := S.obs st.sim a
    (.plain r.1, [(a, r.1)], { st with sim := r.2 })
  | .bad => (.super [] [], [], st)

/-! ## `get_reward` -/

def supRewLoop (S : SimIface σ α ω ι) : List Aid → SupSt σ → Int → Int × SupSt σ
  | [], st, sum => (sum, st)
  | c :: cs, st, sum =>
    if S.done st.sim c then
      if c ∈ st.lastRew then supRewLoop S cs st sum
      else
        let r := S.reward st.sim c
        supRewLoop S cs { st with sim := r.2, lastRew := c :: st.lastRew } (sum + r.1)
    else
      let r := S.reward st.sim c
      supRewLoop S cs { st with sim := r.2 } (sum + r.1)

def supReward (S : SimIface σ α ω ι) (st : SupSt σ) : Outer → Int × SupSt σ
  | .sup cov => supRewLoop S cov st 0
  | .unc a =>
    let r := S.reward st.sim a
    (r.1, { st with sim := r.2 })
  | .bad => (0, st)

/-! ## pure getters -/

def supDone (S : SimIface σ α ω ι) (st : SupSt σ) : Outer → Bool
  | .sup cov => cov.all (S.done st.sim)
  | .unc a => S.done st.sim a
  | .bad => false

def supInfo (S : SimIface σ α ω ι) (st : SupSt σ) : Outer → SInfo ι
  | .sup cov => .super (cov.map fun c => (c, S.info st.sim c))
  | .unc a => .plain (S.info st.sim a)
  | .bad => .super []

/-- ghost: what a super agent will still be paid from what has accrued so far — the pending
rewards of its covered agents that have not had their final count -/
def supPending (S : SimIface σ α ω ι) (st : SupSt σ) : Outer → Int
  | .sup cov =>
    ((cov.filter fun c => !(S.done st.sim c && decide (c ∈ st.lastRew))).map (S.pending st.sim)).sum
  | .unc a => S.pending st.sim a
  | .bad => 0

def supReset (S : SimIface σ α ω ι) (st : SupSt σ) : SupSt σ :=
  { sim := S.reset st.sim, lastObs := [], lastRew := [] }

/-! ## the functor -/

def superSim (S : SimIface σ α ω ι) (cfg : SuperCfg ω) :
    SimIface (SupSt σ) (SAct α) (SObs ω) (SInfo ι) where
  n := cfg.groups.length + cfg.uncovered.length
  learning := fun x =>
    match cfg.outer x with
    | .sup _ => true
    | .unc a => S.learning a
    | .bad => false
  reset := supReset S
  step := fun st acts =>
    { st with sim := S.step st.sim (supStepArgs S st.sim (acts.map fun p => (cfg.outer p.1, p.2))) }
  obs := fun st x =>
    let r := supObs S cfg st (cfg.outer x)
    (r.1, r.2.2)
  reward := fun st x => supReward S st (cfg.outer x)
  done := fun st x => supDone S st (cfg.outer x)
  allDone := fun st => S.allDone st.sim
  info := fun st x => supInfo S st (cfg.outer x)
  -- the wrapper is an `AgentBasedSimulation`, not a `DynamicOrderSimulation`: it nominates nobody
  next := fun _ => []
  pending := fun st x => supPending S st (cfg.outer x)

/-! ## the call-level interface -/

/-- how a caller names an agent: a key of the mapping, or an agent id of the inner simulation -/
inductive Ref where
  | sup   : Nat → Ref
  | inner : Aid → Ref
deriving Repr, DecidableEq

/-- dispatch on the agent id as every method does: covered → `AssertionError`; key of the mapping →
super agent; anything else is forwarded to the inner simulation (an unknown id raises there) -/
def resolve (n : Nat) (cfg : SuperCfg ω) : Ref → Except Err Outer
  | .sup i =>
    match cfg.groups[i]? with
    | some cov => .ok (.sup cov)
    | none => .error .crash
  | .inner a =>
    if a ∈ cfg.covered then .error .rejected
    else if a < n then .ok (.unc a)
    else .error .crash

/-- `step` walks the action dict in order; the first offending item decides the exception:
a covered agent's id → `AssertionError`; an item outside the action space (a plain action for a super
agent: `action.items()` fails; a joint action naming an agent the simulation does not have:
`sim.get_done` fails; a dictionary for an uncovered agent or an unknown id: by convention, the
inner simulation's exception decides and the harness never generates these) → crash.
Nothing has reached the simulation at that point. -/
def badItem (n : Nat) (o : Outer) (a : SAct α) : Bool :=
  match o, a with
  | .sup _, .plain _ => true
  | .unc _, .joint _ => true
  | .sup _, .joint l => l.any (fun q => decide (n ≤ q.1))     -- `sim.get_done(unknown id)`
  | _, _ => false

def checkActs (n : Nat) (cfg : SuperCfg ω) : List (Ref × SAct α) → Except Err (List (Outer × SAct α))
  | [] => .ok []
  | (r, a) :: rest =>
    match resolve n cfg r with
    | .error e => .error e
    | .ok o =>
      if badItem n o a then .error .crash
      else
        match checkActs n cfg rest with
        | .error e => .error e
        | .ok l => .ok ((o, a) :: l)

inductive SCall (α : Type) where
  | reset      : SCall α
  | step       : List (Ref × SAct α) → SCall α
  | getObs     : Ref → SCall α
  | getReward  : Ref → SCall α
  | getDone    : Ref → SCall α
  | getAllDone : SCall α
  | getInfo    : Ref → SCall α
deriving Repr

inductive SupRes (ω ι : Type) where
  | unit   : SupRes ω ι
  | obs    : SObs ω → SupRes ω ι
  | reward : Int → SupRes ω ι
  | done   : Bool → SupRes ω ι
  | info   : SInfo ι → SupRes ω ι
  | err    : Err → SupRes ω ι
deriving Repr, DecidableEq

/-- one call with the ghost observations of the **inner** simulation -/
structure SupEntry (α ω ι : Type) where
  call       : SCall α
  res        : SupRes ω ι
  /-- the argument the inner `sim.step` received during this call, if it was called -/
  simArgs    : Option (List (Aid × α))
  /-- the inner pending rewards right after the inner `step`/`reset` of this call (before any
  read); equal to the pending rewards before the call otherwise -/
  accrued    : List Int
  /-- the inner `get_obs` calls made during this call, in order, with the values returned -/
  obsReads   : List (Aid × ω)
  simDone    : List Bool        -- inner done flags after the call
  pending    : List Int         -- inner pending rewards after the call
  simAllDone : Bool
  simInfos   : List ι           -- inner infos after the call

structure SCSt (σ : Type) where
  st      : SupSt σ
  /-- `reset` has been called: the dictionaries `_last_*_reported` exist -/
  started : Bool := false

def sup_mkEntry (S : SimIface σ α ω ι) (call : SCall α) (res : SupRes ω ι) (args : Option (List (Aid × α)))
    (sAccr : σ) (reads : List (Aid × ω)) (s' : σ) : SupEntry α ω ι :=
  { call := call, res := res, simArgs := args, accrued := S.agents.map (S.pending sAccr),
    obsReads := reads, simDone := S.agents.map (S.done s'), pending := S.agents.map (S.pending s'),
    simAllDone := S.allDone s', simInfos := S.agents.map (S.info s') }

/-- before the first `reset` the dictionaries do not exist: `get_obs` of a super agent raises
`AttributeError` at its first done covered agent, after the real reads for the agents before it -/
def preObsLoop (S : SimIface σ α ω ι) : List Aid → σ → List (Aid × ω) → Bool × List (Aid × ω) × σ
  | [], s, log => (false, log, s)
  | c :: cs, s, log =>
    if S.done s c then (true, log, s)
    else
      let r := S.obs s c
      preObsLoop S cs r.2 (log ++ [(c, r.1)])

/-- the same for `get_reward` -/
def preRewLoop (S : SimIface σ α ω ι) : List Aid → σ → Bool × σ
  | [], s => (false, s)
  | c :: cs, s =>
    if S.done s c then (true, s)
    else preRewLoop S cs (S.reward s c).2

def supCall (S : SimIface σ α ω ι) (cfg : SuperCfg ω) (cs : SCSt σ) (call : SCall α) :
    SupEntry α ω ι × SCSt σ :=
  let st := cs.st
  let fail := fun (e : Err) => (sup_mkEntry S call (.err e) none st.sim [] st.sim, cs)
  match call with
  | .reset =>
    let st' := supReset S st
    (sup_mkEntry S call .unit none st'.sim [] st'.sim, { st := st', started := true })
  | .step acts =>
    (match checkActs S.n cfg acts with
     | .error e => fail e
     | .ok oacts =>
       let args := supStepArgs S st.sim oacts
       let s' := S.step st.sim args
       (sup_mkEntry S call .unit (some args) s' [] s', { cs with st := { st with sim := s' } }))
  | .getObs r =>
    (match resolve S.n cfg r with
     | .error e => fail e
     | .ok o =>
       match o, cs.started with
       | .sup cov, false =>
         let p := preObsLoop S cov st.sim []
         if p.1 then
           (sup_mkEntry S call (.err .crash) none st.sim p.2.1 p.2.2, { cs with st := { st with sim := p.2.2 } })
         else
           let v := supObs S cfg st o
           (sup_mkEntry S call (.obs v.1) none st.sim v.2.1 v.2.2.sim, { cs with st := v.2.2 })
       | _, _ =>
         let v := supObs S cfg st o
         (sup_mkEntry S call (.obs v.1) none st.sim v.2.1 v.2.2.sim, { cs with st := v.2.2 }))
  | .getReward r =>
    (match resolve S.n cfg r with
     | .error e => fail e
     | .ok o =>
       match o, cs.started with
       | .sup cov, false =>
         let p := preRewLoop S cov st.sim
         if p.1 then
           (sup_mkEntry S call (.err .crash) none st.sim [] p.2, { cs with st := { st with sim := p.2 } })
         else
           let v := supReward S st o
           (sup_mkEntry S call (.reward v.1) none st.sim [] v.2.sim, { cs with st := v.2 })
       | _, _ =>
         let v := supReward S st o
         (sup_mkEntry S call (.reward v.1) none st.sim [] v.2.sim, { cs with st := v.2 }))
  | .getDone r =>
    (match resolve S.n cfg r with
     | .error e => fail e
     | .ok o => (sup_mkEntry S call (.done (supDone S st o)) none st.sim [] st.sim, cs))
  | .getAllDone => (sup_mkEntry S call (.done (S.allDone st.sim)) none st.sim [] st.sim, cs)
  | .getInfo r =>
    (match resolve S.n cfg r with
     | .error e => fail e
     | .ok o => (sup_mkEntry S call (.info (supInfo S st o)) none st.sim [] st.sim, cs))

def supRun (S : SimIface σ α ω ι) (cfg : SuperCfg ω) : SCSt σ → List (SCall α) → List (SupEntry α ω ι)
  | _, [] => []
  | cs, c :: rest =>
    let r := supCall S cfg cs c
    r.1 :: supRun S cfg r.2 rest

/-- construction (the mapping's assertions) followed by a call history -/
def supSession (S : SimIface σ α ω ι) (cfg : SuperCfg ω) (s0 : σ) (calls : List (SCall α)) :
    Except Err (List (SupEntry α ω ι)) :=
  if ctorOK S.n S.learning cfg then .ok (supRun S cfg { st := { sim := s0 } } calls)
  else .error .rejected

end Abmarl
