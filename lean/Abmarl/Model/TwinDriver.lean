import Abmarl.Model.AdaptersDriver
/-!
Driver glue for the used-versus-fresh twins of C08.
`(twin kind shuffle script prefixTape prefixOps seedTape followOps implUsed implFresh)`
`(ostwin kind script prefixCalls followCalls implUsed implFresh)`
`(gymabs doneAt calls implSnapshots)`    calls: `(r)` | `(s a)`; snapshot after each call: `(obs? reward? done? info?)`
reply `(modelUsedTrace twinEqualOnModel twinEqualOnImpl)` / `(modelSnapshots 1 implOK)`.
The simulation underneath is the stub with a constant episode number (`stubSimFlat`).
-/
namespace Abmarl
namespace TwinDriver
open MgrDriver TrainerDriver AdaptersDriver

/-- the manager state after a history (same as `finalState` of Props/C08Base.lean) -/
def finalSt (S : SimIface StubSt Int (List Int) (List Int)) (k : MKind) :
    MState StubSt → List (Op Int) → MState StubSt
  | m, [] => m
  | m, op :: ops => finalSt S k (runOp S k m op).2 ops

def handleTwin (args : List Val) : Option Val := do
  match args with
  | [k, sh, sc, ptape, pops, seed, fops, iu, ifr] =>
    let k ← kind? k
    let sh ← sh.bool?
    let sc ← script? sc
    let ptape ← ptape.nats?
    let pops ← (← pops.list?).mapM op?
    let seed ← seed.nats?
    let fops ← (← fops.list?).mapM op?
    let S := stubSimFlat sc
    let m0 := mgrInit ({} : StubSt) sh ptape
    let used := runOps S k { finalSt S k m0 pops with tape := seed } fops
    let fresh := runOps S k { m0 with tape := seed } fops
    let eu : Val := .list (used.map encEntry)
    let ef : Val := .list (fresh.map encEntry)
    pure (.list [eu, b2i (eu == ef), b2i (iu == ifr)])
  | _ => none

def osFinal (S : SimIface StubSt Int (List Int) (List Int)) (k : MKind) :
    OSState StubSt → List (Option (List Int)) → OSState StubSt
  | st, [] => st
  | st, c :: cs =>
    let r := match c with
      | none => osReset (α := Int) S k st
      | some acts => osStep S k st acts
    osFinal S k r.2 cs

def handleOSTwin (args : List Val) : Option Val := do
  match args with
  | [k, sc, pcalls, fcalls, iu, ifr] =>
    let k ← kind? k
    let sc ← script? sc
    let pcalls ← (← pcalls.list?).mapM osCall?
    let fcalls ← (← fcalls.list?).mapM osCall?
    let S := stubSimFlat sc
    let st0 : OSState StubSt := { m := mgrInit ({} : StubSt) false [] }
    let used := osRun S k (osFinal S k st0 pcalls) fcalls
    let fresh := osRun S k st0 fcalls
    let eu : Val := .list (used.map encOSCall)
    let ef : Val := .list (fresh.map encOSCall)
    pure (.list [eu, b2i (eu == ef), b2i (iu == ifr)])
  | _ => none

/-! GymABS over a scripted environment: state = steps since reset; `step a` returns
obs = count, reward = count·a, terminated = (count ≥ doneAt), truncated = false, info = count -/
def scriptedEnv (doneAt : Nat) : GymEnv Nat Int Int Int where
  reset := fun _ => ((0, 0), 0)
  step := fun c a => (((c + 1 : Nat), ((c + 1 : Nat) : Int) * a, decide (doneAt ≤ c + 1), false, ((c + 1 : Nat) : Int)), c + 1)

def snap (s : GymABSSt Nat Int Int) : Val :=
  .list [encOptV Val.int s.obs, encOptV Val.int s.reward, encOptV Val.ofBool s.done, encOptV Val.int s.info]

def gRun (doneAt : Nat) : GymABSSt Nat Int Int → List (Option Int) → List Val
  | _, [] => []
  | s, c :: cs =>
    let s' := match c with
      | none => gymabsReset (scriptedEnv doneAt) s
      | some a => gymabsStep (scriptedEnv doneAt) s a
    snap s' :: gRun doneAt s' cs

def handleGymABS (args : List Val) : Option Val := do
  match args with
  | [d, calls, impl] =>
    let d ← d.nat?
    let calls ← (← calls.list?).mapM gymCall?
    let m : Val := .list (gRun d { env := 0 } calls)
    pure (.list [m, .int 1, b2i (m == impl)])
  | _ => none

end TwinDriver
end Abmarl
