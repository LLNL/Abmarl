/-!
# M1 — the three simulation managers over an arbitrary simulation

Transcribed branch for branch from
`abmarl/managers/{all_step,turn_based,dynamic_order}_manager.py`.

* agents are indices `0..n-1` in the listing order of `sim.agents`;
* the four output dictionaries are kept *separately*, as the code builds them, so that
  "same key set" is a theorem and not an artefact of the representation;
* getters that may mutate the simulation (`get_obs`, `get_reward`) thread the state in the
  order the Python evaluates them;
* the unbounded `for next_agent in cycle(...)` loop of the turn-based manager is one
  structural pass over the listing rotated to the turn pointer; running out of it is the
  explicit error `exhausted` (the real code would spin forever) — `turnSearch_total`
  (Lemmas/ManagersInv.lean) shows it unreachable under the caller protocol;
* `random.shuffle` of the all-step manager consumes the oracle tape.
-/
namespace Abmarl

abbrev Aid := Nat
abbrev Tape := List Nat

inductive Err where
  | rejected      -- the manager's "already done" assertion
  | exhausted     -- model only: the turn search ran through a whole rotation (real code: hang)
  | crash         -- any other exception of the real code
  | hang          -- watchdog fired on the real code
deriving Repr, DecidableEq, Inhabited

/-- Any `AgentBasedSimulation` (and `DynamicOrderSimulation`) as a state machine. -/
structure SimIface (σ α ω ι : Type) where
  n        : Nat
  learning : Aid → Bool
  reset    : σ → σ
  step     : σ → List (Aid × α) → σ
  obs      : σ → Aid → ω × σ
  reward   : σ → Aid → Int × σ
  done     : σ → Aid → Bool
  allDone  : σ → Bool
  info     : σ → Aid → ι
  next     : σ → List Aid
  /-- ghost: reward accrued for the agent and not yet read (accumulator simulations) -/
  pending  : σ → Aid → Int

inductive MKind where
  | allStep | turnBased | dynamic
deriving Repr, DecidableEq, Inhabited

structure MState (σ : Type) where
  sim      : σ
  doneSet  : List Aid
  ptr      : Nat          -- turn-based: index into the learner listing of the next `next(cycle)`
  shuffle  : Bool         -- all-step: randomize_action_input
  tape     : Tape

structure Out (ω ι : Type) where
  obs     : List (Aid × ω)
  rewards : List (Aid × Int)
  dones   : List (Aid × Bool)
  infos   : List (Aid × ι)
  allDone : Bool

variable {σ α ω ι : Type}

def SimIface.agents (S : SimIface σ α ω ι) : List Aid := List.range S.n
def SimIface.learners (S : SimIface σ α ω ι) : List Aid := S.agents.filter S.learning
def SimIface.nonLearners (S : SimIface σ α ω ι) : List Aid :=
  S.agents.filter (fun a => !S.learning a)

/-- `{a: sim.get_obs(a) for a in as}` -/
def readObs (S : SimIface σ α ω ι) (s : σ) : List Aid → List (Aid × ω) × σ
  | [] => ([], s)
  | a :: as =>
    let r := S.obs s a
    let rest := readObs S r.2 as
    ((a, r.1) :: rest.1, rest.2)

/-- `{a: sim.get_reward(a) for a in as}` -/
def readRewards (S : SimIface σ α ω ι) (s : σ) : List Aid → List (Aid × Int) × σ
  | [] => ([], s)
  | a :: as =>
    let r := S.reward s a
    let rest := readRewards S r.2 as
    ((a, r.1) :: rest.1, rest.2)

/-- Selection shuffle driven by the tape (the harness installs the same algorithm as
`random.shuffle`): repeatedly move element `v mod len` of what is left to the output. -/
def shuffleFuel : Nat → List β → Tape → List β × Tape
  | 0, l, t => (l, t)
  | _ + 1, [], t => ([], t)
  | k + 1, x :: xs, t =>
    let v := t.headD 0
    let i := v % (xs.length + 1)
    let l := x :: xs
    let pick := l.getD i x
    let rest := shuffleFuel k (l.eraseIdx i) t.tail
    (pick :: rest.1, rest.2)

def shuffle (l : List β) (t : Tape) : List β × Tape := shuffleFuel l.length l t

/-- the partial output accumulated while reporting agents one at a time
(turn-based and dynamic managers) -/
structure Acc (ω ι : Type) where
  obs     : List (Aid × ω) := []
  rewards : List (Aid × Int) := []
  dones   : List (Aid × Bool) := []
  infos   : List (Aid × ι) := []

/-- `obs[a] = get_obs(a); rewards[a] = get_reward(a); dones[a] = get_done(a); infos[a] = get_info(a)` -/
def report1 (S : SimIface σ α ω ι) (s : σ) (acc : Acc ω ι) (a : Aid) : Acc ω ι × σ :=
  let o := S.obs s a
  let r := S.reward o.2 a
  let s' := r.2
  ({ obs := acc.obs ++ [(a, o.1)], rewards := acc.rewards ++ [(a, r.1)],
     dones := acc.dones ++ [(a, S.done s' a)], infos := acc.infos ++ [(a, S.info s' a)] }, s')

/-- the flush at simulation finish: every agent not in `done_agents`, in listing order -/
def flush (S : SimIface σ α ω ι) (ds : List Aid) : σ → Acc ω ι → List Aid → Acc ω ι × σ
  | s, acc, [] => (acc, s)
  | s, acc, a :: as =>
    if a ∈ ds then flush S ds s acc as
    else
      let r := report1 S s acc a
      flush S ds r.2 r.1 as

structure SearchRes (σ ω ι : Type) where
  acc     : Acc ω ι
  sim     : σ
  ds      : List Aid
  allDone : Bool
  used    : Nat

/-- the turn-based manager's search for the next agent(s), over one rotation of the listing -/
def turnSearch (S : SimIface σ α ω ι) :
    List Aid → σ → List Aid → Acc ω ι → Nat → Option (SearchRes σ ω ι)
  | [], _, _, _, _ => none
  | a :: rest, s, ds, acc, k =>
    if a ∈ ds then turnSearch S rest s ds acc (k + 1)
    else if S.done s a then
      let r := report1 S s acc a
      let ds' := a :: ds
      if S.agents.all (fun b => decide (b ∈ ds')) then some ⟨r.1, r.2, ds', true, k + 1⟩
      else turnSearch S rest r.2 ds' r.1 (k + 1)
    else
      let r := report1 S s acc a
      some ⟨r.1, r.2, ds, false, k + 1⟩

/-- the dynamic-order manager's loop over the nominated agents (no `break` on a live agent) -/
def dynLoop (S : SimIface σ α ω ι) :
    List Aid → σ → List Aid → Acc ω ι → SearchRes σ ω ι
  | [], s, ds, acc => ⟨acc, s, ds, false, 0⟩
  | a :: rest, s, ds, acc =>
    if a ∈ ds then dynLoop S rest s ds acc
    else if S.done s a then
      let r := report1 S s acc a
      let ds' := a :: ds
      if S.agents.all (fun b => decide (b ∈ ds')) then ⟨r.1, r.2, ds', true, 0⟩
      else dynLoop S rest r.2 ds' r.1
    else
      let r := report1 S s acc a
      dynLoop S rest r.2 ds r.1

def rotate (l : List β) (k : Nat) : List β := l.drop k ++ l.take k

def mkOut (acc : Acc ω ι) (allDone : Bool) : Out ω ι :=
  { obs := acc.obs, rewards := acc.rewards, dones := acc.dones, infos := acc.infos,
    allDone := allDone }

def mgrInit (s : σ) (shuffle : Bool) (tape : Tape) : MState σ :=
  { sim := s, doneSet := [], ptr := 0, shuffle := shuffle, tape := tape }

/-- `reset`: returns the observation dictionary -/
def mgrReset (S : SimIface σ α ω ι) : MKind → MState σ → Except Err (List (Aid × ω) × MState σ)
  | .allStep, m =>
    let ds := S.nonLearners
    let s := S.reset m.sim
    let r := readObs S s (S.agents.filter (fun a => decide (a ∉ ds)))
    .ok (r.1, { m with sim := r.2, doneSet := ds, ptr := 0 })   -- (no turn pointer: model field inert)
  | .turnBased, m =>
    let ds := S.nonLearners
    let s := S.reset m.sim
    match S.learners with
    | [] => .error .crash                      -- `next()` on an empty cycle: StopIteration
    | a :: _ =>
      let o := S.obs s a
      .ok ([(a, o.1)], { m with sim := o.2, doneSet := ds, ptr := 1 % S.learners.length })
  | .dynamic, m =>
    let s := S.reset m.sim
    let r := readObs S s (S.next s)
    .ok (r.1, { m with sim := r.2, doneSet := [], ptr := 0 })

def mgrStep (S : SimIface σ α ω ι) (k : MKind) (m : MState σ) (acts : List (Aid × α)) :
    Except Err (Out ω ι × List (Aid × α) × MState σ) :=
  if acts.any (fun p => decide (p.1 ∈ m.doneSet)) then .error .rejected
  else match k with
  | .allStep =>
    let sh := if m.shuffle then shuffle acts m.tape else (acts, m.tape)
    let s1 := S.step m.sim sh.1
    let live := S.agents.filter (fun a => decide (a ∉ m.doneSet))
    let o := readObs S s1 live
    let r := readRewards S o.2 live
    let s3 := r.2
    let dones := live.map (fun a => (a, S.done s3 a))
    let infos := live.map (fun a => (a, S.info s3 a))
    let ds' := m.doneSet ++ (dones.filter (·.2)).map (·.1)
    let allDone := S.allDone s3 || S.agents.all (fun b => decide (b ∈ ds'))
    .ok ({ obs := o.1, rewards := r.1, dones := dones, infos := infos, allDone := allDone },
         sh.1, { m with sim := s3, doneSet := ds', tape := sh.2 })
  | .turnBased =>
    let s1 := S.step m.sim acts
    if S.allDone s1 then
      let r := flush S m.doneSet s1 {} S.agents
      .ok (mkOut r.1 true, acts, { m with sim := r.2 })
    else
      match turnSearch S (rotate S.learners m.ptr) s1 m.doneSet {} 0 with
      | none => .error .exhausted
      | some res =>
        .ok (mkOut res.acc res.allDone, acts,
             { m with sim := res.sim, doneSet := res.ds,
                      ptr := (m.ptr + res.used) % S.learners.length })
  | .dynamic =>
    let s1 := S.step m.sim acts
    if S.allDone s1 then
      let r := flush S m.doneSet s1 {} S.agents
      .ok (mkOut r.1 true, acts, { m with sim := r.2 })
    else
      let res := dynLoop S (S.next s1) s1 m.doneSet {}
      .ok (mkOut res.acc res.allDone, acts, { m with sim := res.sim, doneSet := res.ds })

/-! ## Histories and traces (with the ghost observations of the simulation) -/

inductive Op (α : Type) where
  | reset : Op α
  | step  : List (Aid × α) → Op α

/-- what the simulation looks like from outside after a manager call; on the implementation
side these are read from the scripted stub by non-mutating accessors -/
structure Ghost where
  simAllDone : Bool
  simDone    : List Bool      -- per agent
  pending    : List Int       -- per agent
  nominated  : List Aid
deriving Repr, DecidableEq

inductive Res (α ω ι : Type) where
  | resetOk : List (Aid × ω) → Res α ω ι
  | stepOk  : Out ω ι → Res α ω ι
  | err     : Err → Res α ω ι

structure Entry (α ω ι : Type) where
  op     : Op α
  res    : Res α ω ι
  /-- ghost: the argument `sim.step` was called with during this call, if it was called -/
  simArgs : Option (List (Aid × α))
  /-- ghost: `pending` just after `sim.step` and before any getter (accrual made visible);
      equals the previous `pending` when the simulation was not stepped -/
  accrued : List Int
  ghost  : Ghost

def ghostOf (S : SimIface σ α ω ι) (s : σ) : Ghost :=
  { simAllDone := S.allDone s, simDone := S.agents.map (S.done s),
    pending := S.agents.map (S.pending s), nominated := S.next s }

def runOp (S : SimIface σ α ω ι) (k : MKind) (m : MState σ) : Op α → Entry α ω ι × MState σ
  | .reset =>
    match mgrReset S k m with
    | .ok (o, m') =>
      (⟨.reset, .resetOk o, none, S.agents.map (S.pending (S.reset m.sim)), ghostOf S m'.sim⟩, m')
    | .error e => (⟨.reset, .err e, none, S.agents.map (S.pending m.sim), ghostOf S m.sim⟩, m)
  | .step acts =>
    match mgrStep S k m acts with
    | .ok (o, args, m') =>
      (⟨.step acts, .stepOk o, some args, S.agents.map (S.pending (S.step m.sim args)),
        ghostOf S m'.sim⟩, m')
    | .error e => (⟨.step acts, .err e, none, S.agents.map (S.pending m.sim), ghostOf S m.sim⟩, m)

def runOps (S : SimIface σ α ω ι) (k : MKind) : MState σ → List (Op α) → List (Entry α ω ι)
  | _, [] => []
  | m, op :: ops =>
    let r := runOp S k m op
    r.1 :: runOps S k r.2 ops

end Abmarl
