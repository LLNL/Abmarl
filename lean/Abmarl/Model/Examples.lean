import Abmarl.Model.GridSim
import Abmarl.Model.Smart
import Abmarl.Model.Observers
/-!
# The packaged example simulations that are built from built-in components

Transcribed statement by statement from `abmarl/examples/sim/`:

| `Which`        | class                          | file                          |
|----------------|--------------------------------|-------------------------------|
| `teamBattle`   | `TeamBattleSim`                | `team_battle_example.py`      |
| `predatorPrey` | `PredatorPreyResourcesSim`     | `predator_prey_resources.py`  |
| `mazeNav`      | `MazeNavigationSim`            | `maze_navigation.py`          |
| `multiMaze`    | `MultiMazeNavigationSim`       | `multi_maze_navigation.py`    |
| `traffic`      | `TrafficCorridorSimulation`    | `traffic_corridor.py`         |

together with what they inherit from `SmartGridWorldSimulation` (`gridworld/smart.py`): `reset`,
`get_obs`, `get_reward`, `get_done`, `get_all_done`, `get_info`.  Every component they call is an
existing model: the state components (`applyComps`, Model/Resets.lean), `MoveActor`
(`World.moveAct`), `BinaryAttackActor` (`processAttack`), the observers (`Observers.getObs`), the
done components (`Done.getDone`, `Done.getAllDone`), and the pieces of the smart simulation
(`anyLazy`, `mergeObs`, `dictSet` of Model/Smart.lean).  Only the glue is new.

**`ReachTheTargetSim`** (`reach_the_target.py`) is modelled in `Model/Reach.lean` on top of this file.  It
has hand-written done components (`TargetDone`, `OnlyAgentLeftDone`) and its `step` takes a runner off the
grid and sets `agent.active = False` while its health stays positive, which breaks the clause "active iff
health positive" of `WInv`: none of the C03 theorems (all stated for `WInv`) applies to the worlds its steps
produce; they are judged by `WInvWeak` at run time (see `Props/Reach.lean` for what is proved).
`MultiCorridor` and `MultiAgentGridSim`: `Model/Corridor.lean`, `Model/MultiGrid.lean`.

## State

`St` = the world (`World`: grid cells, per-agent state, static configuration), the reward dict
(`rewards`; `none` = the attribute does not exist yet: it is created by `reset`), and the rest of the
oracle tape (every random draw of every component call made by `reset` / `step` / `get_obs` is
popped from this ONE tape, in call order).  The classes keep nothing else between calls (the
component objects are stateless apart from the options in `Cfg`).

## Simplifications (all of them)

* **Rewards are integers in units of 1/100.**  Every accrual of the five classes is one of
  `±1`, `±0.1`, `−0.01`, i.e. `±100`, `±10`, `−1` units; the ledger holds the exact sum (a rational
  with denominator 100, kept as its numerator because `SimIface.reward` is `Int`-valued).
  Floating-point rounding of the real sums is **not** modelled.  Correspondence: the harness reads
  the real float `x`, takes `k = round(100·x)` and requires `|100·x − k| < 10⁻⁶` (the rounding error
  of a sum of fewer than 10⁴ such terms is below 10⁻¹¹; a value that is not within 10⁻⁶ of a
  multiple of 1/100 is reported as such, never rounded away), and compares `k` with the model.
* **Calls before the first successful `reset`** (`rewards = none`): the agents have no position
  yet and nearly every call of the real classes raises one exception or another; the model answers
  `GErr.other` to `step`, `get_obs`, `get_reward`, `get_done`, `get_all_done` alike.  No theorem
  and no correspondence case is about such a call.
* **A call that raises leaves the model state unchanged** and the history ends there (`runOps`, as
  `runGOps` does); the real object may have been changed half-way (e.g. the attack of the step that
  then fails has been applied).  The harness ends a history at the first exception and neither dumps
  nor compares what that call left.  What is modelled is *that* and *with which kind of exception*
  the real code raises.  (Before the repairs afc90bd, c275832, fce2c1d the model also carried the
  `ValueError` of `if not attacked_agents:` on a numpy array of two or more victims, the `KeyError` of
  `TeamBattleSim` for a killed entity without ledger entry and the non-accumulator `get_reward` of
  `MultiMazeNavigationSim` — findings C02-E2, C02-E3, C01-E1, found through this model.)
* **The action dict** is the list of its items in insertion order (that order is the loop order
  of `step`), keys are agent indices and are distinct (it is a Python dict); each value is the
  agent's own action dict `{'move': …, 'attack': …}` as the record `Act` — a key the agent's
  actors do not read is never looked at by the real code either, a *missing* key of a supported
  agent (a `KeyError` of the actor) is outside the model: the managers hand on members of the
  declared `Dict` space (C02).
* **`self._states` / `_observers` / `_dones` are Python sets**: `Cfg.observers`, `Cfg.dones` are in
  the iteration order read from the live object; the order of the state components is an argument
  of `reset` (as in `GOp.reset`) — `Cfg.comps` is the order the `SimIface` instance uses.  `none` =
  the attribute is unset (`if states:`), the getters' `assert hasattr(..)` then fails.
  `Smart.reset` of Model/Smart.lean could not be reused as it stands: its state components are
  pure functions, the real ones draw from the tape and may raise; the ledger part is the same
  (`zeroRewards`).
* `is_agent(agent)` is the input `Cfg.learning`; `isinstance(agent, MultiMazeNavigationAgent)` is
  membership in `Cfg.navs`; `self.agents['navigator']`, `self.agents['target']`
  (`MazeNavigationSim`) and `self.position_state.target_agent` (`MultiMazeNavigationSim`) are the
  indices `Cfg.navigator`, `Cfg.target`.
* `**kwargs` of `step` / `reset` / the getters are not modelled (the managers pass none).
* `get_info` returns `{}` for every agent: `Unit`.
* `render` is not modelled.

This file imports only Model files: it is linked into the compiled driver.
-/
namespace Abmarl
namespace Ex
open World

inductive Which where
  | teamBattle | predatorPrey | mazeNav | multiMaze | traffic
deriving Repr, DecidableEq, Inhabited

/-- one agent's action: the dict `{'move': …, 'attack': …}` -/
structure Act where
  move   : Pos := (0, 0)
  attack : AttackAct := .count 0
deriving Repr, DecidableEq, Inhabited

/-- the reward dict, in units of 1/100, as the list of its items -/
abbrev Ledger := List (Aid × Int)

/-- everything about a built simulation object that is not in the `World` -/
structure Cfg where
  which     : Which
  learning  : List Bool                          -- `is_agent`, per agent
  comps     : List StateComp                     -- state components, iteration order
  observers : Option (List Observers.Kind)       -- observer components, iteration order
  dones     : Option (List DoneComp)             -- done components, iteration order
  attack    : AttackCfg := ⟨.binary, [], false⟩  -- `BinaryAttackActor(attack_mapping, stacked_attacks)`
  navigator : Aid := 0
  target    : Aid := 0
  navs      : List Aid := []

structure St where
  w       : World
  rewards : Option Ledger := none
  tape    : Tape := []

def Cfg.isLearning (cfg : Cfg) (a : Aid) : Bool := cfg.learning.getD a false

/-- `{agent.id: 0 for agent in self.agents.values() if is_agent(agent)}` -/
def zeroRewards (cfg : Cfg) (n : Nat) : Ledger :=
  ((List.range n).filter cfg.isLearning).map fun a => (a, 0)

/-- `self.rewards[a] += x` (`-=`): the entry is read first — `KeyError` without one -/
def accrue (r : Ledger) (a : Aid) (x : Int) : Except GErr Ledger :=
  match r.lookup a with
  | none => .error .keyError
  | some v => .ok (dictSet r a (v + x))

/-- a `for` loop whose body may raise -/
def foldE {σ β : Type} (f : σ → β → Except GErr σ) : σ → List β → Except GErr σ
  | s, [] => .ok s
  | s, x :: xs =>
    match f s x with
    | .error e => .error e
    | .ok s' => foldE f s' xs

/-! ## `reset` -/

/-- `for state in self._states: state.reset()` (`MultiMazeNavigationSim`:
`self.position_state.reset()`), then the fresh reward dict.  `order` = the components in the order
in which they are reset. -/
def reset (cfg : Cfg) (order : List StateComp) (s : St) : Except GErr St :=
  if cfg.which != .multiMaze && order.isEmpty then .error .assertion      -- `assert hasattr(self, '_states')`
  else
    match applyComps order s.w s.tape with
    | .error e => .error e
    | .ok (w', t') => .ok { w := w', rewards := some (zeroRewards cfg w'.n), tape := t' }

/-! ## The getters that `step` uses too -/

/-- `SmartGridWorldSimulation.get_done` -/
def smartDone (cfg : Cfg) (w : World) (a : Aid) : Except GErr Bool :=
  match cfg.dones with
  | none => .error .assertion
  | some ds =>
    if a < w.n then anyLazy (fun c => Done.getDone c w a) ds
    else .error .keyError                                  -- `self.agents[agent_id]`

/-- `SmartGridWorldSimulation.get_all_done` -/
def smartAllDone (cfg : Cfg) (w : World) : Except GErr Bool :=
  match cfg.dones with
  | none => .error .assertion
  | some ds => anyLazy (fun c => Done.getAllDone c w) ds

/-- `np.all(self.navigator.position == self.target.position)` -/
def mazeDone (cfg : Cfg) (w : World) : Bool := decide (w.posOf cfg.navigator = w.posOf cfg.target)

/-- `MultiMazeNavigationSim.get_done` -/
def multiDone (cfg : Cfg) (w : World) (a : Aid) : Except GErr Bool :=
  if a < w.n then .ok (decide (w.posOf a = w.posOf cfg.target))       -- `np.array_equal`
  else .error .keyError

def doneW (cfg : Cfg) (w : World) (a : Aid) : Except GErr Bool :=
  match cfg.which with
  | .mazeNav => .ok (mazeDone cfg w)                       -- `return self.get_all_done()`
  | .multiMaze => multiDone cfg w a
  | _ => smartDone cfg w a

def allDoneW (cfg : Cfg) (w : World) : Except GErr Bool :=
  match cfg.which with
  | .mazeNav => .ok (mazeDone cfg w)
  | .multiMaze =>
    -- `all([self.get_done(agent.id) for agent in … if isinstance(agent, MultiMazeNavigationAgent)])`
    match Done.collect (multiDone cfg w) cfg.navs with
    | .error e => .error e
    | .ok l => .ok (l.all id)
  | _ => smartAllDone cfg w

/-! ## `step` -/

/-- what a loop of `step` carries along -/
structure PS where
  w : World
  r : Ledger
  t : Tape

/-- `TeamBattleSim`: `if not attacked_agent.active: if is_agent(victim): rewards[victim] -= 1;
rewards[attacker] += 1` -/
def teamKill (cfg : Cfg) (w : World) (a : Aid) (r : Ledger) (v : Aid) : Except GErr Ledger :=
  if !(w.stOf v).active then
    match (if cfg.isLearning v then accrue r v (-100) else .ok r) with
    | .error e => .error e
    | .ok r1 => accrue r1 a 100
  else .ok r

/-- `PredatorPreyResourcesSim`: `rewards[attacker] += 1; if is_agent(victim): rewards[victim] -= 1` -/
def preyKill (cfg : Cfg) (w : World) (a : Aid) (r : Ledger) (v : Aid) : Except GErr Ledger :=
  if !(w.stOf v).active then
    match accrue r a 100 with
    | .error e => .error e
    | .ok r1 => if cfg.isLearning v then accrue r1 v (-100) else .ok r1
  else .ok r

/-- one pass of the attack loop of `TeamBattleSim.step` / `PredatorPreyResourcesSim.step` -/
def attack1 (cfg : Cfg) (p : PS) (x : Aid × Act) : Except GErr PS :=
  if p.w.n ≤ x.1 then .error .keyError                      -- `agent = self.agents[agent_id]`
  else if (p.w.stOf x.1).active then                       -- `if agent.active:`
    match processAttack cfg.attack p.w x.1 x.2.attack p.t with
    | .error e => .error e
    | .ok ((status, H), w', t') =>
      if status then                                       -- attack was attempted
        if H.isEmpty then                                  -- `if len(attacked_agents) == 0:` attack failed
          (accrue p.r x.1 (-10)).map fun r => ⟨w', r, t'⟩
        else
          (foldE (if cfg.which == .predatorPrey then preyKill cfg w' x.1 else teamKill cfg w' x.1) p.r H).map
            fun r => ⟨w', r, t'⟩
      else .ok ⟨w', p.r, t'⟩
  else .ok p

/-- `move_result = self.move_actor.process_action(agent, action)`;
`if not move_result: self.rewards[agent.id] -= 0.1` (`None`, the answer for an agent that is not a
`MovingAgent`, is falsy too) -/
def moveAcc (p : PS) (a : Aid) (d : Pos) : Except GErr PS :=
  match p.w.moveAct a d with
  | .error e => .error e
  | .ok (res, w') =>
    if res = some true then .ok ⟨w', p.r, p.t⟩
    else (accrue p.r a (-10)).map fun r => ⟨w', r, p.t⟩

/-- one pass of the move loop of `TeamBattleSim.step` / `PredatorPreyResourcesSim.step` -/
def moveGuarded1 (p : PS) (x : Aid × Act) : Except GErr PS :=
  if p.w.n ≤ x.1 then .error .keyError
  else if (p.w.stOf x.1).active then moveAcc p x.1 x.2.move
  else .ok p

/-- `for agent_id in action_dict: self.rewards[agent_id] -= 0.01` -/
def entropy1 (p : PS) (x : Aid × Act) : Except GErr PS :=
  (accrue p.r x.1 (-1)).map fun r => ⟨p.w, r, p.t⟩

/-- `TeamBattleSim.step`, `PredatorPreyResourcesSim.step`: attacks, then moves, then the penalty -/
def stepBattle (cfg : Cfg) (p : PS) (acts : List (Aid × Act)) : Except GErr PS :=
  match foldE (attack1 cfg) p acts with
  | .error e => .error e
  | .ok p1 =>
    match foldE moveGuarded1 p1 acts with
    | .error e => .error e
    | .ok p2 => foldE entropy1 p2 acts

/-- `MazeNavigationSim.step` -/
def stepMaze (cfg : Cfg) (p : PS) (acts : List (Aid × Act)) : Except GErr PS :=
  match acts.lookup cfg.navigator with
  | none => .error .keyError                               -- `action_dict['navigator']`
  | some act =>
    match moveAcc p cfg.navigator act.move with            -- no `if agent.active`
    | .error e => .error e
    | .ok p1 =>
      match (if mazeDone cfg p1.w then accrue p1.r cfg.navigator 100 else .ok p1.r) with
      | .error e => .error e
      | .ok r1 => (accrue r1 cfg.navigator (-1)).map fun r => ⟨p1.w, r, p1.t⟩

/-- one pass of the loop of `MultiMazeNavigationSim.step`: the move, `if self.get_done(agent_id):
self.reward[agent_id] += 1`, the entropy penalty -/
def multi1 (cfg : Cfg) (p : PS) (x : Aid × Act) : Except GErr PS :=
  if p.w.n ≤ x.1 then .error .keyError
  else
    match moveAcc p x.1 x.2.move with                      -- no `if agent.active`
    | .error e => .error e
    | .ok p1 =>
      match multiDone cfg p1.w x.1 with                    -- `if self.get_done(agent_id):`
      | .error e => .error e
      | .ok d =>
        match (if d then accrue p1.r x.1 100 else .ok p1.r) with
        | .error e => .error e
        | .ok r1 => (accrue r1 x.1 (-1)).map fun r => ⟨p1.w, r, p1.t⟩

/-- one pass of the loop of `TrafficCorridorSimulation.step` -/
def traffic1 (cfg : Cfg) (p : PS) (x : Aid × Act) : Except GErr PS :=
  if p.w.n ≤ x.1 then .error .keyError
  else
    match moveAcc p x.1 x.2.move with                      -- no `if agent.active`
    | .error e => .error e
    | .ok p1 =>
      match smartDone cfg p1.w x.1 with                    -- `if self.get_done(agent_id):`
      | .error e => .error e
      | .ok true => (accrue p1.r x.1 100).map fun r => ⟨p1.w, r, p1.t⟩
      | .ok false => .ok p1

def stepPS (cfg : Cfg) (p : PS) (acts : List (Aid × Act)) : Except GErr PS :=
  match cfg.which with
  | .teamBattle | .predatorPrey => stepBattle cfg p acts
  | .mazeNav => stepMaze cfg p acts
  | .multiMaze => foldE (multi1 cfg) p acts
  | .traffic => foldE (traffic1 cfg) p acts

/-- `step(action_dict)` -/
def step (cfg : Cfg) (s : St) (acts : List (Aid × Act)) : Except GErr St :=
  match s.rewards with
  | none => .error .other
  | some r =>
    match stepPS cfg ⟨s.w, r, s.tape⟩ acts with
    | .error e => .error e
    | .ok p => .ok { w := p.w, rewards := some p.r, tape := p.t }

/-- the component calls `step` makes on the world, in call order (`examples_step_is_history`) -/
def stepOps (cfg : Cfg) (acts : List (Aid × Act)) : List GOp :=
  match cfg.which with
  | .teamBattle | .predatorPrey =>
    acts.map (fun x => GOp.attack cfg.attack x.1 x.2.attack) ++
    acts.map (fun x => GOp.move (.move x.1 x.2.move))
  | .mazeNav =>
    match acts.lookup cfg.navigator with
    | none => []
    | some act => [GOp.move (.move cfg.navigator act.move)]
  | .multiMaze | .traffic => acts.map (fun x => GOp.move (.move x.1 x.2.move))

/-! ## The getters -/

def getDone (cfg : Cfg) (s : St) (a : Aid) : Except GErr Bool :=
  match s.rewards with
  | none => .error .other
  | some _ => doneW cfg s.w a

def getAllDone (cfg : Cfg) (s : St) : Except GErr Bool :=
  match s.rewards with
  | none => .error .other
  | some _ => allDoneW cfg s.w

/-- the value `get_reward(a)` returns: `self.rewards[agent_id]` (`MultiMazeNavigationSim`:
`self.reward[agent_id]`) -/
def rewardVal (r : Ledger) (a : Aid) : Except GErr Int :=
  match r.lookup a with
  | none => .error .keyError
  | some x => .ok x

/-- `get_reward`: the value, then `self.rewards[agent_id] = 0` — the same in all five classes -/
def getReward (_cfg : Cfg) (s : St) (a : Aid) : Except GErr (Int × St) :=
  match s.rewards with
  | none => .error .other
  | some r =>
    match rewardVal r a with
    | .error e => .error e
    | .ok x => .ok (x, { s with rewards := some (dictSet r a 0) })

def keyOf : Observers.Kind → String
  | .absolute => "absolute_encoding"
  | .centered _ => "position_centered_encoding"
  | .stacked => "stacked_position_centered_encoding"
  | .position => "position"
  | .ammo => "ammo"

/-- the items of the dict an observer returns: `{self.key: obs}`, or `{}` for an unsupported agent -/
def itemsOf (k : Observers.Kind) : Observers.Obs → List (String × Observers.Obs)
  | .unsupported => []
  | o => [(keyOf k, o)]

/-- `observer.get_obs(agent)` for every observer in iteration order, on one tape -/
def obsOuts (w : World) (a : Aid) : List Observers.Kind → Tape →
    Except GErr (List (List (String × Observers.Obs)) × Tape)
  | [], t => .ok ([], t)
  | k :: ks, t =>
    match Observers.getObs w a k t with
    | .error e => .error e
    | .ok (o, t1) =>
      match obsOuts w a ks t1 with
      | .error e => .error e
      | .ok (rest, t2) => .ok (itemsOf k o :: rest, t2)

/-- `get_obs`: `{k: v for observer in self._observers for k, v in observer.get_obs(agent).items()}` -/
def getObs (cfg : Cfg) (s : St) (a : Aid) : Except GErr (List (String × Observers.Obs) × St) :=
  match s.rewards with
  | none => .error .other
  | some _ =>
    match cfg.observers with
    | none => .error .assertion
    | some ks =>
      if a < s.w.n then
        match obsOuts s.w a ks s.tape with
        | .error e => .error e
        | .ok (outs, t') => .ok (mergeObs outs, { s with tape := t' })
      else .error .keyError

/-! ## Histories and traces (what the driver runs and compares) -/

inductive EOp where
  | reset   (order : List StateComp) (tape : Tape)
  | step    (acts : List (Aid × Act)) (tape : Tape)
  | obs     (a : Aid) (tape : Tape)
  | rew     (a : Aid)
  | done    (a : Aid)
  | allDone

inductive ERes where
  | unit
  | int  (r : Int)
  | obs  (o : List (String × Observers.Obs))
  | bool (b : Bool)
  | err  (e : GErr)
deriving Repr, DecidableEq

/-- one call and what can be seen of the simulation afterwards (read without side effects) -/
structure EEntry where
  res     : ERes
  w       : World
  rewards : Option Ledger

def resOfBool : Except GErr Bool → ERes
  | .ok b => .bool b
  | .error e => .err e

/-- one call; the tape an operation carries replaces what was left (the harness scripts the oracle
anew for each call of a history) -/
def runOp (cfg : Cfg) (s : St) : EOp → EEntry × St
  | .reset order tape =>
    match reset cfg order { s with tape := tape } with
    | .ok s' => (⟨.unit, s'.w, s'.rewards⟩, s')
    | .error e => (⟨.err e, s.w, s.rewards⟩, s)
  | .step acts tape =>
    match step cfg { s with tape := tape } acts with
    | .ok s' => (⟨.unit, s'.w, s'.rewards⟩, s')
    | .error e => (⟨.err e, s.w, s.rewards⟩, s)
  | .obs a tape =>
    match getObs cfg { s with tape := tape } a with
    | .ok (o, s') => (⟨.obs o, s'.w, s'.rewards⟩, s')
    | .error e => (⟨.err e, s.w, s.rewards⟩, s)
  | .rew a =>
    match getReward cfg s a with
    | .ok (r, s') => (⟨.int r, s'.w, s'.rewards⟩, s')
    | .error e => (⟨.err e, s.w, s.rewards⟩, s)
  | .done a => (⟨resOfBool (getDone cfg s a), s.w, s.rewards⟩, s)
  | .allDone => (⟨resOfBool (getAllDone cfg s), s.w, s.rewards⟩, s)

def ERes.isErr : ERes → Bool
  | .err _ => true
  | _ => false

/-- a history; it ends with the first call that raises (the real object may have been changed
half-way: nothing after that is modelled) -/
def runOps (cfg : Cfg) : St → List EOp → List EEntry × St
  | s, [] => ([], s)
  | s, op :: ops =>
    let r := runOp cfg s op
    if r.1.res.isErr then ([r.1], r.2)
    else
      let rest := runOps cfg r.2 ops
      (r.1 :: rest.1, rest.2)

/-! ## The simulation as a `SimIface` (what the managers drive)

`SimIface` is total.  A call of the model that raises is answered by leaving the state unchanged
(see the header); a getter that raises is answered by the explicit values below — `done := false`,
reward `0`, the observation is the `Except` itself.  `Props/Examples.lean` shows that none of this
is ever used in a reachable state with actions of the declared spaces
(`examples_step_noRaise`, `examples_get_reward_total`, `examples_observations_in_space`,
`Ex.smartDone_ok` of `Lemmas/ExamplesNoRaise.lean`); a `reset` may genuinely fail (a placement state
that finds no cell). -/

abbrev ObsOut := Except GErr (List (String × Observers.Obs))

/-- what `get_reward` would deliver next (ghost of the manager theorems) -/
def pendingOf (_cfg : Cfg) (s : St) (a : Aid) : Int :=
  match s.rewards with
  | none => 0
  | some r =>
    match rewardVal r a with
    | .ok x => x
    | .error _ => 0

def toSimIface (cfg : Cfg) (n : Nat) : SimIface St Act ObsOut Unit where
  n := n
  learning := cfg.isLearning
  reset := fun s => match reset cfg cfg.comps s with | .ok s' => s' | .error _ => s
  step := fun s acts => match step cfg s acts with | .ok s' => s' | .error _ => s
  obs := fun s a => match getObs cfg s a with | .ok (o, s') => (.ok o, s') | .error e => (.error e, s)
  reward := fun s a => match getReward cfg s a with | .ok (x, s') => (x, s') | .error _ => (0, s)
  done := fun s a => match getDone cfg s a with | .ok b => b | .error _ => false
  allDone := fun s => match getAllDone cfg s with | .ok b => b | .error _ => false
  info := fun _ _ => ()
  next := fun _ => []
  pending := pendingOf cfg

end Ex
end Abmarl
