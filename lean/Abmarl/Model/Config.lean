/-!
# M3 `Config`, M2 `Box` — configuration validation, the overlap table, Box membership (C19)

Transcribed branch for branch from
* `abmarl/sim/agent_based_simulation.py`  (`PrincipleAgent`, `ActingAgent`, `ObservingAgent`,
  `AgentBasedSimulation.agents`, `finalize`),
* `abmarl/sim/gridworld/agent.py`        (every setter of every agent class),
* `abmarl/sim/gridworld/grid.py`         (`Grid.__init__`, the `overlapping` setter, `query`, `place`),
* `abmarl/sim/gridworld/actor.py`        (`attack_mapping`, `stacked_attacks`),
* `abmarl/sim/gridworld/done.py`         (the three `target_mapping` setters),
* `abmarl/sim/gridworld/state.py`        (`barrier_encodings`, `free_encodings`, the cover assertion in `reset`),
* `abmarl/sim/gridworld/base.py`         (`GridWorldBaseComponent.agents`),
* `abmarl/tools/gym_utils.py`            (`Box.contains`), and gymnasium's `Discrete.contains`
  (needed for the null points only).

Python values are a small universe `PyVal`.  The distinctions the setters make are kept:
`type(x) is int` holds for `PyVal.int` only (not for `bool`, not for numpy scalars), whereas
`x in {1, 2}`, `x in range(1, 5)`, `x == y` are numeric (so `True`, `1.0`, `np.int64(1)` all equal `1`).
Floats are exact rationals or one of `nan`, `+inf`, `-inf`.  numpy arrays carry a dtype tag, a shape
and their flat row-major values.

Where the real code raises, the model says so (`rejAssign`, `rejFinal`, `BoxOut.raises`);
inputs whose real behaviour is platform dependent or is string parsing are `unmodelled` and are
never fed by the harness (numeric strings such as `"1"` handed to `np.asarray(…, dtype=…)`, numpy
float scalars `nan/inf`/beyond int64 cast to an integer dtype, arrays nested inside lists).
-/
namespace Abmarl
namespace Cfg

/-! ## Python values -/

/-- an IEEE double: an exact rational (the harness feeds dyadic rationals only) or a special -/
inductive Flt where
  | fin (q : Rat)
  | nan
  | pinf
  | ninf
deriving DecidableEq, Repr, Inhabited

/-- numpy dtype tags (`int` is int64, `float` is float64; the other three stand for "anything else") -/
inductive DT where
  | i64 | f64 | i32 | f32 | bool
deriving DecidableEq, Repr, Inhabited

inductive PyVal where
  | none
  | bool (b : Bool)
  | int (i : Int)
  | float (f : Flt)
  | str (s : String)
  | list (l : List PyVal)
  | tuple (l : List PyVal)
  | set (l : List PyVal)
  | dict (l : List (PyVal × PyVal))
  | ndarray (dt : DT) (shape : List Nat) (vals : List Flt)
  | npInt (i : Int)                     -- `np.int64`
  | npFloat (f : Flt)                   -- `np.float64`
  | agent (gw : Bool) (id : String)     -- an agent object: `GridWorldAgent` (gw) or a plain `PrincipleAgent`
deriving Repr, Inhabited

def inI64 (i : Int) : Bool := decide (-9223372036854775808 ≤ i) && decide (i ≤ 9223372036854775807)

def b2i (b : Bool) : Int := if b then 1 else 0

/-- `x >= lo` for a double and an exact bound (`nan` compares false with everything) -/
def Flt.geR : Flt → Rat → Bool
  | .fin q, lo => decide (lo ≤ q)
  | .nan, _ => false
  | .pinf, _ => true
  | .ninf, _ => false

/-- `x <= hi` -/
def Flt.leR : Flt → Rat → Bool
  | .fin q, hi => decide (q ≤ hi)
  | .nan, _ => false
  | .pinf, _ => false
  | .ninf, _ => true

/-- `x > lo` -/
def Flt.gtR : Flt → Rat → Bool
  | .fin q, lo => decide (lo < q)
  | .nan, _ => false
  | .pinf, _ => true
  | .ninf, _ => false

/-- the value as an integer when it is one (`2.0 == 2`) -/
def Flt.asInt : Flt → Option Int
  | .fin q => if q.den = 1 then some q.num else none
  | _ => none

/-- the integer a *hashable* Python value equals, if any: what `x in {ints}`, `x in range(..)`
and `x == int` go by (`True == 1`, `1.0 == 1`, `np.int64(1) == 1`) -/
def numKey : PyVal → Option Int
  | .bool b => some (b2i b)
  | .int i => some i
  | .float f => f.asInt
  | .npInt i => some i
  | .npFloat f => f.asInt
  | _ => none

/-- `type(x) is int` -/
def isPyInt : PyVal → Bool
  | .int _ => true
  | _ => false

/-- `x in s` for a set (or dict keys) of ints -/
def pyIn (x : PyVal) (s : List Int) : Bool :=
  match numKey x with
  | some i => s.contains i
  | none => false

/-! ## Agent attributes (`abmarl/sim/agent_based_simulation.py`, `abmarl/sim/gridworld/agent.py`)

Each function answers "does the setter return normally?". -/

/-- `assert type(value) is str` -/
def acceptId : PyVal → Bool
  | .str _ => true
  | _ => false

/-- `assert value is None or type(value) is int` -/
def acceptSeed : PyVal → Bool
  | .none => true
  | .int _ => true
  | _ => false

/-- `assert type(value) is bool` (`active`, `blocking`, `stacked_attacks`, `no_overlap_at_reset`,
`randomize_placement_order`, `cluster_barriers`, `scatter_free_agents`) -/
def acceptFlag : PyVal → Bool
  | .bool _ => true
  | _ => false

/-- `if value is not None: assert type(value) is bool` (`sim_ends_if_one_done`) -/
def acceptOptFlag : PyVal → Bool
  | .none => true
  | .bool _ => true
  | _ => false

/-- `assert type(value) is int; assert value != -2; assert value != -1; assert value != 0` -/
def acceptEncoding : PyVal → Bool
  | .int i => decide (i ≠ -2) && decide (i ≠ -1) && decide (i ≠ 0)
  | _ => false

/-- `None`, or an `np.ndarray` of shape `(2,)` whose dtype is `int` or `float` -/
def acceptInitialPosition : PyVal → Bool
  | .none => true
  | .ndarray dt sh _ => (sh == [2]) && (dt == .i64 || dt == .f64)
  | _ => false

def renderShapes : List String :=
  ["o", "v", "^", "<", ">", "1", "2", "3", "4", "8", "s", "p", "P", "*", "h", "H", "+", "x", "X", "D", "d"]

/-- `assert value in [...]`: list membership goes by `==`; an array operand either compares
false or makes `bool()` raise — rejected both ways -/
def acceptRenderShape : PyVal → Bool
  | .str s => renderShapes.contains s
  | _ => false

/-- no validation at all -/
def acceptRenderColor : PyVal → Bool := fun _ => true

/-- `assert type(value) is int and value > 0` -/
def acceptRenderSize : PyVal → Bool
  | .int i => decide (0 < i)
  | _ => false

/-- `assert type(value) in [int, float]`, then the value is clamped (never rejected) -/
def acceptHealth : PyVal → Bool
  | .int _ => true
  | .float _ => true
  | _ => false

/-- what the `health` setter stores: `min(max(value, 0), 1)` (`nan` stays `nan`) -/
def clampHealth : Flt → Flt
  | .fin q => .fin (if q < 0 then 0 else if 1 < q then 1 else q)
  | .nan => .nan
  | .pinf => .fin 1
  | .ninf => .fin 0

/-- `if value is not None: assert type(value) in [int, float]; assert 0 < value <= 1` -/
def acceptInitialHealth : PyVal → Bool
  | .none => true
  | .int i => (Flt.fin i).gtR 0 && (Flt.fin i).leR 1
  | .float f => f.gtR 0 && f.leR 1
  | _ => false

/-- `assert (value == "FULL") or (type(value) is int and 0 <= value)`
(`view_range`, `move_range`, `attack_range`); `array == "FULL"` is an array whose truth value is
`False` or raises — rejected both ways -/
def acceptRange : PyVal → Bool
  | .str s => s == "FULL"
  | .int i => decide (0 ≤ i)
  | _ => false

/-- `assert type(value) in [int, float]; assert 0 <= value <= 1`
(`attack_strength`, `attack_accuracy`) -/
def acceptUnit : PyVal → Bool
  | .int i => (Flt.fin i).geR 0 && (Flt.fin i).leR 1
  | .float f => f.geR 0 && f.leR 1
  | _ => false

/-- `assert type(value) is int; assert value >= 0` -/
def acceptSimAttacks : PyVal → Bool
  | .int i => decide (0 ≤ i)
  | _ => false

/-- `assert type(value) is int` (`initial_ammo`; also the `ammo` setter, which then clamps below at 0) -/
def acceptAmmo : PyVal → Bool
  | .int _ => true
  | _ => false

def in1to4 (i : Int) : Bool := decide (1 ≤ i) && decide (i ≤ 4)

/-- `value in range(1, 5)`: numeric equality with one of 1..4; a one-element array compares
element-wise and its single truth value is used; other arrays raise -/
def inRange1to4 : PyVal → Bool
  | .ndarray _ _ [x] => (match x.asInt with | some i => in1to4 i | none => false)
  | v => (match numKey v with | some i => in1to4 i | none => false)

/-- `assert value in range(1, 5)` -/
def acceptOrientation : PyVal → Bool := inRange1to4

/-- `if value is not None: assert value in range(1, 5)` -/
def acceptInitialOrientation : PyVal → Bool
  | .none => true
  | v => inRange1to4 v

/-- `AgentBasedSimulation.agents` (`gwOnly = false`) and `GridWorldBaseComponent.agents`
(`gwOnly = true`): a dict, every value an agent (a `GridWorldAgent`), every key `==` the agent's id -/
def acceptAgentEntry (gwOnly : Bool) (kv : PyVal × PyVal) : Bool :=
  match kv.2 with
  | .agent gw id => (!gwOnly || gw) && (match kv.1 with | .str s => s == id | _ => false)
  | _ => false

def acceptAgents (gwOnly : Bool) : PyVal → Bool
  | .dict items => items.all (acceptAgentEntry gwOnly)
  | _ => false

/-! ## Component mappings (checked when assigned, i.e. in the component's constructor) -/

/-- one value of an encoding mapping: `type(v) is int` → `v in encodings`; `type(v) is set` → every
element in; anything else `TypeError` -/
def acceptEncTargets (encs : List Int) : PyVal → Bool
  | .int i => encs.contains i
  | .set elems => elems.all (pyIn · encs)
  | _ => false

/-- `AttackActorBaseComponent.attack_mapping` -/
def acceptAttackMapping (encs : List Int) : PyVal → Bool
  | .dict items => items.all fun kv => pyIn kv.1 encs && acceptEncTargets encs kv.2
  | _ => false

/-- `target != encoding` between two hashable values (numeric equality) -/
def pyNe (a b : PyVal) : Bool :=
  match numKey a, numKey b with
  | some x, some y => decide (x ≠ y)
  | _, _ => true

/-- the value side of `TargetEncodingInactiveDone.target_mapping` for the key `k` -/
def acceptTargetEncVal (encs : List Int) (k : PyVal) : PyVal → Bool
  | .int i => encs.contains i && pyNe (.int i) k
  | .set elems => elems.all fun te => pyIn te encs && pyNe te k
  | _ => false

def acceptTargetEncEntry (encs : List Int) (kv : PyVal × PyVal) : Bool :=
  pyIn kv.1 encs && acceptTargetEncVal encs kv.1 kv.2

/-- `TargetEncodingInactiveDone.target_mapping`: as `attack_mapping`, and nobody targets its own
encoding -/
def acceptTargetEncMapping (encs : List Int) : PyVal → Bool
  | .dict items => items.all (acceptTargetEncEntry encs)
  | _ => false

def strIn (x : PyVal) (ids : List String) : Bool :=
  match x with
  | .str s => ids.contains s
  | _ => false

/-- `TargetAgentOverlapDone.target_mapping`, `TargetAgentInactiveDone.target_mapping`: ids of agents -/
def acceptTargetIdMapping (ids : List String) : PyVal → Bool
  | .dict items => items.all fun kv => strIn kv.1 ids && strIn kv.2 ids
  | _ => false

/-- `barrier_encodings` / `free_encodings` of the two placement states: `None` → empty set -/
def acceptEncSet (encs : List Int) : PyVal → Bool
  | .none => true
  | v => acceptEncTargets encs v

/-- the elements of an accepted barrier/free value -/
def encSetElems : PyVal → List PyVal
  | .int i => [.int i]
  | .set elems => elems
  | _ => []

/-! ## Grid (`abmarl/sim/gridworld/grid.py`) -/

/-- `assert type(rows) is int and rows > 0` -/
def acceptGridDim : PyVal → Bool
  | .int i => decide (0 < i)
  | _ => false

/-- one value of the `overlapping` dict: `type(v) is int`, or a set whose elements all are -/
def acceptOverlapVal : PyVal → Bool
  | .int _ => true
  | .set elems => elems.all isPyInt
  | _ => false

/-- type validation of the `overlapping` argument -/
def acceptOverlapping : PyVal → Bool
  | .none => true
  | .dict items => items.all fun kv => isPyInt kv.1 && acceptOverlapVal kv.2
  | _ => false

/-- a validated overlap table as written by the user: int- or set-valued entries -/
inductive OvVal where
  | int (i : Int)
  | set (s : List Int)
deriving Repr, DecidableEq, Inhabited

abbrev RawTable := List (Int × OvVal)
/-- encoding ↦ set of encodings (sets are lists; association list in dict order) -/
abbrev Table := List (Int × List Int)

/-- `value[ndx] = {overlap_set}` for the int-valued entries -/
def normalise (raw : RawTable) : Table :=
  raw.map fun kv => (kv.1, match kv.2 with | .int i => [i] | .set s => s)

/-- `symmetric_value[k] = {v}` if `k` is a new key, else `symmetric_value[k].add(v)` -/
def addTo : Table → Int → Int → Table
  | [], k, v => [(k, [v])]
  | (k', s) :: rest, k, v =>
    if k' = k then (k', if s.contains v then s else s ++ [v]) :: rest
    else (k', s) :: addTo rest k v

/-- `for overlap_ndx in overlap_set: …[overlap_ndx] ∪= {ndx}` -/
def closeRow (acc : Table) (ndx : Int) : List Int → Table
  | [] => acc
  | o :: os => closeRow (addTo acc o ndx) ndx os

/-- `for ndx, overlap_set in value.items(): …` -/
def closeLoop (acc : Table) : Table → Table
  | [] => acc
  | (ndx, s) :: rest => closeLoop (closeRow acc ndx s) rest

/-- what the `overlapping` setter stores: `symmetric_value = {ndx: set(overlap_set) for …}` (a copy
of `value`), then the loop -/
def close (t : Table) : Table := closeLoop t t

def closeRaw (raw : RawTable) : Table := close (normalise raw)

/-- `other.encoding in self._overlapping[agent.encoding]`, a `KeyError` giving `False`: is there an
entry for `a` whose set contains `b`.  For a dict (distinct keys) this is the lookup
(`avail_eq_lookup`). -/
def avail (t : Table) (a b : Int) : Bool :=
  t.any fun e => e.1 == a && e.2.contains b

/-- `Grid.query` for an agent of encoding `a` on a cell whose occupants have the encodings `cell` -/
def query (t : Table) (a : Int) (cell : List Int) : Bool :=
  if cell.isEmpty then true else cell.all fun o => avail t a o

/-- `Grid.place`: the new cell content, `none` when the placement is refused -/
def place (t : Table) (a : Int) (cell : List Int) : Option (List Int) :=
  if query t a cell then some (cell ++ [a]) else none

/-- the availability matrix over a universe of encodings, row-major -/
def availMatrix (t : Table) (univ : List Int) : List (Int × Int × Bool) :=
  univ.flatMap fun a => univ.map fun b => (a, b, query t a [b])

/-! ## `abmarl.tools.gym_utils.Box.contains` -/

/-- a Box with scalar bounds (all Boxes Abmarl builds are of this kind) -/
structure BoxSp where
  isInt : Bool            -- dtype `int` (int64) or `float` (float64)
  shape : List Nat
  low : Rat
  high : Rat
deriving Repr, Inhabited

inductive BoxOut where
  | yes | no | raises | unmodelled
deriving DecidableEq, Repr, Inhabited

/-- result of `np.asarray(x, dtype=…)` -/
inductive AsArr where
  | ok (shape : List Nat) (vals : List Flt)
  | raises
  | unmodelled
deriving DecidableEq, Repr, Inhabited

/-- truncation towards zero: `int(1.9) = 1`, `int(-0.5) = 0` -/
def truncQ (q : Rat) : Int := Int.tdiv q.num q.den

/-- conversion of one non-sequence element by `np.asarray(…, dtype=int|float)` -/
def leafConv (isInt : Bool) : PyVal → AsArr
  | .bool b => .ok [] [.fin (b2i b)]
  | .int i => if isInt then (if inI64 i then .ok [] [.fin i] else .raises)   -- OverflowError
              else .ok [] [.fin i]
  | .float f =>
    if isInt then
      match f with
      | .fin q => if inI64 (truncQ q) then .ok [] [.fin (truncQ q)] else .raises  -- `int(x)` truncates
      | _ => .raises                       -- cannot convert float NaN / infinity to integer
    else .ok [] [f]
  | .npInt i => .ok [] [.fin i]
  | .npFloat f =>
    if isInt then
      match f with
      | .fin q => if inI64 (truncQ q) then .ok [] [.fin (truncQ q)] else .unmodelled  -- C cast
      | _ => .unmodelled
    else .ok [] [f]
  | .none => if isInt then .raises else .ok [] [.nan]     -- `float(None)` inside numpy gives nan
  | .str _ => .unmodelled                                -- numpy parses numeric strings
  | .ndarray _ _ _ => .unmodelled                        -- only reached for arrays nested in lists
  | .set _ => .raises
  | .dict _ => .raises
  | .agent _ _ => .raises
  | .list _ => .raises                                   -- not reached (`asArr` recurses)
  | .tuple _ => .raises

def AsArr.isOkShape (sh : List Nat) : AsArr → Bool
  | .ok sh' _ => sh' == sh
  | _ => false

def AsArr.valsOf : AsArr → List Flt
  | .ok _ vs => vs
  | _ => []

/-- a sequence of converted children: all the same shape, else numpy's "inhomogeneous shape" error -/
def combine (rs : List AsArr) : AsArr :=
  if rs.any (· == .unmodelled) then .unmodelled
  else if rs.any (· == .raises) then .raises
  else match rs with
    | [] => .ok [0] []
    | .ok sh _ :: _ =>
      if rs.all (AsArr.isOkShape sh) then .ok (rs.length :: sh) (rs.flatMap AsArr.valsOf)
      else .raises
    | _ => .raises

mutual
/-- `np.asarray(x, dtype=self.dtype)` for anything that is not already an array -/
def asArr (isInt : Bool) : PyVal → AsArr
  | .list l => combine (asArrs isInt l)
  | .tuple l => combine (asArrs isInt l)
  | v => leafConv isInt v
def asArrs (isInt : Bool) : List PyVal → List AsArr
  | [] => []
  | v :: vs => asArr isInt v :: asArrs isInt vs
end

/-- `np.can_cast(src, box dtype)` under numpy's default "safe" rule -/
def canCast (src : DT) (toInt : Bool) : Bool :=
  if toInt then (src == .i64 || src == .i32 || src == .bool) else true

/-- `bool(np.can_cast(x.dtype, self.dtype) and x.shape == self.shape and
np.all(x >= self.low) and np.all(x <= self.high))` -/
def boxTest (b : BoxSp) (dt : DT) (sh : List Nat) (vals : List Flt) : BoxOut :=
  if canCast dt b.isInt && (sh == b.shape) && vals.all (·.geR b.low) && vals.all (·.leR b.high)
  then .yes else .no

def boxDT (b : BoxSp) : DT := if b.isInt then .i64 else .f64

/-- did the conversion of this element to an integer dtype change its value: only a finite float
that is not whole is altered by `int(x)` (bools, ints and whole floats compare equal afterwards) -/
def leafChanged : PyVal → Bool
  | .float (.fin q) => decide (((truncQ q : Int) : Rat) ≠ q)
  | .npFloat (.fin q) => decide (((truncQ q : Int) : Rat) ≠ q)
  | _ => false

mutual
/-- `not np.array_equal(np.asarray(x, dtype=int), np.asarray(x))` for a value whose conversion
succeeded: some element was changed by the cast (shapes agree, so it is element-wise) -/
def castChanged : PyVal → Bool
  | .list l => castChangedL l
  | .tuple l => castChangedL l
  | v => leafChanged v
def castChangedL : List PyVal → Bool
  | [] => false
  | v :: vs => castChanged v || castChangedL vs
end

def boxContains (b : BoxSp) (v : PyVal) : BoxOut :=
  match v with
  | .int i =>                       -- `type(x) is int`: `np.array([x], dtype=int)`
    if inI64 i then boxTest b .i64 [1] [.fin i] else .raises
  | .float f => boxTest b .f64 [1] [f]      -- `type(x) is float`: `np.array([x], dtype=float)`
  | .ndarray dt sh vals => boxTest b dt sh vals
  | v =>                            -- `original = x; x = np.asarray(x, dtype=self.dtype)`
    match asArr b.isInt v with
    | .ok sh vals =>
      -- since 9e72b84: `if self.dtype.kind in 'iu' and not np.array_equal(x, np.asarray(original)):
      --                   return False`
      if b.isInt && castChanged v then .no
      else boxTest b (boxDT b) sh vals
    | .raises => .raises
    | .unmodelled => .unmodelled

/-! ## gymnasium's `Discrete(n).contains` (start = 0), for the null points -/

def inDiscrete (n : Nat) (i : Int) : BoxOut := if decide (0 ≤ i) && decide (i < n) then .yes else .no

def discreteContains (n : Nat) : PyVal → BoxOut
  | .bool b => inDiscrete n (b2i b)                       -- `isinstance(True, int)`
  | .int i => if inI64 i then inDiscrete n i else .raises   -- `np.int64(x)` overflows
  | .npInt i => inDiscrete n i
  | .ndarray dt [] [x] =>                                 -- integer dtype and shape `()`
    if dt == .i64 || dt == .i32 then
      (match x.asInt with | some i => inDiscrete n i | none => .no)
    else .no
  | _ => .no

inductive Space where
  | discrete (n : Nat)
  | box (b : BoxSp)
deriving Repr, Inhabited

def spaceContains : Space → PyVal → BoxOut
  | .discrete n, v => discreteContains n v
  | .box b, v => boxContains b v

/-! ## Outcomes -/

inductive Outcome where
  | accepted      -- the value was taken, and finalize/reset did not object either
  | rejAssign     -- the constructor / setter raised
  | rejFinal      -- accepted when supplied, `finalize()` / `reset()` raised
  | unmodelled
deriving DecidableEq, Repr, Inhabited

/-- is this what the setter stores for "no null point given": `None` becomes `{}`, and `finalize`
skips the membership assertion exactly when `type(x) is dict and len(x) == 0` -/
def noNullPoint : PyVal → Bool
  | .none => true
  | .dict [] => true
  | _ => false

/-- `null_action` / `null_observation`: the setter takes anything (`None` becomes `{}`);
`finalize` does (since fc3584a)
`if not (type(self.null_action) is dict and len(self.null_action) == 0):
     assert self.null_action in self.action_space`
so falsy points (`0`, `0.0`, `False`, `""`, `[]`, …) are checked like any other -/
def nullOutcome (sp : Space) (v : PyVal) : Outcome :=
  if noNullPoint v then .accepted
  else
    match spaceContains sp v with
    | .yes => .accepted
    | .no => .rejFinal
    | .raises => .rejFinal          -- `x in space` itself raised (TypeError, ValueError, OverflowError)
    | .unmodelled => .unmodelled

/-- barrier and free encodings together: both setters at construction, then `reset` asserts
`agent.encoding in {*barrier_encodings, *free_encodings}` for every agent, and builds
`ravelled_positions_available = {**{e: … for e in barrier}, **{e: … for e in free}}`, whose setter
asserts `type(encoding) is int` for every key (so `{1.0}` passes the constructor and fails here);
a free element equal to a barrier element lands on the barrier's key object -/
def barrierFreeOutcome (encs : List Int) (bv fv : PyVal) : Outcome :=
  if !(acceptEncSet encs bv && acceptEncSet encs fv) then .rejAssign
  else
    let bs := encSetElems bv
    let fs := encSetElems fv
    if !(encs.all (((bs ++ fs).filterMap numKey).contains ·)) then .rejFinal
    else
      let keys := bs ++ fs.filter fun e => !((bs.map numKey).contains (numKey e))
      if !(keys.all isPyInt) then .rejFinal else .accepted

inductive Attr where
  | id | seed | active | flag | optFlag | encoding | initialPosition
  | renderShape | renderColor | renderSize | health | initialHealth
  | range | unit | simAttacks | initialAmmo | ammo | orientation | initialOrientation
  | nullPoint | agentsSim | agentsComp
  | attackMapping | targetEncMapping | targetIdMapping | encSet | barrierFree
  | gridDim | overlapping
deriving DecidableEq, Repr, Inhabited

/-- what the value is checked against -/
structure Ctx where
  encs : List Int := []          -- encodings of the agents in the simulation
  ids : List String := []        -- ids of the agents in the simulation
  space : Space := .discrete 0   -- the agent's action / observation space (null points)
deriving Repr, Inhabited

/-- acceptance at assignment -/
def accepts (a : Attr) (c : Ctx) (v : PyVal) : Bool :=
  match a with
  | .id => acceptId v
  | .seed => acceptSeed v
  | .active => acceptFlag v
  | .flag => acceptFlag v
  | .optFlag => acceptOptFlag v
  | .encoding => acceptEncoding v
  | .initialPosition => acceptInitialPosition v
  | .renderShape => acceptRenderShape v
  | .renderColor => acceptRenderColor v
  | .renderSize => acceptRenderSize v
  | .health => acceptHealth v
  | .initialHealth => acceptInitialHealth v
  | .range => acceptRange v
  | .unit => acceptUnit v
  | .simAttacks => acceptSimAttacks v
  | .initialAmmo => acceptAmmo v
  | .ammo => acceptAmmo v
  | .orientation => acceptOrientation v
  | .initialOrientation => acceptInitialOrientation v
  | .nullPoint => true
  | .agentsSim => acceptAgents false v
  | .agentsComp => acceptAgents true v
  | .attackMapping => acceptAttackMapping c.encs v
  | .targetEncMapping => acceptTargetEncMapping c.encs v
  | .targetIdMapping => acceptTargetIdMapping c.ids v
  | .encSet => acceptEncSet c.encs v
  | .barrierFree =>
    (match v with
     | .tuple [bv, fv] => acceptEncSet c.encs bv && acceptEncSet c.encs fv
     | _ => false)
  | .gridDim => acceptGridDim v
  | .overlapping => acceptOverlapping v

/-- accepted / rejected when supplied / rejected at finalize (reset) -/
def outcome (a : Attr) (c : Ctx) (v : PyVal) : Outcome :=
  match a with
  | .nullPoint => nullOutcome c.space v
  | .barrierFree =>
    (match v with
     | .tuple [bv, fv] => barrierFreeOutcome c.encs bv fv
     | _ => .rejAssign)
  | a => if accepts a c v then .accepted else .rejAssign

end Cfg
end Abmarl
