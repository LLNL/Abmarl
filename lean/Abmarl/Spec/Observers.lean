import Abmarl.Model.Observers
import Abmarl.Spec.Mask
import Abmarl.Spec.Grid
/-!
# Decidable specification for C09 (the five built-in grid observers)

Written from the property text, cell by cell, over the *inputs* (world, agent, option) and the
*observable outcome* (the observation) only — no model function of `Model/Observers.lean` is
called (only the type `Obs` of observations and the world accessors are shared):

* a cell is **hidden** iff some blocking, active agent within the view window has it in its
  shadow by the documented rule `Mask.hiddenSpec` of C10 (`hiddenFrom`; it ranges over *all*
  agents of the simulation — an agent standing on the viewer's cell, the viewer included, has no
  direction and no shadow: `Mask.blocker_on_viewer_ignored`);
* **centred views** (window `(2R+1)²`, entry `[i, j]` is the cell `pos + (i−R, j−R)`):
  −2 ⇔ hidden; −1 ⇔ visible and outside the grid; 0 ⇔ visible, inside, and no *reportable*
  occupant (all occupants, or all occupants except the observer when `observe_self` is off);
  any other value is the encoding of some reportable occupant of exactly that cell;
* **absolute view** (array `rows × cols`, entry `[gi, gj]` **is** the grid cell `(gi, gj)`; its
  offset from the observer is `(gi − r, gj − c)`): −2 ⇔ masked = outside the view window or
  hidden; −1 ⇔ not masked and the observer is among the occupants of the cell; 0 ⇔ not masked
  and empty; any other value is the encoding of an occupant *other than the observer*.
  "Own cell" is deliberately "the observer is among the occupants": a **dead** observer (asked for
  one last observation) is on no cell and sees no −1 (`absolute_dead_observer_no_minus_one` in
  `Props/C09.lean`), an active one sees it exactly at its position (`absolute_own_cell`);
* **stacked view** (shape `(2R+1, 2R+1, E)`, `E` = largest encoding in the simulation): entry
  `[i, j, e]` is −2 ⇔ hidden, −1 ⇔ visible and outside the grid, and otherwise **equals** the
  number of occupants of the cell whose encoding is `e + 1` (the observer counts like everybody
  else) — uniformly in `e` for the two markers;
* position observer: the agent's `pos`; ammunition observer: the agent's `ammo`;
* an agent the observer does not support gets `{}` (`Obs.unsupported`).

`declared` holds the declared observation spaces (`Box(-2, max encoding, shape)`,
`Box(-2, number of agents, shape)`, `Box([0,0],[rows-1,cols-1])`, `Box(0, initial_ammo, (1,))`);
they are C02's clause, proved in `Props/C09.lean` (`*_in_declared_space`) as consequences of the
specification and evaluated by the driver on both outcomes.
-/
namespace Abmarl
namespace Observers
open World

/-! ## Arrays -/

/-- `g` is an `n × m` array every entry `[i, j]` of which satisfies `p i j` -/
def specTab {β : Type} (n m : Nat) (p : Nat → Nat → β → Bool) (g : List (List β)) : Bool :=
  (g.length == n) &&
  (List.range n).all fun i =>
    match g[i]? with
    | none => false
    | some row =>
      (row.length == m) &&
      (List.range m).all fun j =>
        match row[j]? with
        | none => false
        | some v => p i j v

/-! ## Hidden cells (C10's rule, over the agents of the world) -/

/-- offset of agent `b` from the observer `a` -/
def offsetOf (w : World) (a b : Aid) : Pos :=
  ((w.stOf b).pos.1 - (w.stOf a).pos.1, (w.stOf b).pos.2 - (w.stOf a).pos.2)

/-- the cell at offset `(r, c)` from the observer is hidden behind a blocking agent -/
def hiddenFrom (w : World) (a : Aid) (R : Nat) (r c : Int) : Bool :=
  w.allAgents.any fun b =>
    (w.cfgOf b).blocking && (w.stOf b).active &&
    Mask.inWin R (offsetOf w a b).1 && Mask.inWin R (offsetOf w a b).2 &&
    Mask.hiddenSpec (offsetOf w a b).1 (offsetOf w a b).2 r c

/-! ## One cell -/

/-- centred view, one cell: `rep` = the reportable occupants of the cell (`[]` outside the grid) -/
def cenCellOK (w : World) (hidden inG : Bool) (rep : List Aid) (v : Int) : Bool :=
  ((v == -2) == hidden) &&
  ((v == -1) == (!hidden && !inG)) &&
  ((v == 0) == (!hidden && inG && rep.isEmpty)) &&
  (v == -2 || v == -1 || v == 0 || rep.any fun b => w.encOf b == v)

/-- absolute view, one grid cell with occupants `occ` -/
def absCellOK (w : World) (a : Aid) (masked : Bool) (occ : List Aid) (v : Int) : Bool :=
  ((v == -2) == masked) &&
  ((v == -1) == (!masked && occ.contains a)) &&
  ((v == 0) == (!masked && occ.isEmpty)) &&
  (v == -2 || v == -1 || v == 0 || occ.any fun b => b != a && w.encOf b == v)

/-- stacked view, one entry: layer `e` is about encoding `e + 1` -/
def stkCellOK (w : World) (hidden inG : Bool) (occ : List Aid) (e : Nat) (v : Int) : Bool :=
  ((v == -2) == hidden) &&
  ((v == -1) == (!hidden && !inG)) &&
  (hidden || !inG || v == ((occ.countP fun b => w.encOf b == (e : Int) + 1 : Nat) : Int))

/-! ## The five judges -/

/-- grid coordinate of entry `[i, j]` of a window of range `R` centred on `p` -/
def winPos (p : Pos) (R : Nat) (i j : Nat) : Pos := (p.1 + ((i : Int) - (R : Int)), p.2 + ((j : Int) - (R : Int)))

/-- occupants that may be reported from the in-grid cell `q` -/
def reportable (w : World) (a : Aid) (observeSelf : Bool) (q : Pos) : List Aid :=
  if observeSelf then w.cell q else (w.cell q).filter fun b => b != a

def specCentered (w : World) (a : Aid) (observeSelf : Bool) (o : Obs) : Bool :=
  if (w.cfgOf a).observing then
    match o with
    | .grid g =>
      let R := (w.cfgOf a).viewRange
      let p := (w.stOf a).pos
      specTab (2*R+1) (2*R+1) (fun i j v =>
        let q := winPos p R i j
        cenCellOK w (hiddenFrom w a R ((i : Int) - (R : Int)) ((j : Int) - (R : Int))) (w.inGrid q)
          (if w.inGrid q then reportable w a observeSelf q else []) v) g
    | _ => false
  else o == .unsupported

def specAbsolute (w : World) (a : Aid) (o : Obs) : Bool :=
  if (w.cfgOf a).observing then
    match o with
    | .grid g =>
      let R := (w.cfgOf a).viewRange
      let p := (w.stOf a).pos
      specTab w.rows w.cols (fun gi gj v =>
        let r : Int := (gi : Int) - p.1
        let c : Int := (gj : Int) - p.2
        absCellOK w a (!(Mask.inWin R r && Mask.inWin R c) || hiddenFrom w a R r c)
          (w.cell ((gi : Int), (gj : Int))) v) g
    | _ => false
  else o == .unsupported

/-- the largest encoding of the simulation, read off the agents (`none` if there is no agent) -/
def topEnc (w : World) : Option Int :=
  w.cfg.foldl (fun m c => match m with
    | none => some c.enc
    | some x => some (if x < c.enc then c.enc else x)) none

def specStacked (w : World) (a : Aid) (o : Obs) : Bool :=
  if (w.cfgOf a).observing then
    match o, topEnc w with
    | .stack g, some E =>
      let R := (w.cfgOf a).viewRange
      let p := (w.stOf a).pos
      specTab (2*R+1) (2*R+1) (fun i j layers =>
        let q := winPos p R i j
        (layers.length == E.toNat) &&
        (List.range E.toNat).all fun e =>
          match layers[e]? with
          | none => false
          | some v =>
            stkCellOK w (hiddenFrom w a R ((i : Int) - (R : Int)) ((j : Int) - (R : Int))) (w.inGrid q)
              (if w.inGrid q then w.cell q else []) e v) g
    | _, _ => false
  else o == .unsupported

def specPosition (w : World) (a : Aid) (o : Obs) : Bool :=
  if (w.cfgOf a).observing then o == .vec (w.stOf a).pos else o == .unsupported

def specAmmo (w : World) (a : Aid) (o : Obs) : Bool :=
  if (w.cfgOf a).hasAmmo && (w.cfgOf a).observing then o == .scalar (w.stOf a).ammo
  else o == .unsupported

/-- **C09** judged on the outcome of one `get_obs` call (an exception is never acceptable) -/
def specC09 (w : World) (a : Aid) (k : Kind) (out : Except GErr Obs) : Bool :=
  match out with
  | .error _ => false
  | .ok o =>
    match k with
    | .absolute => specAbsolute w a o
    | .centered os => specCentered w a os o
    | .stacked => specStacked w a o
    | .position => specPosition w a o
    | .ammo => specAmmo w a o

/-! ## Declared observation spaces (C02's clause for the observers) -/

def inBox2 (lo hi : Int) (n m : Nat) (g : List (List Int)) : Bool :=
  specTab n m (fun _ _ v => decide (lo ≤ v) && decide (v ≤ hi)) g

def declared (w : World) (a : Aid) (k : Kind) (o : Obs) : Bool :=
  match o with
  | .unsupported => true
  | .grid g =>
    (match k, topEnc w with
     | .absolute, some E => inBox2 (-2) E w.rows w.cols g
     | .centered _, some E => inBox2 (-2) E (2*(w.cfgOf a).viewRange+1) (2*(w.cfgOf a).viewRange+1) g
     | _, _ => false)
  | .stack g =>
    (match k, topEnc w with
     | .stacked, some E =>
       specTab (2*(w.cfgOf a).viewRange+1) (2*(w.cfgOf a).viewRange+1)
         (fun _ _ layers => (layers.length == E.toNat) &&
            layers.all fun v => decide (-2 ≤ v) && decide (v ≤ (w.n : Int))) g
     | _, _ => false)
  | .vec p =>
    (match k with
     | .position => decide (0 ≤ p.1) && decide (p.1 ≤ (w.rows : Int) - 1) &&
                    decide (0 ≤ p.2) && decide (p.2 ≤ (w.cols : Int) - 1)
     | _ => false)
  | .scalar v =>
    (match k with
     | .ammo => decide (0 ≤ v) && decide (v ≤ (w.cfgOf a).initAmmo)
     | _ => false)

end Observers
end Abmarl
