import Abmarl.Spec.Observers
import Abmarl.Spec.Attacks
import Abmarl.Spec.Spaces
import Abmarl.Model.SuperAgent
import Abmarl.Model.Comm
/-!
# C02 — declared null points and wrapper layers (definitions, no library import)

Next to `Observers.declared` (the declared observation spaces, `Spec/Observers.lean`),
`MoveCall.inSpace` (`Spec/Grid.lean`) and `World.inSpace` (`Spec/Attacks.lean`) this file holds
what C02 adds:

* `Observers.nullObs` — the null observation each observer's constructor assigns under its key
  (`observer.py`: `-2 * np.ones(shape)` of the declared shape for the three grid views,
  `np.zeros((2,))` for the position, `0` for the ammunition);
* `nullMove` / `nullCross` / `nullDrift` / `nullAttack` — the null action each actor's
  constructor assigns (`actor.py`: `np.zeros((2,))`, `0`, `0`; Binary `0`, EncodingBased
  `{e: 0 for e in attackable}`, Selective `np.zeros((W, W))`, RestrictedSelective
  `np.zeros((simultaneous_attacks,))`);
* the four wrappers as transformations of one agent's `(declared space, observation)` pair over
  `Space` / `Pt` (`Model/Spaces.lean`):
  `MLayer.ravel` (`RavelDiscreteWrapper`: `ravel_space`, `ravel`), `MLayer.flatten`
  (`FlattenWrapper`: `flatten_space`, `flatten`; the flattened Box as a `Space` is
  `FlatBox.toSpace`), `commSpace` / `commPt` (`CommunicationHandshakeWrapper`:
  `{'obs': …, 'message_buffer': {other: Discrete(2)}}`), `superSpace` / `superPt`
  (`SuperAgentWrapper`: `{'mask': {c: MultiBinary(1)}, c: obs_c}`), and `stackRun`, a stack of
  unary layers applied one after the other.

A Python `bool` is a Python `int` (gymnasium's `Discrete.contains` / `MultiBinary.contains` accept
`False` / `[False]`), so the bits of a message buffer and of a mask are the integers 0 / 1.
Dict keys are abstract numbers here (`Model/Spaces.lean`); the two layers that add keys take them
as parameters and list them in the same order in the space and in the point.
-/
namespace Abmarl

/-! ## Null observations -/

namespace Observers
open World

/-- the null observation the observer of kind `k` assigns to a supported agent `a` -/
def nullObs (w : World) (a : Aid) : Kind → Obs
  | .absolute => .grid (tab w.rows w.cols fun _ _ => -2)
  | .centered _ =>
    .grid (tab (2*(w.cfgOf a).viewRange+1) (2*(w.cfgOf a).viewRange+1) fun _ _ => -2)
  | .stacked =>
    .stack (tab (2*(w.cfgOf a).viewRange+1) (2*(w.cfgOf a).viewRange+1) fun _ _ =>
      List.replicate (maxEnc w).toNat (-2))
  | .position => .vec (0, 0)
  | .ammo => .scalar 0

end Observers

/-! ## Null actions -/

def nullMove (a : Aid) : MoveCall := .move a (0, 0)
def nullCross (a : Aid) : MoveCall := .cross a 0
def nullDrift (a : Aid) : MoveCall := .drift a 0

open World in
/-- the null action the attack actor `cfg` assigns to the attacking agent `a` -/
def nullAttack (cfg : AttackCfg) (w : World) (a : Aid) : AttackAct :=
  match cfg.kind with
  | .binary => .count 0
  | .encoding => .perEnc (((cfg.mapping.lookup (w.encOf a)).getD []).map fun e => (e, 0))
  | .selective =>
    .grid (List.replicate ((2 * (w.cfgOf a).attackRange + 1) * (2 * (w.cfgOf a).attackRange + 1)) 0)
  | .restricted => .cells (List.replicate (w.cfgOf a).simAttacks 0)

/-! ## Wrapper layers over `Space` / `Pt` -/

/-- `ceil` through `floor` (only `Rat.floor` is needed) -/
def ratCeil (q : Rat) : Int := -(Rat.floor (-q))

/-- the flattened Box as a `Space`: a float Box when its dtype is float, otherwise the integer Box
with the same integer points (an integer lies in `[lo, hi]` iff it lies in `[⌈lo⌉, ⌊hi⌋]`) -/
def FlatBox.toSpace (b : FlatBox) : Space :=
  if b.kind = .f then .fbox [b.lo.length] b.lo b.hi
  else .box [b.lo.length] (b.lo.map ratCeil) (b.hi.map Rat.floor) (decide (b.kind = .i64))

/-- one wrapper, at one `get_obs` call, as a map on `(declared space, observation)` -/
structure MLayer where
  space : Space → Option Space
  point : Space → Pt → Option Pt

/-- `RavelDiscreteWrapper`: `ravel_space(space)`, `ravel(space, obs)` -/
def MLayer.ravel : MLayer :=
  { space := ravelSpace, point := fun s p => (Abmarl.ravel s p).map fun v => .scalar (.int v) }

/-- `FlattenWrapper`: `flatten_space(space)`, `flatten(space, obs)` -/
def MLayer.flatten : MLayer :=
  { space := fun s => (flattenSpace s).map FlatBox.toSpace,
    point := fun s p => (Abmarl.flatten s p).map .arr }

def bitPt (b : Bool) : Pt := .scalar (.int (if b then 1 else 0))
def bitArr (b : Bool) : Pt := .arr [.int (if b then 1 else 0)]

/-- `Dict({'message_buffer': Dict({other: Discrete(2)}), 'obs': inner})`; `kb`, `ko` are the two keys -/
def commSpace (kb ko : Nat) (oth : List Nat) (s : Space) : Space :=
  .dict [kb, ko] [.dict oth (oth.map fun _ => .discrete 2 0), s]

/-- `{'message_buffer': {other: bit}, 'obs': obs}` -/
def commPt (kb ko : Nat) (buffer : List (Nat × Bool)) (p : Pt) : Pt :=
  .dict [kb, ko] [.dict (buffer.map (·.1)) (buffer.map fun q => bitPt q.2), p]

/-- `CommunicationHandshakeWrapper` for one agent at one call (`oth` = the other agents, `buffer` =
its row of the message buffer) -/
def MLayer.comm (kb ko : Nat) (oth : List Nat) (buffer : List (Nat × Bool)) : MLayer :=
  { space := fun s => some (commSpace kb ko oth s), point := fun _ p => some (commPt kb ko buffer p) }

/-- the wrapped observation of the model of C20 as a point -/
def commPtOf (kb ko : Nat) (o : CObs Pt) : Pt := commPt kb ko o.buffer o.obs

/-- `Dict({'mask': Dict({c: MultiBinary(1)}), c: space_c …})`; `km` is the key of the mask -/
def superSpace (km : Nat) (cov : List Nat) (sp : Nat → Space) : Space :=
  .dict (km :: cov) (.dict cov (cov.map fun _ => .multiBinary 1) :: cov.map sp)

/-- `{'mask': {c: [bit]}, c: obs_c …}` -/
def superPt (km : Nat) (mask : List (Nat × Bool)) (obs : List (Nat × Pt)) : Pt :=
  .dict (km :: obs.map (·.1)) (.dict (mask.map (·.1)) (mask.map fun q => bitArr q.2) :: obs.map (·.2))

/-- the super observation of the model of C14 as a point (an uncovered agent's observation is
handed through) -/
def superPtOf (km : Nat) : SObs Pt → Pt
  | .plain p => p
  | .super mask obs => superPt km mask obs

/-- a stack of unary layers, innermost first: each layer reads the space declared by the one below -/
def stackRun : List MLayer → Space → Pt → Option (Space × Pt)
  | [], s, p => some (s, p)
  | L :: Ls, s, p =>
    match L.space s, L.point s p with
    | some s', some p' => stackRun Ls s' p'
    | _, _ => none

/-- a layer keeps membership on the spaces `dom` accepts -/
def MLayer.Sound (L : MLayer) (dom : Space → Prop) : Prop :=
  ∀ s p, dom s → mem s p = true →
    ∃ s' p', L.space s = some s' ∧ L.point s p = some p' ∧ mem s' p' = true

/-- every layer of the stack meets a space of its domain -/
def stackDom : List (MLayer × (Space → Prop)) → Space → Prop
  | [], _ => True
  | (L, dom) :: Ls, s => dom s ∧ ∀ s', L.space s = some s' → stackDom Ls s'

end Abmarl
