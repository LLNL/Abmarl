import Abmarl.Model.Builders
/-!
# Decidable specification for C18 (all builders produce the same simulation)

Nothing here looks at how the model computes: only the inputs (layout, registry, extra agents,
file text) and the observable outcomes (grid size, agents with encodings and initial positions,
positions after reset).

The documented rule, as an independent definition (`layoutAgents`): reading the layout row by
row, every entry whose character is registered yields one agent; the agent made for the entry
with flat index `i` is numbered by how many earlier entries hold the same character (so the k-th
occurrence gets number k, counted from 0, per character), has the registered encoding and the
initial position `(i / cols, i % cols)`; every other entry (reserved or unregistered) yields
nothing.  Extra agents are kept unless a layout agent has the same id (`keptExtras`).
The dictionary order of the outcome is *not* part of the property: outcomes are compared as
finite maps id ↦ (encoding, initial position).
-/
namespace Abmarl
namespace Builders

/-- the agents the layout prescribes, in reading order -/
def layoutAgents (reg : Registry) (cols : Nat) (cells : List Nat) : List Agent :=
  cells.zipIdx.filterMap fun p =>
    (reg.lookup p.1).map fun enc =>
      { id := .gen p.1 ((cells.take p.2).count p.1), enc := enc, ipos := some (p.2 / cols, p.2 % cols) }

/-- extra agents survive unless the layout produces an agent with the same id -/
def keptExtras (lay extras : List Agent) : List Agent :=
  extras.filter fun e => !(lay.any fun l => decide (l.id = e.id))

def expectedAgents (reg : Registry) (cols : Nat) (cells : List Nat) (extras : List Agent) : List Agent :=
  layoutAgents reg cols cells ++ keptExtras (layoutAgents reg cols cells) extras

def sameAgents (a b : List Agent) : Bool :=
  a.all (fun x => decide (x ∈ b)) && b.all (fun x => decide (x ∈ a))

def idsNodup (a : List Agent) : Bool := decide (a.map (·.id)).Nodup

/-- one builder's outcome is the simulation the layout prescribes -/
def specBuild (rows cols : Nat) (cells : List Nat) (reg : Registry) (extras : List Agent) :
    Except Err Sim → Bool
  | .error _ => false
  | .ok sim =>
    sim.rows == rows && sim.cols == cols && idsNodup sim.agents &&
      sameAgents (expectedAgents reg cols cells extras) sim.agents

/-- two builders produced the same simulation: same size, same agents (as finite maps
id ↦ encoding, initial position) -/
def specSame : Except Err Sim → Except Err Sim → Bool
  | .ok a, .ok b =>
    a.rows == b.rows && a.cols == b.cols && idsNodup a.agents && idsNodup b.agents &&
      sameAgents a.agents b.agents
  | _, _ => false

/-- after reset every layout agent stands where the layout put it; a failing reset is only
excusable by surviving extra agents (they may claim a layout cell or fill the grid) or by a
simulation without any agent -/
def specReset (reg : Registry) (cols : Nat) (cells : List Nat) (extras : List Agent) :
    Except Err (List (AId × Pos)) → Bool
  | .ok placed =>
    (layoutAgents reg cols cells).all fun l =>
      match l.ipos with
      | some p => decide ((l.id, p) ∈ placed)
      | none => false
  | .error _ =>
    (layoutAgents reg cols cells).isEmpty || !(keptExtras (layoutAgents reg cols cells) extras).isEmpty

/-- the documented empty markers: zero, period, underscore -/
def reservedChar (c : Nat) : Bool := c == 48 || c == 46 || c == 95

def regReserved (reg : Registry) : Bool := reg.any fun p => reservedChar p.1

def isReservedErr : Except Err Sim → Bool
  | .error .reservedKey => true
  | _ => false

/-- the file really holds the layout: one line per row, single spaces, optional final newline -/
def isRendering (rows cols : Nat) (cells text : List Nat) : Bool :=
  decide (text = render rows cols cells) || decide (text = render rows cols cells ++ [10])

/-- the clauses of C18, in a fixed order (the driver reports them one by one):
0. a registry that registers an empty marker is rejected by the array and file builders;
1.–4. the array / file / grid / direct outcome is the prescribed simulation (array, file: or the
   rejection of clause 0 when the registry registers an empty marker; file: only when the text is a
   rendering of the layout, `isRendering`);
5. the four outcomes are the same simulation (excused when the array builder rejected such a
   registry; the file outcome only when the text is a rendering);
6. after reset of the array-built simulation every layout agent is on its layout cell. -/
def specClauses (rows cols : Nat) (cells : List Nat) (reg : Registry) (extras : List Agent)
    (text : List Nat) (o : Outcomes) : List Bool :=
  let res := regReserved reg
  let sb := specBuild rows cols cells reg extras
  let isR := isRendering rows cols cells text
  [ !res || (isReservedErr o.array && isReservedErr o.file),
    (res && isReservedErr o.array) || sb o.array,
    !isR || (res && isReservedErr o.file) || sb o.file,
    sb o.grid,
    sb o.direct,
    (res && isReservedErr o.array) ||
      (specSame o.array o.grid && specSame o.array o.direct && (!isR || specSame o.array o.file)),
    match o.array with
    | .ok _ => specReset reg cols cells extras o.reset
    | .error _ => true ]

def specC18 (rows cols : Nat) (cells : List Nat) (reg : Registry) (extras : List Agent)
    (text : List Nat) (o : Outcomes) : Bool :=
  (specClauses rows cols cells reg extras text o).all id

/-- the grid that holds the given agents: a fresh grid, `reset()`, then every agent placed on its
initial position in listing order (what `Grid.place` appends to the cell's dictionary) -/
def gridOfAgents (rows cols : Nat) (as : List Agent) : GridCells :=
  (List.range (rows * cols)).map fun i =>
    some (as.filter fun a => decide (a.ipos = some (i / cols, i % cols)))

end Builders
end Abmarl
