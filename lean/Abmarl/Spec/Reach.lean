import Abmarl.Model.Reach
import Abmarl.Spec.Examples
/-!
# Decidable judge for `ReachTheTargetSim` histories (`gexample` with configuration `(reach …)`)

As `Ex.specEx` (Spec/Examples.lean), with the differences of the class:

* the world after a `reset` satisfies the whole invariant `WInv` (everybody is revived by
  `HealthState`), the world after a `step` only `WInvWeak` (a runner that reached the target is taken
  off the grid and deactivated by hand, its health stays positive);
* the done getters return the class's own rule (`RT.doneW`, `RT.onlyLeft`) on the dumped world;
* **a `step` that must not raise** (`stepMustNotRaise`) — every item a point of the declared action space of a
  learning agent of the simulation (alive or not), distinct keys, a world satisfying `WInvWeak`, a reward entry for every
  learning agent: nothing else (since the repairs 856b778 / c7ca573 of findings R1 / R2 the class no longer raises for a
  runner killed on the target's cell or for a killed entity without reward entry).  This clause is evaluated on the
  implementation's trace (runtime); for the model it is proved for every world, reachable or not
  (`reach_stepMustNotRaise_returns`, Props/Reach.lean).
-/
namespace Abmarl
namespace RT
open World Ex Observers

def actInSpace (cfg : Cfg) (w : World) (x : Aid × Act) : Bool :=
  decide (x.1 < w.n) && (MoveCall.move x.1 x.2.move).inSpace w &&
  (!(w.cfgOf x.1).attacking || inSpace cfg.attack w x.1 x.2.attack)

def stepMustNotRaise (cfg : Cfg) (w : World) (r : Ledger) (acts : List (Aid × Act)) : Bool :=
  w.WInvWeak && acts.all (actInSpace cfg w) && keysNodup acts &&
  acts.all (fun x => cfg.isLearning x.1) && ledgerFullb cfg.toEx w.n r

def judge1 (cfg : Cfg) (w0 : World) (j : J) (op : EOp) (e : EEntry) : Bool :=
  match e.res with
  | .err _ =>
    (match op, j.rewards with
     | .step acts _, some r => !(stepMustNotRaise cfg j.w r acts)
     | _, _ => true)
  | res =>
    match op with
    | .reset _ _ =>
      (res == .unit) && e.w.WInv && frameb w0 e.w && (e.rewards == some (zeroRewards cfg.toEx e.w.n))
    | .step _ _ =>
      (res == .unit) && e.w.WInvWeak && frameb w0 e.w &&
      (match j.rewards, e.rewards with
       | some r, some r' => r'.map (·.1) == r.map (·.1)
       | _, _ => false)
    | .obs a _ =>
      (e.w == j.w) && (e.rewards == j.rewards) &&
      (match res with
       | .obs o => obsInSpace e.w a [.centered cfg.observeSelf] o
       | _ => false)
    | .rew a =>
      (e.w == j.w) &&
      (match res, j.rewards, e.rewards with
       | .int x, some r, some r' => (r' == dictSet r a 0) && (r.lookup a == some x)
       | _, _, _ => false)
    | .done a => (e.w == j.w) && (e.rewards == j.rewards) && (res == Ex.resOfBool (doneW cfg j.w a))
    | .allDone => (e.w == j.w) && (e.rewards == j.rewards) && (res == .bool (onlyLeft cfg j.w))

def specFrom (cfg : Cfg) (w0 : World) : J → List (EOp × EEntry) → Bool
  | _, [] => true
  | j, (op, e) :: rest =>
    judge1 cfg w0 j op e &&
    (match e.res with
     | .err _ => rest.isEmpty
     | _ => specFrom cfg w0 ⟨e.w, e.rewards⟩ rest)

/-- **the judge** -/
def specRT (cfg : Cfg) (w0 : World) (tr : List (EOp × EEntry)) : Bool := specFrom cfg w0 ⟨w0, none⟩ tr

/-- the world as the constructors leave it, the history starts with a reset, every reset in the class's
order with a covered placement state -/
def rtPre (cfg : Cfg) (w0 : World) (ops : List EOp) : Bool :=
  cfgOKb w0 && w0.vitalsAlive && noAmmoCb w0 &&
  w0.allAgents.all (fun b => decide (0 < w0.encOf b) && decide (0 ≤ (w0.cfgOf b).initAmmo)) &&
  (match ops with | .reset _ _ :: _ => true | _ => false) &&
  ops.all fun op =>
    match op with
    | .reset order _ => resetOKb cfg.toEx w0 order
    | _ => true

end RT
end Abmarl
