import Abmarl.Model.Placement
import Abmarl.Spec.Grid
/-!
# Decidable specification of C13: placement at reset, and mazes

`specPlacement kind opts pre tape out` judges the **outcome** of a reset (`out.err`, `out.post`)
against the inputs.  It never looks at availability lists: what was available to an agent when
it was placed is recomputed from the overlap rule (`joinOK`, the rule of `Grid.query`) on the
cell table as it was at that moment, which is reconstructed from the outcome itself by putting
the agents back, one by one, in the order the options, the listing and the tape prescribe
(`replay`).  The only model functions used are the tape consumers (`shuffle`), and, for the maze
state, `generateMaze` for *the* maze of this reset; `specMaze` judges any maze separately.

`specMaze rows cols start m`: `m` is a `rows × cols` table of 0/1, the start is a passage, and a
flood fill from the start through 4-adjacent passages reaches every passage.
-/
namespace Abmarl
open World

/-! ## mazes -/
namespace Maze

/-- one round of the flood fill over the flat `rows × cols` maze: a passage cell is marked if it
was marked already or one of its 4-neighbours inside the grid was -/
def floodStep (rows cols : Nat) (m : List Nat) (marks : List Bool) : List Bool :=
  (List.range (rows * cols)).map fun i =>
    marks.getD i false ||
    (m.getD i 1 == 0 &&
      ((decide (0 < i / cols) && marks.getD (i - cols) false) ||
       (decide (i / cols + 1 < rows) && marks.getD (i + cols) false) ||
       (decide (0 < i % cols) && marks.getD (i - 1) false) ||
       (decide (i % cols + 1 < cols) && marks.getD (i + 1) false)))

/-- rounds of the flood fill, stopping early at a fixed point -/
def flood (rows cols : Nat) (m : List Nat) : Nat → List Bool → List Bool
  | 0, marks => marks
  | k + 1, marks =>
    let marks' := floodStep rows cols m marks
    if marks' == marks then marks else flood rows cols m k marks'

def startIdx (cols : Nat) (start : Pos) : Nat := start.1.toNat * cols + start.2.toNat

/-- **maze part of C13** -/
def specMaze (rows cols : Nat) (start : Pos) (m : List Nat) : Bool :=
  (m.length == rows * cols) && m.all (fun v => decide (v ≤ 1)) &&
  decide (0 ≤ start.1) && decide (start.1 < rows) && decide (0 ≤ start.2) && decide (start.2 < cols) &&
  (m.getD (startIdx cols start) 1 == 0) &&
  (let marks0 := (List.range (rows * cols)).map fun i => i == startIdx cols start
   let marks := flood rows cols m (fuelFor rows cols) marks0
   (List.range (rows * cols)).all fun i => m.getD i 1 != 0 || marks.getD i false)

end Maze

/-! ## placement -/

/-- the target of a target/maze state is placed by the state itself, before everybody else -/
def isTargetRole (kind : PKind) (o : PlaceOpts) (a : Aid) : Bool := kind != .position && a == o.target

def isFixed (w : World) (a : Aid) : Bool := (w.cfgOf a).initPos.isSome

/-- the order in which a reset places the agents: the target (target/maze states), then the
agents with an initial position, then the others — both groups in listing order, or in the order
of the tape-driven shuffle of the listing -/
def placementOrder (kind : PKind) (o : PlaceOpts) (w : World) (t : Tape) : List Aid :=
  let l := if o.randomize then (shuffle w.allAgents t).1 else w.allAgents
  (if kind == .position then [] else [o.target]) ++
  l.filter (fun a => !isTargetRole kind o a && isFixed w a) ++
  l.filter (fun a => !isTargetRole kind o a && !isFixed w a)

/-- the tape as it is when the maze is generated: after the shuffle and after the two draws of a
random target position -/
def mazeTape (o : PlaceOpts) (w : World) (t : Tape) : Tape :=
  let t1 := if o.randomize then (shuffle w.allAgents t).2 else t
  if isFixed w o.target then t1 else t1.tail.tail

/-- the overlap rule on a cell table (`Grid.query`): an agent of encoding `e` may join cell `c` iff
it may overlap with everybody who is there -/
def joinOK (w : World) (cells : List (List Aid)) (e : Int) (c : Nat) : Bool :=
  (cells.getD c []).all fun b => w.pairOK e (w.encOf b)

/-- a cell is *available* to encoding `e`: joinable; with no-overlap-at-reset, empty -/
def availRule (w : World) (no : Bool) (cells : List (List Aid)) (e : Int) (c : Nat) : Bool :=
  if no then (cells.getD c []).isEmpty else joinOK w cells e c

/-- maze state: barrier encodings belong on wall cells, free encodings on passage cells -/
def baseOK (kind : PKind) (o : PlaceOpts) (mz : List Nat) (e : Int) (c : Nat) : Bool :=
  kind != .maze ||
  ((!o.barrier.contains e || mz.getD c 1 == 1) && (!o.free.contains e || mz.getD c 1 == 0))

/-- is the agent somewhere in the grid? -/
def placedIn (w : World) (a : Aid) : Bool := w.cells.any fun c => c.contains a

/-- what the property demands of agent `a` standing at its position of the outcome `w'`, given
the cell table `cells` as it was when `a` was placed -/
def stepOK (kind : PKind) (o : PlaceOpts) (w' : World) (mz : List Nat) (cells : List (List Aid))
    (a : Aid) : Bool :=
  let p := (w'.stOf a).pos
  let k := w'.idx p
  let e := w'.encOf a
  let tpos := (w'.stOf o.target).pos
  -- inside the grid, on a cell it may share with everybody there, and not there already
  w'.inGrid p && joinOK w' cells e k && !(cells.any fun c => c.contains a) &&
  (match (w'.cfgOf a).initPos with
   | some q => p == q                                   -- on its initial position
   | none =>
     isTargetRole kind o a ||
     ((!o.noOverlap || (cells.getD k []).isEmpty) &&    -- alone when it is placed
      baseOK kind o mz e k &&                            -- wall / passage
      (!(kind != .position && o.useLast e) ||            -- cluster / scatter
        w'.allCells.all fun c =>
          !(baseOK kind o mz e c && availRule w' o.noOverlap cells e c) ||
          (if o.barrier.contains e && o.cluster then
             decide (sqDist p tpos ≤ sqDist (w'.unravel c) tpos)
           else decide (sqDist (w'.unravel c) tpos ≤ sqDist p tpos)))))

/-- the reason of a failure at agent `a` (the first agent that is not in the grid) holds:
* `assertion`: the encodings of the simulation are not covered by barrier ∪ free (nobody placed
  yet), or the cell of `a`'s initial position cannot be joined;
* `noCell`: `a` is placed freely and no cell at all was available to its encoding. -/
def errJustified (kind : PKind) (o : PlaceOpts) (w' : World) (mz : List Nat)
    (cells : List (List Aid)) (a : Aid) (err : Option GErr) : Bool :=
  let e := w'.encOf a
  match err with
  | some .assertion =>
    if isTargetRole kind o a then !(w'.cfg.all fun c => (o.barrier ++ o.free).contains c.enc)
    else
      match (w'.cfgOf a).initPos with
      | some q => w'.inGrid q && !joinOK w' cells e (w'.idx q)
      | none => false
  | some .noCell =>
    !isTargetRole kind o a && !isFixed w' a &&
    w'.allCells.all fun c => !(baseOK kind o mz e c && availRule w' o.noOverlap cells e c)
  | _ => false

/-- put `a` back into the cell of its position -/
def putCell (w' : World) (cells : List (List Aid)) (a : Aid) : List (List Aid) :=
  cells.set (w'.idx (w'.stOf a).pos) (cells.getD (w'.idx (w'.stOf a).pos) [] ++ [a])

/-- walk through the placement order, rebuilding the cell table from the outcome: every agent
that is in the grid must satisfy `stepOK` at its moment; the first agent that is not in the grid
ends the walk — then nothing else may be in the grid and the error must be justified; if everybody
is in the grid the reset must have succeeded and the rebuilt table is the outcome's table -/
def replay (kind : PKind) (o : PlaceOpts) (w' : World) (mz : List Nat) (err : Option GErr) :
    List Aid → List (List Aid) → Bool
  | [], cells => err.isNone && cells == w'.cells
  | a :: rest, cells =>
    if placedIn w' a then
      stepOK kind o w' mz cells a && replay kind o w' mz err rest (putCell w' cells a)
    else cells == w'.cells && errJustified kind o w' mz cells a err

namespace World

/-- position part of the C03 invariant, cell side: whoever is stored in cell `i` is a real agent
whose position is that cell, once; co-occupants may pairwise overlap -/
def posCell (w : World) (i : Nat) : Bool :=
  let c := w.cells.getD i []
  decide c.Nodup &&
  c.all (fun a => decide (a < w.n) && w.inGrid (w.stOf a).pos && (w.idx (w.stOf a).pos == i)) &&
  c.all (fun a => c.all (fun b => a == b || w.pairOK (w.encOf a) (w.encOf b)))

/-- position part of the C03 invariant, agent side (after a reset every agent is in the grid) -/
def posAgent (w : World) (a : Aid) : Bool :=
  w.inGrid (w.stOf a).pos && decide (a ∈ w.cell (w.stOf a).pos)

def posInv (w : World) : Bool :=
  w.wShape && w.allCells.all w.posCell && w.allAgents.all w.posAgent

end World

/-- the reset does not touch the static part of the world -/
def sameGrid (w w' : World) : Bool :=
  (w.rows == w'.rows) && (w.cols == w'.cols) && (w.overlap == w'.overlap) && (w.cfg == w'.cfg)

/-- health, activity, ammunition and orientation are other components' business -/
def vitalsKept (w w' : World) : Bool :=
  w.allAgents.all fun a => w'.stOf a == { w.stOf a with pos := (w'.stOf a).pos }

/-- agents with an initial position stand on it -/
def fixedOnInit (w' : World) : Bool :=
  w'.allAgents.all fun a =>
    match (w'.cfgOf a).initPos with
    | some q => (w'.stOf a).pos == q
    | none => true

/-- with no-overlap-at-reset every agent without an initial position is alone on its cell -/
def aloneFinal (o : PlaceOpts) (w' : World) : Bool :=
  !o.noOverlap ||
  w'.allAgents.all fun a => isFixed w' a || (w'.cell (w'.stOf a).pos == [a])

/-- the maze of this reset: generated at the target's position from the tape after the shuffle
and the target draws (the empty list if that fails, which `specMaze` then rejects) -/
def mazeOf (kind : PKind) (o : PlaceOpts) (w : World) (t : Tape) (w' : World) : List Nat :=
  if kind == .maze then
    match Maze.generateMaze w'.rows w'.cols (w'.stOf o.target).pos (mazeTape o w t) with
    | .ok r => r.1
    | .error _ => []
  else []

/-- **C13** judged on the outcome of a reset -/
def specPlacement (kind : PKind) (o : PlaceOpts) (w : World) (t : Tape) (out : PlaceOut) : Bool :=
  let w' := out.post
  let mz := mazeOf kind o w t w'
  sameGrid w w' && w'.wShape && vitalsKept w w' &&
  -- success: the position invariant, initial positions, aloneness; a connected maze
  (out.err.isSome ||
    (w'.posInv && fixedOnInit w' && aloneFinal o w' &&
     (kind != .maze || Maze.specMaze w'.rows w'.cols (w'.stOf o.target).pos mz))) &&
  -- every agent legal at its moment; a failure is explicit and justified
  replay kind o w' mz out.err (placementOrder kind o w t) (List.replicate (w.rows * w.cols) [])

/-- decidable well-formedness of the inputs of a reset — the hypothesis of the C13 theorems.
Positive grid, at least one agent (O8), one state per agent, a symmetric overlap table (C19),
initial positions inside the grid, positive encodings for `PositionState` (O6); for the target and
maze states: the target is an agent, no encoding is both barrier and free, and — finding C13-K1 —
with no-overlap-at-reset a target that is placed at random is not joined by an agent that has an
initial position (no such agent may overlap with the target). -/
def wfPlacement (kind : PKind) (o : PlaceOpts) (w : World) : Bool :=
  decide (0 < w.rows) && decide (0 < w.cols) && decide (0 < w.n) && (w.st.length == w.cfg.length) &&
  w.wOverlapSym &&
  w.allAgents.all (fun a =>
    (kind != .position || decide (1 ≤ w.encOf a)) &&
    (match (w.cfgOf a).initPos with | some q => w.inGrid q | none => true)) &&
  (kind == .position ||
    (decide (o.target < w.n) && o.barrier.all (fun e => !o.free.contains e) &&
     (!o.noOverlap || isFixed w o.target ||
       w.allAgents.all fun b =>
         b == o.target || !isFixed w b || !w.pairOK (w.encOf b) (w.encOf o.target))))

end Abmarl
