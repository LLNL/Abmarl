import Abmarl.Model.Comm
/-!
# Decidable trace specification for C20 (communication handshake)

`specC20` judges a *call trace* of the wrapper (`CEntry`s: reset / step / get_obs with the ghost
observations of the wrapped stub and of the wrapper's two dictionaries).  Everything it expects is
computed from the **history of calls alone** (`expBuffer`, `expFuse`, recursion over the past calls,
most recent first) — never from the model's state:

* `expBuffer past x y` — reading of DESIGN.md §5 C20: after a step, `buffer[x][y]` is true iff `y`
  acted in *that* step and chose to send to `x`; `get_obs` calls in between do not change it; it is
  false after a reset (and before the first one).
* `expFuse past x y` — `fuse[x][y]` is true iff at `x`'s *most recent action in this episode* the
  message from `y` was pending (`expBuffer` of the calls before that step) and `x` chose to receive
  it; false before `x`'s first action of the episode; agents that do not act in a step keep their row.

Calls outside the domain end the obligation (as a step after `__all__` does for C01): any call but
`reset` before the first reset, `get_obs` of an unknown agent, and a step whose action dictionary is
not well formed (`actsWF`: known acting agents, `send` addressed to other known agents, and the
`receive` dictionary has a key for every sender whose message is pending — on these inputs
the code raises no `KeyError` (nor does it on a `send` addressed to the sender itself, which
`actsWF` excludes all the same); every action of the augmented action space is well formed,
`Props/C20.lean: augAct_wf`).
-/
namespace Abmarl
variable {α ω : Type}

/-- a Python dictionary: no key twice -/
def isDict {β : Type} (l : List (Aid × β)) : Bool := decide (l.map (·.1)).Nodup

/-- the sender `y` acted in this step and chose to send to `x` -/
def sentTo (acts : List (Aid × CAct α)) (y x : Aid) : Bool :=
  match acts.lookup y with
  | some a => (a.send.lookup x).getD false
  | none => false

/-- expected `message_buffer[x][y]` after the calls `past` (most recent call first) -/
def expBuffer : List (COp α) → Aid → Aid → Bool
  | [], _, _ => false
  | .reset :: _, _, _ => false
  | .getObs _ :: past, x, y => expBuffer past x y
  | .step acts :: _, x, y => sentTo acts y x

/-- expected `received_message[x][y]` (the fusion matrix) after the calls `past` -/
def expFuse : List (COp α) → Aid → Aid → Bool
  | [], _, _ => false
  | .reset :: _, _, _ => false
  | .getObs _ :: past, x, y => expFuse past x y
  | .step acts :: past, x, y =>
    match acts.lookup x with
    | some a => expBuffer past x y && (a.receive.lookup y).getD false
    | none => expFuse past x y

def actWF (n : Nat) (past : List (COp α)) (x : Aid) (a : CAct α) : Bool :=
  isDict a.send && a.send.all (fun q => decide (q.1 < n) && q.1 != x) &&
  (others n x).all (fun y => !expBuffer past x y || (a.receive.lookup y).isSome)

def actsWF (n : Nat) (past : List (COp α)) (acts : List (Aid × CAct α)) : Bool :=
  isDict acts && acts.all fun p => decide (p.1 < n) && actWF n past p.1 p.2

def opWF (n : Nat) (started : Bool) (past : List (COp α)) : COp α → Bool
  | .reset => true
  | .step acts => started && actsWF n past acts
  | .getObs a => started && decide (a < n)

def isReset : COp α → Bool
  | .reset => true
  | _ => false

/-- a matrix given pointwise, as the list of per-agent dictionaries the wrapper holds -/
def expRow (n : Nat) (f : Aid → Aid → Bool) (x : Aid) : Row := (others n x).map fun y => (y, f x y)
def expRows (n : Nat) (f : Aid → Aid → Bool) : List Row := (List.range n).map (expRow n f)

def allClear (rows : List Row) : Bool := rows.all fun r => r.all fun p => !p.2

def c20Entry [DecidableEq α] (n : Nat) (past : List (COp α)) (e : CEntry α ω) : Bool :=
  let now := e.op :: past
  -- buffer_iff / fuse_iff: the wrapper's two dictionaries after the call
  decide (e.buffer = expRows n (expBuffer now)) && decide (e.received = expRows n (expFuse now)) &&
  match e.op, e.res with
  | .reset, .resetOk =>
    -- nothing reaches the wrapped step/get_obs; both dictionaries are cleared
    e.simArgs.isNone && e.fusion.isNone && allClear e.buffer && allClear e.received
  | .step acts, .stepOk =>
    -- the wrapped simulation receives exactly the original `action` entries, in order
    decide (e.simArgs = some (simOnly acts)) && e.fusion.isNone
  | .getObs a, .obsOk o =>
    e.simArgs.isNone &&
    -- the wrapped get_obs is called with the expected fusion row of `a` …
    decide (e.fusion = some (expRow n (expFuse past) a)) &&
    -- … and the observation's message buffer is the expected row, which is the wrapper's own
    decide (o.buffer = expRow n (expBuffer past) a) && decide (e.buffer[a]? = some o.buffer)
  | _, _ => false

def c20Loop [DecidableEq α] (n : Nat) : Bool → List (COp α) → List (CEntry α ω) → Bool
  | _, _, [] => true
  | st, past, e :: es =>
    if !opWF n st past e.op then true
    else c20Entry n past e && c20Loop n (st || isReset e.op) (e.op :: past) es

def specC20 [DecidableEq α] (n : Nat) (tr : List (CEntry α ω)) : Bool := c20Loop n false [] tr

/-- a whole history stays inside the domain -/
def histWF (n : Nat) : Bool → List (COp α) → List (COp α) → Bool
  | _, _, [] => true
  | st, past, op :: ops => opWF n st past op && histWF n (st || isReset op) (op :: past) ops

end Abmarl
